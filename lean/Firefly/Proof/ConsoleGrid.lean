import Firefly.Proof.Console
import Firefly.Proof.VtCons
/-!
Lemmas for `C19.text_refines_grid` and `C19.pix_refines_grid`: the shipped consoles refine the
abstract cell-grid console of C18 (`Firefly.Term.Console`, `Spec/Term.lean`), whose operations
`Proof/VtCons.lean` gives as `Redraw`s (`write_in`, `fill_in`, `scrollUp_at`).  Everything here is
stated on framebuffer *views* (`Nat → α`) and the pointwise specifications of `Spec/Console.lean`;
`Props/C19.lean` combines it with the theorems of `Proof/ConsoleOps.lean` that the executable
models compute those specifications.
-/
namespace Firefly.ConsoleGrid
open Firefly Firefly.Vt Firefly.Term Firefly.VtCons Firefly.Spec.Console Firefly.ConsoleProof

/-- the direction constant of the terminal's `Scroll` calls is the models' "up" -/
theorem scrollUp_is_zero : Firefly.Gen.C17.scrollDirUp = 0 := by decide

/-- `D col r cell`: the framebuffer displays `cell` at `(col, r)`; `TextShows` and `PixShows` are of this shape. -/
theorem shows_step {cols rows : Nat} {D : Nat → Nat → Cell → Prop} {k k' : Console} {F : Nat → Nat → Cell}
    (hw : k.w = cols) (hh : k.h = rows)
    (hk : Redraw k k' F)
    (hcell : ∀ r col, r < rows → col < cols → D col r (F r col)) :
    (k'.w = cols ∧ k'.h = rows ∧ ∀ r col, r < k'.h → col < k'.w → D col r (k'.at r col)) ∧
      WF k' ∧ k'.outside = k.outside := by
  obtain ⟨w1, w2, w3, w4, w5⟩ := hk
  refine ⟨⟨w1.trans hw, w2.trans hh, fun r col hr hc => ?_⟩, w3, w4⟩
  rw [w2] at hr; rw [w1] at hc
  rw [w5 r col hr hc]
  exact hcell r col (hh ▸ hr) (hw ▸ hc)

theorem clip_in {n x w col : Nat} (h1 : 1 ≤ x) (h : x + w ≤ n + 1) (hc : col < n) :
    (clamp x n - 1 ≤ col ∧ col < min (clamp x n - 1 + w) n) ↔ (x ≤ col + 1 ∧ col + 1 < x + w) := by
  unfold clamp; split
  · omega
  · split <;> omega

theorem fillRect_in {cols rows x y w h col r : Nat} (hin : 1 ≤ x ∧ 1 ≤ y ∧ x + w ≤ cols + 1 ∧ y + h ≤ rows + 1)
    (hc : col < cols) (hr : r < rows) :
    ((fillRect cols rows x y w h).x0 ≤ col ∧ col < (fillRect cols rows x y w h).x1 ∧
      (fillRect cols rows x y w h).y0 ≤ r ∧ r < (fillRect cols rows x y w h).y1) ↔
    (y ≤ r + 1 ∧ r + 1 < y + h ∧ x ≤ col + 1 ∧ col + 1 < x + w) :=
  and_assoc.symm.trans ((and_congr (clip_in hin.1 hin.2.2.1 hc) (clip_in hin.2.1 hin.2.2.2 hr)).trans (and_comm.trans and_assoc))

section Text
open VgaText

def cellWordOf (cell : Cell) : UInt16 := cellWord cell.ch.toNat cell.fg.toNat cell.bg.toNat

/-- the text framebuffer `v` displays the abstract console `k`: same shape, and every cell holds
the character/attribute word of the abstract cell -/
def TextShows (c : Cons) (v : Nat → UInt16) (k : Console) : Prop :=
  k.w = c.width ∧ k.h = c.height ∧
  ∀ r col, r < k.h → col < k.w → v (r * c.width + col) = cellWordOf (k.at r col)

theorem text_write_shows (c : Cons) (v : Nat → UInt16) (k : Console) (wf : WF k) (sh : TextShows c v k)
    (ch fg bg : UInt8) (x y : Nat) (hin : 1 ≤ x ∧ x ≤ k.w ∧ 1 ≤ y ∧ y ≤ k.h)
    (hcol : fg.toNat ≤ c.paletteLen - 1 ∧ bg.toNat ≤ c.paletteLen - 1) :
    TextShows c (textWrite c v ch.toNat fg.toNat bg.toNat x y) (k.write ch fg bg x y) ∧
      WF (k.write ch fg bg x y) ∧ (k.write ch fg bg x y).outside = k.outside := by
  obtain ⟨hw, hh, hv⟩ := sh
  refine shows_step (D := fun col r cell => textWrite c v ch.toNat fg.toNat bg.toNat x y (r * c.width + col) = cellWordOf cell)
    hw hh (write_in wf ch fg bg ⟨hin.1, hin.2.1⟩ ⟨hin.2.2.1, hin.2.2.2⟩) (fun r col hr hc => ?_)
  simp only [textWrite, textColor]
  by_cases hcell : r = y - 1 ∧ col = x - 1
  · have hidx : 1 ≤ x ∧ x ≤ c.width ∧ 1 ≤ y ∧ y ≤ c.height ∧ r * c.width + col = (y - 1) * c.width + (x - 1) := by
      rw [hcell.1, hcell.2]; omega
    rw [if_pos hidx, if_pos hcell, if_neg (by omega), if_neg (by omega)]
    rfl
  · have hidx : ¬ (1 ≤ x ∧ x ≤ c.width ∧ 1 ≤ y ∧ y ≤ c.height ∧ r * c.width + col = (y - 1) * c.width + (x - 1)) :=
      fun hh' => hcell (cell_inj hc (by omega) hh'.2.2.2.2)
    rw [if_neg hidx, if_neg hcell]
    exact hv r col (hh ▸ hr) (hw ▸ hc)

theorem text_fill_shows (c : Cons) (v : Nat → UInt16) (k : Console) (wf : WF k) (sh : TextShows c v k)
    (x y fw fh : Nat) (fg bg : UInt8) (hin : 1 ≤ x ∧ 1 ≤ y ∧ x + fw ≤ k.w + 1 ∧ y + fh ≤ k.h + 1)
    (hclear : c.clearChar = 32) :
    TextShows c (textFill c v x y fw fh fg.toNat bg.toNat) (k.fill x y fw fh fg bg) ∧
      WF (k.fill x y fw fh fg bg) ∧ (k.fill x y fw fh fg bg).outside = k.outside := by
  obtain ⟨hw, hh, hv⟩ := sh
  refine shows_step (D := fun col r cell => textFill c v x y fw fh fg.toNat bg.toNat (r * c.width + col) = cellWordOf cell)
    hw hh (fill_in wf fg bg hin) (fun r col hr hc => ?_)
  obtain ⟨d1, d2⟩ := @cell_div_mod c.width r col hc
  have hrect := @fillRect_in c.width c.height x y fw fh col r (hw ▸ hh ▸ hin) hc hr
  simp only [textFill, d1, d2]
  by_cases hcell : y ≤ r + 1 ∧ r + 1 < y + fh ∧ x ≤ col + 1 ∧ col + 1 < x + fw
  · rw [if_pos hcell, if_pos ⟨cell_lt hr hc, hrect.2 hcell⟩, hclear]; rfl
  · rw [if_neg hcell, if_neg (fun hh' => hcell (hrect.1 hh'.2))]
    exact hv r col (hh ▸ hr) (hw ▸ hc)

theorem text_scroll_shows (c : Cons) (v : Nat → UInt16) (k : Console) (wf : WF k) (sh : TextShows c v k)
    (n : Nat) (hn : 1 ≤ n ∧ n ≤ k.h) :
    TextShows c (textScroll c v 0 n) (k.scrollUp n) ∧ WF (k.scrollUp n) ∧ (k.scrollUp n).outside = k.outside := by
  obtain ⟨hw, hh, hv⟩ := sh
  refine shows_step (D := fun col r cell => textScroll c v 0 n (r * c.width + col) = cellWordOf cell)
    hw hh (scrollUp_at wf hn) (fun r col hr hc => ?_)
  have hW : 0 < c.width := by omega
  simp only [textScroll]
  rw [if_pos (by omega), if_pos trivial]
  have hiff : r * c.width + col < (c.height - n) * c.width ↔ r + n < k.h := by
    rw [← Nat.div_lt_iff_lt_mul hW, (cell_div_mod hc).1]; omega
  by_cases hmv : r + n < k.h
  · rw [if_pos (hiff.2 hmv), if_pos hmv, show r * c.width + col + n * c.width = (r + n) * c.width + col by
      rw [Nat.add_mul]; omega]
    exact hv (r + n) col hmv (hw ▸ hc)
  · rw [if_neg (fun h => hmv (hiff.1 h)), if_neg hmv]
    exact hv r col (hh ▸ hr) (hw ▸ hc)

end Text

section Pixel
open VesaFb

/-- index `i` lies in the pixel rectangle of cell `(x, y)` (1-based) -/
def inCell (c : Cons) (f : Font) (x y i : Nat) : Prop :=
  c.offsetY + (y - 1) * f.gh ≤ i / c.pitch ∧ i / c.pitch < c.offsetY + y * f.gh ∧
  (x - 1) * f.gw ≤ i % c.pitch / c.bytesPerPixel ∧ i % c.pitch / c.bytesPerPixel < x * f.gw

instance (c : Cons) (f : Font) (x y i : Nat) : Decidable (inCell c f x y i) := by
  unfold inCell; infer_instance

/-- the byte that cell content `cell`, displayed at `(x, y)`, puts at index `i` (`none`: that byte
of the pixel is not stored, e.g. the fourth byte of a 32-bit pixel) -/
def cellByte (c : Cons) (f : Font) (cell : Cell) (x y i : Nat) : Option UInt8 :=
  (if glyphBit f cell.ch.toNat (i % c.pitch / c.bytesPerPixel - (x - 1) * f.gw)
        (i / c.pitch - (c.offsetY + (y - 1) * f.gh)) = true
    then colorBytes c cell.fg.toNat else colorBytes c cell.bg.toNat)[i % c.pitch % c.bytesPerPixel]?

/-- cell `(x, y)` of the framebuffer `v` displays `cell`: glyph bits in the packed foreground, the
rest in the packed background -/
def CellShows (c : Cons) (f : Font) (v : Nat → UInt8) (x y : Nat) (cell : Cell) : Prop :=
  ∀ i, inCell c f x y i → ∀ b, cellByte c f cell x y i = some b → v i = b

/-- the pixel framebuffer `v` displays the abstract console `k`: same shape, and every cell shows the abstract
cell.  `k.at r col` is 0-based as in `TextShows`; `CellShows`, `inCell` and `cellByte` take the 1-based
coordinates of the console calls, hence `col + 1`, `r + 1`. -/
def PixShows (c : Cons) (f : Font) (v : Nat → UInt8) (k : Console) : Prop :=
  k.w = c.cols ∧ k.h = c.rows ∧
  ∀ r col, r < k.h → col < k.w → CellShows c f v (col + 1) (r + 1) (k.at r col)

theorem pixWrite_eq (c : Cons) (f : Font) (v : Nat → UInt8) (ch fg bg : UInt8) (x y i : Nat)
    (hin : 1 ≤ x ∧ x ≤ c.cols ∧ 1 ≤ y ∧ y ≤ c.rows) :
    pixWrite c f v ch.toNat fg.toNat bg.toNat x y i =
      if inCell c f x y i then (cellByte c f ⟨ch, fg, bg⟩ x y i).getD (v i) else v i := by
  simp only [pixWrite, if_pos hin, paint, inCell, cellByte]
  split
  · split
    · rename_i h; rw [h]; rfl
    · rename_i h; rw [h]; rfl
  · rfl

theorem cell_unique {c : Cons} {f : Font} {x y x' y' i : Nat} (hx : 1 ≤ x) (hy : 1 ≤ y) (hx' : 1 ≤ x') (hy' : 1 ≤ y')
    (h : inCell c f x y i) (h' : inCell c f x' y' i) : x = x' ∧ y = y' := by
  obtain ⟨a1, a2, a3, a4⟩ := h
  obtain ⟨b1, b2, b3, b4⟩ := h'
  have p1 : x - 1 < x' := Nat.lt_of_mul_lt_mul_right (Nat.lt_of_le_of_lt a3 b4)
  have p2 : x' - 1 < x := Nat.lt_of_mul_lt_mul_right (Nat.lt_of_le_of_lt b3 a4)
  have q1 : y - 1 < y' := Nat.lt_of_mul_lt_mul_right (a := f.gh) (by omega)
  have q2 : y' - 1 < y := Nat.lt_of_mul_lt_mul_right (a := f.gh) (by omega)
  omega

theorem pix_write_shows (c : Cons) (f : Font) (v : Nat → UInt8) (k : Console) (wf : WF k) (sh : PixShows c f v k)
    (ch fg bg : UInt8) (x y : Nat) (hin : 1 ≤ x ∧ x ≤ k.w ∧ 1 ≤ y ∧ y ≤ k.h) :
    PixShows c f (pixWrite c f v ch.toNat fg.toNat bg.toNat x y) (k.write ch fg bg x y) ∧
      WF (k.write ch fg bg x y) ∧ (k.write ch fg bg x y).outside = k.outside := by
  obtain ⟨hw, hh, hv⟩ := sh
  have hin' : 1 ≤ x ∧ x ≤ c.cols ∧ 1 ≤ y ∧ y ≤ c.rows := hw ▸ hh ▸ hin
  refine shows_step (D := fun col r cell => CellShows c f (pixWrite c f v ch.toNat fg.toNat bg.toNat x y) (col + 1) (r + 1) cell)
    hw hh (write_in wf ch fg bg ⟨hin.1, hin.2.1⟩ ⟨hin.2.2.1, hin.2.2.2⟩) (fun r col hr hc i hi b hb => ?_)
  rw [pixWrite_eq c f v ch fg bg x y i hin']
  by_cases hcell : r = y - 1 ∧ col = x - 1
  · rw [if_pos hcell] at hb
    rw [show col + 1 = x by omega, show r + 1 = y by omega] at hi hb
    rw [if_pos hi, hb]; rfl
  · -- a byte of another cell lies in no other cell's rectangle
    rw [if_neg hcell] at hb
    rw [if_neg fun h => hcell (by have := cell_unique (Nat.succ_pos col) (Nat.succ_pos r) hin.1 hin.2.2.1 hi h; omega)]
    exact hv r col (hh ▸ hr) (hw ▸ hc) i hi b hb

/-- glyph 0x20 has no bit set (generated fact for the shipped fonts: `Gen.C19.fonts`) -/
def SpaceBlank (f : Font) : Prop := ∀ px py, px < f.gw → py < f.gh → glyphBit f 32 px py = false

theorem pixFill_cell (c : Cons) (f : Font) (hsp : SpaceBlank f) (v : Nat → UInt8)
    (x y fw fh : Nat) (fg bg : UInt8) (hin : 1 ≤ x ∧ 1 ≤ y ∧ x + fw ≤ c.cols + 1 ∧ y + fh ≤ c.rows + 1)
    (r col : Nat) (hr : r < c.rows) (hc : col < c.cols) (cell : Cell)
    (hcell : if y ≤ r + 1 ∧ r + 1 < y + fh ∧ x ≤ col + 1 ∧ col + 1 < x + fw then cell = ⟨32, fg, bg⟩
             else CellShows c f v (col + 1) (r + 1) cell) :
    CellShows c f (pixFill c f v x y fw fh bg.toNat) (col + 1) (r + 1) cell := by
  intro i hi b hb
  obtain ⟨a1, a2, a3, a4⟩ := hi
  simp only [Nat.add_sub_cancel] at a1 a3
  -- one dimension at a time: pixel rows to text lines to the lines of the fill, and the same for columns
  have hX := @scaled_mem f.gw col (i % c.pitch / c.bytesPerPixel) (clamp x c.cols - 1) (min (clamp x c.cols - 1 + fw) c.cols) a3 a4
  have hY := @scaled_mem_off c.offsetY f.gh r (i / c.pitch) (clamp y c.rows - 1) (min (clamp y c.rows - 1 + fh) c.rows) a1 a2
  have hrect := and_assoc.symm.trans ((and_congr (hY.1.trans (clip_in hin.2.1 hin.2.2.2 hr))
    (hX.1.trans (clip_in hin.1 hin.2.2.1 hc))).trans and_assoc)
  simp only [pixFill, fillRect, paint]
  by_cases hin' : y ≤ r + 1 ∧ r + 1 < y + fh ∧ x ≤ col + 1 ∧ col + 1 < x + fw
  · rw [if_pos hin'] at hcell
    subst hcell
    rw [if_pos (hrect.2 hin')]
    -- a blank glyph: every pixel is background
    simp only [cellByte, Nat.add_sub_cancel] at hb
    rw [show ((32 : UInt8).toNat) = 32 from rfl, hsp _ _ hX.2 hY.2] at hb
    simp only [Bool.false_eq_true, if_false] at hb
    rw [hb]
  · rw [if_neg hin'] at hcell
    rw [if_neg fun q => hin' (hrect.1 q)]
    exact hcell i ⟨by simpa using a1, a2, by simpa using a3, a4⟩ b hb

theorem pix_fill_shows (c : Cons) (f : Font) (hsp : SpaceBlank f) (v : Nat → UInt8) (k : Console) (wf : WF k)
    (sh : PixShows c f v k) (x y fw fh : Nat) (fg bg : UInt8)
    (hin : 1 ≤ x ∧ 1 ≤ y ∧ x + fw ≤ k.w + 1 ∧ y + fh ≤ k.h + 1) :
    PixShows c f (pixFill c f v x y fw fh bg.toNat) (k.fill x y fw fh fg bg) ∧
      WF (k.fill x y fw fh fg bg) ∧ (k.fill x y fw fh fg bg).outside = k.outside := by
  obtain ⟨hw, hh, hv⟩ := sh
  refine shows_step (D := fun col r cell => CellShows c f (pixFill c f v x y fw fh bg.toNat) (col + 1) (r + 1) cell)
    hw hh (fill_in wf fg bg hin) (fun r col hr hc => ?_)
  apply pixFill_cell c f hsp v x y fw fh fg bg (hw ▸ hh ▸ hin) r col hr hc
  split
  · rfl
  · exact hv r col (hh ▸ hr) (hw ▸ hc)

theorem inCell_shift {c : Cons} {f : Font} (hp : 0 < c.pitch) {x y n i : Nat} (hy : 1 ≤ y) (h : inCell c f x y i) :
    inCell c f x (y + n) (i + n * f.gh * c.pitch) ∧
      ∀ cell, cellByte c f cell x (y + n) (i + n * f.gh * c.pitch) = cellByte c f cell x y i := by
  obtain ⟨d1, d2⟩ := shift_div_mod hp i (n * f.gh)
  obtain ⟨a1, a2, a3, a4⟩ := h
  have e1 : (y + n) * f.gh = y * f.gh + n * f.gh := Nat.add_mul ..
  have e2 : (y + n - 1) * f.gh = (y - 1) * f.gh + n * f.gh := by
    rw [show y + n - 1 = (y - 1) + n by omega, Nat.add_mul]
  refine ⟨⟨by rw [d1, e2, ← Nat.add_assoc]; exact Nat.add_le_add_right a1 _,
    by rw [d1, e1, ← Nat.add_assoc]; exact Nat.add_lt_add_right a2 _, by rw [d2]; exact a3, by rw [d2]; exact a4⟩,
    fun cell => ?_⟩
  unfold cellByte
  rw [d1, d2, e2, ← Nat.add_assoc, Nat.add_sub_add_right]

theorem pixScroll_up (c : Cons) (f : Font) (v : Nat → UInt8) (n i : Nat) :
    pixScroll c f v 0 n i =
      if 1 ≤ n ∧ n ≤ c.rows ∧ i % c.pitch < c.width * c.bytesPerPixel ∧ c.offsetY ≤ i / c.pitch ∧
          i / c.pitch + n * f.gh < c.height then v (i + n * f.gh * c.pitch) else v i := by
  simp only [pixScroll]
  by_cases h : 1 ≤ n ∧ n ≤ c.rows ∧ i % c.pitch < c.width * c.bytesPerPixel
  · rw [if_pos h, if_pos trivial]
    exact ite_congr (propext ⟨fun q => ⟨h.1, h.2.1, h.2.2, q.1, q.2⟩, fun q => ⟨q.2.2.2.1, q.2.2.2.2⟩⟩) (fun _ => rfl) (fun _ => rfl)
  · rw [if_neg h, if_neg fun q => h ⟨q.1, q.2.1, q.2.2.1⟩]

theorem scroll_cell_moved (c : Cons) (f : Font) (g : Geo c f) (v : Nat → UInt8) (n x y : Nat) (cell : Cell)
    (hn : 1 ≤ n ∧ n ≤ c.rows) (hx : 1 ≤ x ∧ x ≤ c.cols) (hy : 1 ≤ y ∧ y + n ≤ c.rows)
    (sh : CellShows c f v x (y + n) cell) :
    CellShows c f (pixScroll c f v 0 n) x y cell := by
  intro i hi b hb
  obtain ⟨s1, s2⟩ := inCell_shift g.pitch1 (n := n) hy.1 hi
  obtain ⟨a1, a2, a3, a4⟩ := hi
  have m1 : x * f.gw ≤ c.cols * f.gw := Nat.mul_le_mul_right _ hx.2
  have m2 : (y + n) * f.gh ≤ c.rows * f.gh := Nat.mul_le_mul_right _ hy.2
  rw [Nat.add_mul] at m2
  have hbw : i % c.pitch < c.width * c.bytesPerPixel :=
    (Nat.div_lt_iff_lt_mul g.bpp1).1 (Nat.lt_of_lt_of_le a4 (Nat.le_trans m1 g.colsw))
  have := g.rowsh
  -- the byte is read from the same place of the cell `n` lines below
  rw [pixScroll_up, if_pos ⟨hn.1, hn.2, hbw, by omega, by omega⟩]
  exact sh _ s1 b ((s2 cell).trans hb)

theorem scroll_cell_kept (c : Cons) (f : Font) (hfit : c.offsetY + c.rows * f.gh = c.height)
    (v : Nat → UInt8) (n x y : Nat) (cell : Cell)
    (hn : 1 ≤ n ∧ n ≤ c.rows) (hy : 1 ≤ y ∧ y ≤ c.rows ∧ c.rows < y + n)
    (sh : CellShows c f v x y cell) :
    CellShows c f (pixScroll c f v 0 n) x y cell := by
  intro i hi b hb
  have m1 : (c.rows - n) * f.gh ≤ (y - 1) * f.gh := Nat.mul_le_mul_right _ (by omega)
  have e1 : (c.rows - n) * f.gh + n * f.gh = c.rows * f.gh := by rw [← Nat.add_mul, Nat.sub_add_cancel hn.2]
  have a1 := hi.1
  rw [pixScroll_up, if_neg fun q => by omega]
  exact sh i hi b hb

/-- whatever the height of the text area, every line that receives another line's contents
displays it (the last `n` lines are the caller's to repaint) -/
theorem pix_scroll_shows_moved (c : Cons) (f : Font) (g : Geo c f)
    (v : Nat → UInt8) (k : Console) (sh : PixShows c f v k) (n : Nat) (hn : 1 ≤ n ∧ n ≤ k.h) :
    ∀ r col, r + n < k.h → col < k.w → CellShows c f (pixScroll c f v 0 n) (col + 1) (r + 1) (k.at (r + n) col) := by
  obtain ⟨hw, hh, hv⟩ := sh
  intro r col hmv hc
  have := hv (r + n) col hmv hc
  rw [show r + n + 1 = r + 1 + n by omega] at this
  exact scroll_cell_moved c f g v n (col + 1) (r + 1) _ (by omega) (by omega) (by omega) this

theorem pix_scroll_shows (c : Cons) (f : Font) (g : Geo c f) (hfit : c.offsetY + c.rows * f.gh = c.height)
    (v : Nat → UInt8) (k : Console) (wf : WF k) (sh : PixShows c f v k) (n : Nat) (hn : 1 ≤ n ∧ n ≤ k.h) :
    PixShows c f (pixScroll c f v 0 n) (k.scrollUp n) ∧ WF (k.scrollUp n) ∧ (k.scrollUp n).outside = k.outside := by
  obtain ⟨hw, hh, hv⟩ := sh
  refine shows_step (D := fun col r cell => CellShows c f (pixScroll c f v 0 n) (col + 1) (r + 1) cell)
    hw hh (scrollUp_at wf hn) (fun r col hr hc => ?_)
  by_cases hmv : r + n < k.h
  · rw [if_pos hmv]
    exact pix_scroll_shows_moved c f g v k ⟨hw, hh, hv⟩ n hn r col hmv (hw ▸ hc)
  · rw [if_neg hmv]
    exact scroll_cell_kept c f hfit v n (col + 1) (r + 1) _ (by omega) (by omega) (hv r col (hh ▸ hr) (hw ▸ hc))

theorem inCell_lt {c : Cons} {f : Font} (g : Geo c f) {x y i : Nat} (hy : y ≤ c.rows)
    (hi : inCell c f x y i) : i < c.height * c.pitch := by
  have m : y * f.gh ≤ c.rows * f.gh := Nat.mul_le_mul_right _ hy
  have := g.rowsh
  exact (Nat.div_lt_iff_lt_mul g.pitch1).1 (by have := hi.2.1; omega)

theorem pixShows_congr (c : Cons) (f : Font) (g : Geo c f) (v v' : Nat → UInt8) (k : Console)
    (h : ∀ i, i < c.height * c.pitch → v' i = v i) (sh : PixShows c f v k) : PixShows c f v' k := by
  obtain ⟨hw, hh, hv⟩ := sh
  refine ⟨hw, hh, fun r col hr hc i hi b hb => ?_⟩
  rw [h i (inCell_lt g (by omega) hi)]
  exact hv r col hr hc i hi b hb

end Pixel

/-- `Shows s k`: the driver state `s` displays the abstract console `k`.  The call log is newest first, as
`VT.out` keeps it: hence the `foldr`. -/
theorem log_induct {σ : Type} {apply : σ → Call → Option σ} {Ok : σ → Prop} {Shows : σ → Console → Prop}
    {Good : Call → Prop} {W H : Nat} (hdim : ∀ s k, Shows s k → k.w = W ∧ k.h = H)
    (step : ∀ s k call, Ok s → WF k → Shows s k → CallOk k.w k.h call → Good call →
      ∃ s', apply s call = some s' ∧ Ok s' ∧ Shows s' (k.apply call) ∧ WF (k.apply call) ∧
        (k.apply call).outside = k.outside)
    (log : List Call) :
    ∀ (s : σ) (k : Console), Ok s → WF k → Shows s k → (∀ call ∈ log, CallOk k.w k.h call ∧ Good call) →
      ∃ s', log.foldr (fun call acc => acc.bind fun s => apply s call) (some s) = some s' ∧ Ok s' ∧
        Shows s' (k.applyLog log) ∧ WF (k.applyLog log) ∧ (k.applyLog log).outside = k.outside := by
  induction log with
  | nil => intro s k ok wf sh _; exact ⟨s, rfl, ok, sh, wf, rfl⟩
  | cons call rest ih =>
    intro s k ok wf sh hall
    obtain ⟨s1, r1, ok1, sh1, wf1, o1⟩ := ih s k ok wf sh (fun c hc => hall c (List.mem_cons_of_mem _ hc))
    have hc := hall call (List.mem_cons_self ..)
    obtain ⟨d1, d2⟩ := hdim _ _ sh
    obtain ⟨e1, e2⟩ := hdim _ _ sh1
    obtain ⟨s2, r2, ok2, sh2, wf2, o2⟩ := step s1 (k.applyLog rest) call ok1 wf1 sh1
      (by rw [e1, e2, ← d1, ← d2]; exact hc.1) hc.2
    refine ⟨s2, ?_, ok2, sh2, wf2, o2.trans o1⟩
    rw [List.foldr_cons, r1]; exact r2

end Firefly.ConsoleGrid
