import Firefly.Model.AmlParser
/-!
Facts about the generated opcode table (`Gen/C12.lean`), on the model alone: `InfoOK`, a row index that exists, and what the
total-correctness proof of the first pass needs of the rows: every row an input opcode can select has its `TermList` argument
behind a leading `PkgLen`, its `FieldList` argument directly behind a `ByteData` argument, its `ByteList` argument directly
behind a `TermArg`, and at most seven arguments; the opcodes `parseTarget` accepts have no `FieldList`.  The kernel checks each
in one pass along the table or along the two opcode maps; `inv_of_rows`, `index_list` and `pairwise_lt_of_steps` bring the checks
of `C12.opcode_table_sane` into that form.
-/

namespace Firefly.AmlParser
open Firefly.AmlLex Firefly.AmlTree
open Firefly.Gen.C12

/-- `pOpcodeTable[i]` exists -/
def InfoOK (i : Nat) : Prop := (opFlags i).isSome = true

/-- `pOpcodeTable[i].argFlags.argCount()` of a row that exists -/
def argCnt (i : Nat) : Nat := (opArgCount i).getD 0
/-- `pOpcodeTable[i].argFlags.arg(k)` of a row that exists -/
def argAt (i k : Nat) : Nat := (opArg i k).getD 0

theorem row_of_info {i : Nat} (h : InfoOK i) : ∃ e, opcodeTable[i]? = some e := by
  unfold InfoOK opFlags at h
  cases hc : opcodeTable[i]? with
  | none => rw [hc] at h; cases h
  | some e => exact ⟨e, rfl⟩

theorem opArgCount_of_info {i : Nat} (h : InfoOK i) : opArgCount i = some (argCnt i) := by
  obtain ⟨e, he⟩ := row_of_info h
  simp only [argCnt, opArgCount, he]; rfl

theorem opArg_of_info {i : Nat} (h : InfoOK i) (k : Nat) : opArg i k = some (argAt i k) := by
  obtain ⟨e, he⟩ := row_of_info h
  simp only [argAt, opArg, he]; rfl

theorem opFlags_of_info {i : Nat} (h : InfoOK i) : ∃ fl, opFlags i = some fl := by
  obtain ⟨e, he⟩ := row_of_info h
  exact ⟨_, by simp only [opFlags, he]; rfl⟩

/-- the shape of row `i` the first pass relies on -/
def rowFacts (i : Nat) : Bool :=
  decide (argCnt i ≤ 7) &&
  (List.range 8).all fun j =>
    (argAt i j != argTypeTermList || (decide (1 ≤ j) && argAt i 0 == argTypePkgLen)) &&
    (argAt i j != argTypeFieldList || (decide (1 ≤ j) && argAt i (j - 1) == argTypeByteData)) &&
    (argAt i j != argTypeByteList || (decide (1 ≤ j) && argAt i (j - 1) == argTypeTermArg))

def tlFrom (i j : Nat) : Bool := (List.range 8).any fun k => decide (j ≤ k) && argAt i k == argTypeTermList

def noFL (i : Nat) : Bool := (List.range 8).all fun j => argAt i j != argTypeFieldList

/-- the opcodes `parseTarget` accepts -/
def isTargetOp (op : Nat) : Bool :=
  pOpIsArg op || op == opRefOf || op == opDerefOf || op == opIndex || op == opDebug

/-- `rowFacts`, read off the row itself -/
def rowOK (e : Nat × Nat × Nat × Nat × List Nat) : Bool :=
  decide (e.2.2.2.1 ≤ 7) &&
  (List.range 8).all fun j =>
    (e.2.2.2.2.getD j 0 != argTypeTermList || (decide (1 ≤ j) && e.2.2.2.2.getD 0 0 == argTypePkgLen)) &&
    (e.2.2.2.2.getD j 0 != argTypeFieldList || (decide (1 ≤ j) && e.2.2.2.2.getD (j - 1) 0 == argTypeByteData)) &&
    (e.2.2.2.2.getD j 0 != argTypeByteList || (decide (1 ≤ j) && e.2.2.2.2.getD (j - 1) 0 == argTypeTermArg))

theorem rowFacts_of_row {i : Nat} {e : Nat × Nat × Nat × Nat × List Nat} (h : opcodeTable[i]? = some e) :
    rowFacts i = rowOK e := by
  simp only [rowFacts, rowOK, argCnt, argAt, opArgCount, opArg, h, Option.map_some, Option.getD_some]

/-- One pass along the table: `rowFacts` is a fact about rows, not about the opcodes that select them.  It holds of the
113 rows an opcode of the input can select (the row of the internal scope block, a bare `TermList`, is the one exception). -/
theorem rows_ok : (opcodeTable.toList.take 113).all rowOK = true := by decide +kernel

theorem rowFacts_of_lt {i : Nat} (h : i < 113) : rowFacts i = true := by
  have hs : 113 ≤ opcodeTable.size := by decide +kernel
  have he : opcodeTable[i]? = some opcodeTable[i] := Array.getElem?_eq_getElem (by omega)
  rw [rowFacts_of_row he]
  refine List.all_eq_true.mp rows_ok _ (List.mem_iff_getElem?.mpr ⟨i, ?_⟩)
  rw [List.getElem?_take_of_lt h, Array.getElem?_toList, he]

/-- what the first pass needs of table index `idx`, found for opcode `op`, besides the row facts -/
def goodOp (idx op : Nat) : Bool :=
  idx == badOpcode || (decide (idx < 113) && (!isTargetOp op || noFL idx))

/-- A pass along an array literal speaks for every `getD`: `p` checked of every entry together with its position (counted
from `k`) holds of `a.getD n d` at `k + n`, the default being covered by `hd`.  The kernel evaluates the pass in linear time;
indexing a 256-entry literal 256 times is what costs. -/
theorem zipIdx_all_getD {α : Type} {a : Array α} {k : Nat} {p : α → Nat → Bool}
    (h : (a.toList.zipIdx k).all (fun xi => p xi.1 xi.2) = true) (d : α) {n : Nat} (hd : a.size ≤ n → p d (k + n) = true) :
    p (a.getD n d) (k + n) = true := by
  by_cases hn : n < a.size
  · rw [Array.getD, dif_pos hn]
    exact List.all_eq_true.mp h (a[n], k + n) (List.mem_zipIdx_iff_le_and_getElem?_sub.mpr (by simp [hn]))
  · rw [Array.getD, dif_neg hn]; exact hd (Nat.le_of_not_lt hn)

/-- One pass over each of the two opcode maps: looking every opcode up with `pOpcodeTableIndex` would walk the
256-entry literals a thousand times. -/
theorem opChecks_true :
    (opcodeMap.toList.zipIdx 0).all (fun xi => goodOp xi.1 xi.2) = true ∧
    (extendedOpcodeMap.toList.zipIdx 0xff).all (fun xi => goodOp xi.1 xi.2) = true := by
  decide +kernel

theorem index_ext {op : Nat} (h : ¬op ≤ 0xff) (b : Bool) : pOpcodeTableIndex op b =
    if extendedOpcodeMap.getD (op - 0xff) badOpcode = badOpcode ∧ b = true then
      (opcodeTable.size + op + 512 - 0x1fe) % 256
    else extendedOpcodeMap.getD (op - 0xff) badOpcode := if_neg h

theorem goodOp_index (op : Nat) : goodOp (pOpcodeTableIndex op false) op = true := by
  have hbad : ∀ op, goodOp badOpcode op = true := fun _ => rfl
  by_cases h : op ≤ 0xff
  · have := zipIdx_all_getD opChecks_true.1 badOpcode (n := op) fun _ => hbad _
    rwa [Nat.zero_add, ← (if_pos h : pOpcodeTableIndex op false = _)] at this
  · have := zipIdx_all_getD opChecks_true.2 badOpcode (n := op - 0xff) fun _ => hbad _
    rw [index_ext h, if_neg fun h => nomatch h.2]
    rwa [show 0xff + (op - 0xff) = op by omega] at this

theorem all_range_getD {α : Type} {a : Array α} {n : Nat} (hn : a.size = n) (d : α) (p : Nat → α → Bool)
    (h : a.toList.zipIdx.all (fun xi => p xi.2 xi.1) = true) :
    (List.range n).all (fun i => p i (a.getD i d)) = true :=
  List.all_eq_true.mpr fun i hi => by
    have := zipIdx_all_getD (p := fun x i => p i x) h d (n := i) fun hs => absurd (List.mem_range.mp hi) (by omega)
    rwa [Nat.zero_add] at this

/-- a map from opcodes to table rows checked against the rows: its entries other than `badOpcode`, in order, name the rows
`k0 … k0+k-1` in order, and row `x` carries the opcode `g i` of the entry `i` that names it (one pass along map and table) -/
theorem inv_of_rows {m : Array Nat} {k0 k : Nat} {g : Nat → Nat}
    (h : ((m.toList.zipIdx.filter fun xi => xi.1 != badOpcode).map fun xi => (g xi.2, xi.1)) =
      ((opcodeTable.toList.map (·.1)).zipIdx.drop k0).take k) :
    m.toList.zipIdx.all (fun xi => xi.1 == badOpcode || (opcodeTable[xi.1]?).map (·.1) == some (g xi.2)) = true := by
  rw [List.all_eq_true]
  intro xi hxi
  by_cases hb : xi.1 = badOpcode
  · simp [hb]
  · have hm : (g xi.2, xi.1) ∈ (opcodeTable.toList.map (·.1)).zipIdx :=
      List.mem_of_mem_drop (List.mem_of_mem_take (h ▸ List.mem_map.mpr ⟨xi, List.mem_filter.mpr ⟨hxi, by simpa using hb⟩, rfl⟩))
    have := List.mem_zipIdx_iff_getElem?.mp hm
    simp only [List.getElem?_map, Array.getElem?_toList] at this
    simp [this]

theorem index_list (b : Bool) :
    (List.range 0x1ff).map (fun op => pOpcodeTableIndex op b) =
      opcodeMap.toList ++ (extendedOpcodeMap.toList.zipIdx.tail.map fun xi =>
        if xi.1 = badOpcode ∧ b then (opcodeTable.size + (0xff + xi.2) + 512 - 0x1fe) % 256 else xi.1) := by
  have h1 : opcodeMap.size = 256 := by decide +kernel
  have h2 : extendedOpcodeMap.size = 256 := by decide +kernel
  unfold pOpcodeTableIndex
  generalize opcodeMap = m, extendedOpcodeMap = e, opcodeTable.size = n at h1 h2 ⊢
  apply List.ext_getElem
  · simp [h1, h2]
  · intro i hi _
    simp only [List.length_map, List.length_range] at hi
    simp only [List.getElem_map, List.getElem_range]
    by_cases h : i ≤ 0xff
    · rw [if_pos h, List.getElem_append_left (by simp [h1]; omega), Array.getD, dif_pos (by omega)]
      rfl
    · have e1 : i - 0xff = i - 256 + 1 := by omega
      have e2 : 0xff + (0 + (i - 256 + 1)) = i := by omega
      rw [if_neg h, List.getElem_append_right (by simp [h1]; omega), e1]
      simp only [List.getElem_map, List.getElem_tail, List.getElem_zipIdx, Array.length_toList, h1, e2,
        Array.getElem_toList]
      rw [Array.getD, dif_pos (by omega)]
      rfl

theorem pairwise_lt_of_steps : ∀ l : List Nat,
    (l.zip l.tail).all (fun p => decide (p.1 < p.2)) = true → l.Pairwise (· < ·)
  | [], _ => .nil
  | [_], _ => List.pairwise_singleton _ _
  | a :: b :: l, h => by
    simp only [List.tail_cons, List.zip_cons_cons, List.all_cons, Bool.and_eq_true, decide_eq_true_eq] at h
    have ih := pairwise_lt_of_steps (b :: l) h.2
    refine List.pairwise_cons.mpr ⟨fun x hx => ?_, ih⟩
    rcases List.mem_cons.mp hx with rfl | hx
    · exact h.1
    · exact Nat.lt_trans h.1 (List.rel_of_pairwise_cons ih hx)

theorem index_internal {op : Nat} (hb : pOpcodeTableIndex op false ≠ badOpcode) :
    pOpcodeTableIndex op true = pOpcodeTableIndex op false := by
  by_cases h : op ≤ 0xff
  · exact (if_pos h).trans (if_pos h).symm
  · rw [index_ext h, if_neg fun h => nomatch h.2] at hb
    rw [index_ext h, index_ext h, if_neg fun h => hb h.1, if_neg fun h => nomatch h.2]

theorem op_facts {op : Nat} (hb : pOpcodeTableIndex op false ≠ badOpcode) :
    rowFacts (pOpcodeTableIndex op true) = true ∧ InfoOK (pOpcodeTableIndex op true) ∧
    (isTargetOp op = true → noFL (pOpcodeTableIndex op true) = true) := by
  have := goodOp_index op
  rw [← index_internal hb] at this hb
  simp only [goodOp, Bool.or_eq_true, Bool.and_eq_true, beq_iff_eq, Bool.not_eq_true', decide_eq_true_eq]
    at this
  obtain ⟨h2, h4⟩ := this.resolve_left hb
  have hi : InfoOK (pOpcodeTableIndex op true) := by
    have hs : 113 ≤ opcodeTable.size := by decide +kernel
    unfold InfoOK opFlags
    rw [Array.getElem?_eq_getElem (by omega)]; rfl
  exact ⟨rowFacts_of_lt h2, hi, fun ht => h4.resolve_left (by simp [ht])⟩

theorem rowFacts_cnt {i : Nat} (h : rowFacts i = true) : argCnt i ≤ 7 := by
  unfold rowFacts at h
  simp only [Bool.and_eq_true, decide_eq_true_eq] at h
  exact h.1

theorem rowFacts_at {i j : Nat} (h : rowFacts i = true) (hj : j < 8) :
    (argAt i j = argTypeTermList → 1 ≤ j ∧ argAt i 0 = argTypePkgLen) ∧
    (argAt i j = argTypeFieldList → 1 ≤ j ∧ argAt i (j - 1) = argTypeByteData) ∧
    (argAt i j = argTypeByteList → 1 ≤ j ∧ argAt i (j - 1) = argTypeTermArg) := by
  unfold rowFacts at h
  simp only [Bool.and_eq_true, decide_eq_true_eq, List.all_eq_true, List.mem_range, Bool.or_eq_true, bne_iff_ne, ne_eq,
    beq_iff_eq] at h
  obtain ⟨⟨h1, h2⟩, h3⟩ := h.2 j hj
  exact ⟨fun e => h1.resolve_left (fun n => n e), fun e => h2.resolve_left (fun n => n e),
    fun e => h3.resolve_left (fun n => n e)⟩

theorem rowFacts_tl {i j : Nat} (h : rowFacts i = true) (hj : j < 8) (ht : argAt i j = argTypeTermList) :
    1 ≤ j ∧ argAt i 0 = argTypePkgLen := (rowFacts_at h hj).1 ht

theorem rowFacts_fl {i j : Nat} (h : rowFacts i = true) (hj : j < 8) (ht : argAt i j = argTypeFieldList) :
    1 ≤ j ∧ argAt i (j - 1) = argTypeByteData := (rowFacts_at h hj).2.1 ht

/-- a `ByteList` argument sits directly behind a `TermArg` (which ends the argument loop of the first pass) -/
theorem rowFacts_bl {i j : Nat} (h : rowFacts i = true) (hj : j < 8) (ht : argAt i j = argTypeByteList) :
    1 ≤ j ∧ argAt i (j - 1) = argTypeTermArg := (rowFacts_at h hj).2.2 ht

theorem noFL_at {i j : Nat} (h : noFL i = true) (hj : j < 8) : argAt i j ≠ argTypeFieldList := by
  unfold noFL at h
  simp only [List.all_eq_true, List.mem_range, bne_iff_ne, ne_eq] at h
  exact h j hj

theorem tlFrom_iff {i j : Nat} : tlFrom i j = true ↔ ∃ k, k < 8 ∧ j ≤ k ∧ argAt i k = argTypeTermList := by
  simp only [tlFrom, List.any_eq_true, List.mem_range, Bool.and_eq_true, decide_eq_true_eq, beq_iff_eq]

theorem tlFrom_of_at {i j : Nat} (hj : j < 8) (ht : argAt i j = argTypeTermList) : tlFrom i j = true :=
  tlFrom_iff.2 ⟨j, hj, Nat.le_refl _, ht⟩

theorem tlFrom_mono {i j : Nat} (h : tlFrom i (j + 1) = true) : tlFrom i j = true :=
  let ⟨k, hk, hjk, ht⟩ := tlFrom_iff.1 h
  tlFrom_iff.2 ⟨k, hk, Nat.le_of_succ_le hjk, ht⟩

theorem tlFrom_pkg {i j : Nat} (h : rowFacts i = true) (ht : tlFrom i j = true) : argAt i 0 = argTypePkgLen :=
  let ⟨_, hk, _, hk2⟩ := tlFrom_iff.1 ht
  (rowFacts_tl h hk hk2).2

attribute [irreducible] argAt argCnt rowFacts tlFrom noFL

end Firefly.AmlParser
