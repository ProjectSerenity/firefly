import Firefly.Proof.AmlLinks
import Firefly.Proof.AmlFragRows
import Firefly.Proof.AmlPasses
/-!
The tree walks of `parseAML` that find nothing to do: `mergeScopeDirectives`, `relocateNamedObjects`,
`parseDeferredBlocks`, `resolveMethodCalls`, `connectNonNamedObjArgs` return `ok` and leave the pool as it is at every
object whose guard (`Guards`) holds, provided they do so at its children.
-/
namespace Firefly.AmlParser.F
open Firefly.AmlLex Firefly.AmlTree Firefly.C13 Firefly.Gen.C12

/-- with fuel `N` or more, on every state that holds the pool `t` and the table handle `h`, the walk returns `ok` and
leaves both as they are -/
def QuietAt (t : ObjectTree) (h : Nat) (run : Nat → P PRes) (N : Nat) : Prop :=
  ∀ f s, N ≤ f → s.tree = t → s.tableHandle = h → ∃ s', run f s = .ok (PRes.ok, s') ∧ s'.tree = t ∧ s'.tableHandle = h

theorem QuietAt.mono {t : ObjectTree} {h : Nat} {run : Nat → P PRes} {N N' : Nat} (q : QuietAt t h run N) (hn : N ≤ N') :
    QuietAt t h run N' := fun f s hf ht hh => q f s (by omega) ht hh

/-- a loop `L f a` that runs the walk `W` on `a` and goes on with the next sibling (its two unfolding equations are the
hypotheses): it is quiet along a sibling chain on which `W` is -/
theorem fwd_loop_quiet {t : ObjectTree} {h : Nat} (L W : Nat → Nat → P PRes) (N : Nat)
    (hnil : ∀ f s, L (f + 1) invalidIndex s = .ok (PRes.ok, s))
    (hcons : ∀ f a s s1, live t a = true → s.tree = t → s1.tree = t → W f a s = .ok (PRes.ok, s1) →
      L (f + 1) a s = L f (Nx t a) s1) :
    ∀ (l : List Nat) (a f : Nat) (s : PState), Chain t (Nx t) a l → s.tree = t → s.tableHandle = h →
      (∀ y ∈ l, QuietAt t h (fun f => W f y) N) → l.length + N + 1 ≤ f →
      ∃ s', L f a s = .ok (PRes.ok, s') ∧ s'.tree = t ∧ s'.tableHandle = h := by
  intro l
  induction l with
  | nil =>
    intro a f s hc ht hh _ hf
    obtain ⟨f', rfl⟩ : ∃ f', f = f' + 1 := ⟨f - 1, by omega⟩
    have : a = invalidIndex := hc
    exact ⟨s, by rw [this]; exact hnil f' s, ht, hh⟩
  | cons y ys ih =>
    intro a f s hc ht hh hq hf
    obtain ⟨f', rfl⟩ : ∃ f', f = f' + 1 := ⟨f - 1, by omega⟩
    obtain ⟨rfl, hyl, hc'⟩ := hc
    obtain ⟨s1, e1, ht1, hh1⟩ := hq a (List.mem_cons_self ..) f' s (by simp at hf; omega) ht hh
    obtain ⟨s2, e2, ht2, hh2⟩ := ih (Nx t a) f' s1 hc' ht1 hh1 (fun z hz => hq z (List.mem_cons_of_mem _ hz)) (by simp at hf; omega)
    exact ⟨s2, by rw [hcons f' a s s1 hyl ht ht1 e1]; exact e2, ht2, hh2⟩

theorem fwdBody_quiet {t : ObjectTree} {h : Nat} (w : WF t) {V : Nat → Nat → P PRes} {L : Nat → Nat → PRes → P PRes}
    (hL : ∀ f a r, L (f + 1) a r = fwdLoopBody (V f) (L f) a r) (N : Nat) :
    ∀ (l : List Nat) (a f : Nat) (s : PState), Chain t (Nx t) a l → s.tree = t → s.tableHandle = h →
      (∀ y ∈ l, QuietAt t h (fun f => V f y) N) → l.length + N + 1 ≤ f →
      ∃ s', L f a PRes.ok s = .ok (PRes.ok, s') ∧ s'.tree = t ∧ s'.tableHandle = h := by
  refine fwd_loop_quiet (fun f a => L f a PRes.ok) V N ?_ ?_
  · intro f s
    show L (f + 1) invalidIndex PRes.ok s = _
    rw [hL, fwdLoopBody, if_pos rfl]
    rfl
  · intro f a s s1 hyl ht _ e1
    have hyl' : live s.tree a = true := by rw [ht]; exact hyl
    show L (f + 1) a PRes.ok s = _
    rw [hL, fwdLoopBody, if_neg (show ¬ a = invalidIndex from live_ne_INV w.size_le hyl)]
    rw [deref_run hyl']
    have hidx : (slot s.tree a).index = a := by rw [ht]; exact w.index_eq a (live_lt hyl)
    rw [hidx, bind_run e1]
    have hnx : (slot s.tree a).nextSiblingIndex = Nx t a := by rw [ht]; rfl
    rw [hnx]

/-- the rest of a round of a reverse walk passes `y`, under any parent: it leaves the state as it is and goes on -/
def AfterPass (after : Nat → Nat → P PRes → P PRes) (t : ObjectTree) (h y : Nat) : Prop :=
  ∀ p k s, s.tree = t → s.tableHandle = h → after p y k s = k s

theorem afterStep_pass {step : Nat → Nat → P Bool} {t : ObjectTree} {h y : Nat}
    (hs : ∀ p s, s.tree = t → s.tableHandle = h → step p y s = .ok (true, s)) : AfterPass (afterStep step) t h y := by
  intro p k s ht hh
  unfold afterStep
  rw [bind_run (hs p s ht hh)]
  rfl

/-- **a reverse argument walk** (`connectNamedObjArgs`, `connectNonNamedObjArgs`, `resolveMethodCalls`) **is quiet along the
children of `p`**, from the last of `l` backwards, when it is quiet at each of them and the rest of the round passes them -/
theorem revLoop_quiet {after : Nat → Nat → P PRes → P PRes} {V : Nat → Nat → P PRes} {L : Nat → Nat → Nat → P PRes}
    (hw : RevWalk after V L) {t : ObjectTree} {h p : Nat} (w : WF t) (hp : live t p = true) (N : Nat) :
    ∀ (n : Nat) (l rest : List Nat) (f : Nat) (s : PState), l.length = n → K t p = l ++ rest → s.tree = t → s.tableHandle = h →
      (∀ y ∈ l, QuietAt t h (fun f => V f y) N ∧ AfterPass after t h y) → n + N + 1 ≤ f →
      ∃ s', L f p (lastOf l) s = .ok (PRes.ok, s') ∧ s'.tree = t ∧ s'.tableHandle = h := by
  intro n
  induction n with
  | zero =>
    intro l rest f s hn _ ht hh _ hf
    have : l = [] := List.eq_nil_of_length_eq_zero hn
    subst this
    obtain ⟨f', rfl⟩ : ∃ f', f = f' + 1 := ⟨f - 1, by omega⟩
    refine ⟨s, ?_, ht, hh⟩
    show L (f' + 1) p INV s = _
    rw [hw.l, revLoopBody, if_pos inv_eq]
    rfl
  | succ n ih =>
    intro l rest f s hn hk ht hh hq hf
    rcases list_snoc_cases l with e | ⟨l', y, e⟩
    · rw [e] at hn; cases hn
    · subst e
      obtain ⟨f', rfl⟩ : ∃ f', f = f' + 1 := ⟨f - 1, by omega⟩
      obtain ⟨hqy, hsy⟩ := hq y (by simp)
      have hyl : live t y = true := ((K_mem w hp y).1 (by rw [hk]; simp)).1
      obtain ⟨s1, e1, ht1, hh1⟩ := hqy f' s (by omega) ht hh
      have hpv : Pv t y = lastOf l' := pv_of_kids w hp (pre := l') (post := rest) (by rw [hk]; simp)
      obtain ⟨s2, e2, ht2, hh2⟩ := ih l' (y :: rest) f' s1 (by simpa using hn) (by rw [hk]; simp) ht1 hh1
        (fun z hz => hq z (by simp [hz])) (by omega)
      refine ⟨s2, ?_, ht2, hh2⟩
      have hyl' : live s.tree y = true := by rw [ht]; exact hyl
      have hyl1 : live s1.tree y = true := by rw [ht1]; exact hyl
      have hidx : (slot s.tree y).index = y := by rw [ht]; exact w.index_eq y (live_lt hyl)
      rw [lastOf_snoc, hw.l, revLoopBody, if_neg (show ¬ y = invalidIndex from live_ne_INV w.size_le hyl),
        deref_run hyl', hidx, bind_run e1,
        if_neg (by decide), hsy p _ s1 ht1 hh1, bind_run (prevOf_live hyl1), ht1, hpv]
      exact e2

/-- … and at `x`, when it is quiet at the children of `x` -/
theorem revWalk_node {after : Nat → Nat → P PRes → P PRes} {V : Nat → Nat → P PRes} {L : Nat → Nat → Nat → P PRes}
    (hw : RevWalk after V L) {t : ObjectTree} {h : Nat} (w : WF t) {x : Nat} (hx : live t x = true) (N : Nat)
    (hq : ∀ y ∈ K t x, QuietAt t h (fun f => V f y) N ∧ AfterPass after t h y) :
    QuietAt t h (fun f => V f x) ((K t x).length + N + 2) := by
  intro f s hf ht hh
  obtain ⟨f', rfl⟩ : ∃ f', f = f' + 1 := ⟨f - 1, by omega⟩
  show ∃ s', V (f' + 1) x s = _ ∧ _
  rw [revVisit_eq hw (ht ▸ w) (ht ▸ hx), ht]
  exact revLoop_quiet hw w hx N (K t x).length (K t x) [] f' s rfl (by simp) ht hh hq (by omega)

/-- the counter reset at the root, at the head of `mergeScopeDirectives` and `relocateNamedObjects`: the rest `k` of the visit
runs from `s` or from `s` with the counter reset, which hold the same pool and handle -/
theorem reset_quiet {c : Prop} [Decidable c] {g : PState → PState} {k : Unit → P PRes} {s : PState} {t : ObjectTree} {h : Nat}
    (hg : (g s).tree = s.tree ∧ (g s).tableHandle = s.tableHandle) (ht : s.tree = t) (hh : s.tableHandle = h)
    (hk : ∀ s0 : PState, s0.tree = t → s0.tableHandle = h → ∃ s', k () s0 = .ok (PRes.ok, s') ∧ s'.tree = t ∧ s'.tableHandle = h) :
    ∃ s', (if c then modify g >>= k else k ()) s = .ok (PRes.ok, s') ∧ s'.tree = t ∧ s'.tableHandle = h := by
  split
  · exact hk (g s) (hg.1.trans ht) (hg.2.trans hh)
  · exact hk s ht hh

/-- not executable, and not a `Scope` directive of this table -/
def MergeSkip (t : ObjectTree) (h y : Nat) : Prop :=
  ∃ fl, opFlags (slot t y).infoIndex = some fl ∧ hasFlag fl flagExecutable = false ∧
    ¬ ((slot t y).opcode = opScope ∧ (slot t y).tableHandle = h)

theorem merge_node (d : Bytes) {t : ObjectTree} {h : Nat} (w : WF t) {x : Nat} (hx : live t x = true) (hg : MergeSkip t h x)
    (N : Nat) (hq : ∀ y ∈ K t x, QuietAt t h (fun f => mergeScopeDirectives d f y) N) :
    QuietAt t h (fun f => mergeScopeDirectives d f x) ((K t x).length + N + 2) := by
  intro f s hf ht hh
  obtain ⟨f', rfl⟩ : ∃ f', f = f' + 1 := ⟨f - 1, by omega⟩
  obtain ⟨fl, hfl, hex, hns⟩ := hg
  have hx' : live s.tree x = true := by rw [ht]; exact hx
  show ∃ s', mergeScopeDirectives d (f' + 1) x s = _ ∧ _
  rw [mergeScopeDirectives, deref_run hx']
  refine reset_quiet ⟨rfl, rfl⟩ ht hh fun s0 ht0 hh0 => ?_
  dsimp only
  rw [ht, hfl, bind_run (optP_ex fl s0), hex]
  simp only [Bool.false_eq_true, ↓reduceIte]
  rw [bind_run (tableHandle_ex s0), hh0, if_neg hns]
  exact fwdBody_quiet w (L := mergeLoop d) (fun _ _ _ => rfl) N (K t x) (Fi t x) f' s0 (w.kids_chain hx) ht0 hh0 hq (by omega)

/-- not executable; and not a named object of this table with arguments (scope blocks aside), or one whose name path is a
single segment -/
def RelocSkip (t : ObjectTree) (h y : Nat) : Prop :=
  ∃ fl, opFlags (slot t y).infoIndex = some fl ∧ hasFlag fl flagExecutable = false ∧
    (¬ (hasFlag fl flagNamed = true ∧ (slot t y).firstArgIndex ≠ invalidIndex ∧ (slot t y).tableHandle = h ∧
        (slot t y).opcode ≠ opIntScopeBlock) ∨
      ∃ c off, Fi t y = c ∧ live t c = true ∧ (slot t c).value = .bytes off 4)

theorem reloc_node (d : Bytes) {t : ObjectTree} {h : Nat} (w : WF t) {x : Nat} (hx : live t x = true) (hg : RelocSkip t h x)
    (N : Nat) (hq : ∀ y ∈ K t x, QuietAt t h (fun f => relocateNamedObjects d f y) N) :
    QuietAt t h (fun f => relocateNamedObjects d f x) ((K t x).length + N + 2) := by
  intro f s hf ht hh
  obtain ⟨f', rfl⟩ : ∃ f', f = f' + 1 := ⟨f - 1, by omega⟩
  obtain ⟨fl, hfl, hex, hns⟩ := hg
  have hx' : live s.tree x = true := by rw [ht]; exact hx
  show ∃ s', relocateNamedObjects d (f' + 1) x s = _ ∧ _
  rw [relocateNamedObjects, deref_run hx']
  have hfl' : opFlags (slot s.tree x).infoIndex = some fl := by rw [ht]; exact hfl
  rw [hfl', bind_run (optP_ex fl s)]
  refine reset_quiet ⟨rfl, rfl⟩ ht hh fun s0 ht0 hh0 => ?_
  dsimp only
  have hx0 : live s0.tree x = true := by rw [ht0]; exact hx
  rw [hex]
  simp only [Bool.false_eq_true, ↓reduceIte]
  rw [bind_run (tableHandle_ex s0), hh0, ht]
  have loop := fwdBody_quiet w (L := relocateLoop d) (fun _ _ _ => rfl) N (K t x) (Fi t x) f' s0 (w.kids_chain hx) ht0 hh0 hq (by omega)
  by_cases hc : hasFlag fl flagNamed = true ∧ (slot t x).firstArgIndex ≠ invalidIndex ∧ (slot t x).tableHandle = h ∧
      (slot t x).opcode ≠ opIntScopeBlock
  · rw [if_pos hc]
    rcases hns with hn | ⟨c, off, hfi, hcl, hval⟩
    · exact absurd hc hn
    · have hc0 : live s0.tree c = true := by rw [ht0]; exact hcl
      have er : relocateNamed d f' x s0 = .ok (.inr (), s0) := by
        unfold relocateNamed
        rw [bind_run (getObj_live hx0)]
        have : (slot s0.tree x).firstArgIndex = c := by rw [ht0]; exact hfi
        rw [this, deref_run hc0]
        have : (slot s0.tree c).value = .bytes off 4 := by rw [ht0]; exact hval
        rw [this]
        simp only [valBytes]
        rw [if_neg (by decide)]
        rfl
      rw [bind_run er]
      simp only
      rw [bind_run (getObj_live hx0)]
      have : (slot s0.tree x).firstArgIndex = Fi t x := by rw [ht0]; rfl
      rw [this]
      exact loop
  · rw [if_neg hc]
    exact loop

/-- no deferred block -/
def DeferSkip (t : ObjectTree) (y : Nat) : Prop :=
  ∃ fl, opFlags (slot t y).infoIndex = some fl ∧ hasFlag fl flagDeferParsing = false

theorem defer_loop (d : Bytes) (fuel : Nat) {t : ObjectTree} {h : Nat} (w : WF t) (N : Nat) :
    ∀ (l : List Nat) (a f : Nat) (s : PState), Chain t (Nx t) a l → s.tree = t → s.tableHandle = h →
      (∀ y ∈ l, QuietAt t h (fun f => parseDeferredBlocks d fuel f y) N) → l.length + N + 1 ≤ f →
      ∃ s', deferredLoop d fuel f a s = .ok (PRes.ok, s') ∧ s'.tree = t ∧ s'.tableHandle = h := by
  refine fwd_loop_quiet (deferredLoop d fuel) (parseDeferredBlocks d fuel) N ?_ ?_
  · intro f s
    rw [deferredLoop, if_pos rfl]
    rfl
  · intro f a s s1 hyl _ ht1 e1
    have hyl1 : live s1.tree a = true := by rw [ht1]; exact hyl
    rw [deferredLoop, if_neg (show ¬ a = invalidIndex from live_ne_INV w.size_le hyl)]
    rw [bind_run e1, if_neg (by decide)]
    rw [bind_run (objectAt_live' hyl1), bind_run (derefP_some_ex _), bind_run (nextOf_live hyl1), ht1]

theorem defer_node (d : Bytes) (fuel : Nat) {t : ObjectTree} {h : Nat} (w : WF t) {x : Nat} (hx : live t x = true)
    (hg : DeferSkip t x) (N : Nat) (hq : ∀ y ∈ K t x, QuietAt t h (fun f => parseDeferredBlocks d fuel f y) N) :
    QuietAt t h (fun f => parseDeferredBlocks d fuel f x) ((K t x).length + N + 2) := by
  intro f s hf ht hh
  obtain ⟨f', rfl⟩ : ∃ f', f = f' + 1 := ⟨f - 1, by omega⟩
  obtain ⟨fl, hfl, hdf⟩ := hg
  have hx' : live s.tree x = true := by rw [ht]; exact hx
  show ∃ s', parseDeferredBlocks d fuel (f' + 1) x s = _ ∧ _
  rw [parseDeferredBlocks, deref_run hx']
  have hfl' : opFlags (slot s.tree x).infoIndex = some fl := by rw [ht]; exact hfl
  rw [hfl', bind_run (optP_ex fl s), bind_run (tableHandle_ex s), hdf]
  rw [if_neg (by intro hq; cases hq.1)]
  have : (slot s.tree x).firstArgIndex = Fi t x := by rw [ht]; rfl
  rw [this]
  exact defer_loop d fuel w N (K t x) (Fi t x) f' s (w.kids_chain hx) ht hh hq (by omega)

theorem resolve_pass (d : Bytes) {t : ObjectTree} {h y : Nat} (hl : live t y = true)
    (hop : (slot t y).opcode ≠ opIntNamePathOrMethodCall) : AfterPass (afterStep (resolveStep d)) t h y := by
  refine afterStep_pass fun p s ht _ => ?_
  unfold resolveStep
  rw [bind_run (getObj_live (by rw [ht]; exact hl)), bind_run (tableHandle_ex s), if_pos (Or.inl (by rw [ht]; exact hop))]
  rfl

theorem resolve_node (d : Bytes) {t : ObjectTree} {h : Nat} (w : WF t) {x : Nat} (hx : live t x = true) (N : Nat)
    (hq : ∀ y ∈ K t x, QuietAt t h (fun f => resolveMethodCalls d f y) N ∧ (slot t y).opcode ≠ opIntNamePathOrMethodCall) :
    QuietAt t h (fun f => resolveMethodCalls d f x) ((K t x).length + N + 2) :=
  revWalk_node (resolve_rev d) w hx N fun y hy => ⟨(hq y hy).1, resolve_pass d ((K_mem w hx y).1 hy).1 (hq y hy).2⟩

/-- a named object, or one without term arguments -/
def CnnSkip (t : ObjectTree) (y : Nat) : Prop :=
  ∃ fl, opFlags (slot t y).infoIndex = some fl ∧
    (hasFlag fl flagNamed = true ∨
      ∃ ac, opArgCount (slot t y).infoIndex = some ac ∧ InfoOK (slot t y).infoIndex ∧
        ∀ k, k < ac → argAt (slot t y).infoIndex k ≠ argTypeTermArg ∧ argAt (slot t y).infoIndex k ≠ argTypeDataRefObj)

theorem cnn_pass {t : ObjectTree} {h y : Nat} (w : WF t) (hl : live t y = true) (hg : CnnSkip t y) :
    AfterPass (afterStep connectNonNamedStep) t h y := by
  refine afterStep_pass fun p s ht _ => ?_
  obtain ⟨fl, hfl, hg⟩ := hg
  have hl' : live s.tree y = true := by rw [ht]; exact hl
  unfold connectNonNamedStep
  rw [bind_run (getObj_live hl'), ht, hfl, bind_run (optP_ex fl s), bind_run (tableHandle_ex s)]
  rcases hg with hnm | ⟨ac, hac, hi, hno⟩
  · rw [if_pos (Or.inl hnm)]; rfl
  · by_cases hc : hasFlag fl flagNamed = true ∨ (slot t y).tableHandle ≠ s.tableHandle
    · rw [if_pos hc]; rfl
    · rw [if_neg hc, hac, bind_run (optP_ex ac s), bind_run (firstTermArg_noTerm hi ac hno ac 0 s (by omega)),
        bind_run (numArgs_kids (by rw [ht]; exact w) hl'), if_pos (Or.inl (Nat.le_refl _))]
      rfl

theorem cnn_node {t : ObjectTree} {h : Nat} (w : WF t) {x : Nat} (hx : live t x = true) (N : Nat)
    (hq : ∀ y ∈ K t x, QuietAt t h (fun f => connectNonNamedObjArgs f y) N ∧ CnnSkip t y) :
    QuietAt t h (fun f => connectNonNamedObjArgs f x) ((K t x).length + N + 2) :=
  revWalk_node connectNonNamed_rev w hx N fun y hy => ⟨(hq y hy).1, cnn_pass w ((K_mem w hx y).1 hy).1 (hq y hy).2⟩

/-- the guards of the five walks at one object -/
structure Guards (t : ObjectTree) (h y : Nat) : Prop where
  merge : MergeSkip t h y
  reloc : RelocSkip t h y
  defer : DeferSkip t y
  op : (slot t y).opcode ≠ opIntNamePathOrMethodCall
  cnn : CnnSkip t y

theorem guards_plain {t : ObjectTree} {h y op : Nat} (hop : (slot t y).opcode = op)
    (hinf : (slot t y).infoIndex = pOpcodeTableIndex op true) (row : PlainRow op)
    (h1 : op ≠ opScope) (h2 : op ≠ opIntNamePathOrMethodCall) : Guards t h y := by
  obtain ⟨fl, ac, a1, a2, a3, a4, a5, a6, _, a8⟩ := row
  rw [← hinf] at a1 a5 a6 a8
  refine ⟨⟨fl, a1, a3, fun hq => h1 (hop ▸ hq.1)⟩, ⟨fl, a1, a3, Or.inl ?_⟩, ⟨fl, a1, a4⟩, hop ▸ h2, ⟨fl, a1, Or.inr ⟨ac, a5, a6, a8⟩⟩⟩
  intro hq; rw [a2] at hq; cases hq.1

theorem guards_named {t : ObjectTree} {h y op ac : Nat} {args : List Nat}
    (row : rowSummary op = some (true, false, false, ac, args)) (hop : (slot t y).opcode = op)
    (hinf : (slot t y).infoIndex = pOpcodeTableIndex op true) (h1 : op ≠ opScope) (h2 : op ≠ opIntNamePathOrMethodCall)
    (hre : op = opIntScopeBlock ∨ ∃ c off, Fi t y = c ∧ live t c = true ∧ (slot t c).value = .bytes off 4) : Guards t h y := by
  obtain ⟨fl, a1, a2, a3, a4, _⟩ := rowSummary_spec row
  rw [← hinf] at a1
  refine ⟨⟨fl, a1, a3, fun hq => h1 (hop ▸ hq.1)⟩, ⟨fl, a1, a3, ?_⟩, ⟨fl, a1, a4⟩, hop ▸ h2, ⟨fl, a1, Or.inl a2⟩⟩
  rcases hre with e | hc
  · exact Or.inl (fun hq => hq.2.2.2 (hop.trans e))
  · exact Or.inr hc

theorem guards_sb {t : ObjectTree} {h y : Nat} (hop : (slot t y).opcode = opIntScopeBlock)
    (hinf : (slot t y).infoIndex = pOpcodeTableIndex opIntScopeBlock true) : Guards t h y :=
  guards_named row_502 hop hinf (by decide) (by decide) (Or.inl rfl)

/-- the root and the default scopes are scope blocks -/
theorem Kept.guards {t0 t : ObjectTree} (k : Kept t0 t) (b : Base t0) (h : Nat) :
    Guards t h 0 ∧ ∀ y ∈ K t0 0, Guards t h y := by
  obtain ⟨_, _, a3, a4⟩ := k.root b
  refine ⟨guards_sb a3 a4, fun y hy => ?_⟩
  obtain ⟨_, _, _, _, a5, a6, _⟩ := k.kid b hy
  exact guards_sb a5 a6

section walk
variable {t : ObjectTree} {h : Nat} (W : Nat → Nat → P PRes) (G : Nat → Prop)
  (node : ∀ x N, live t x = true → G x → (∀ y ∈ K t x, QuietAt t h (fun f => W f y) N ∧ G y) →
    QuietAt t h (fun f => W f x) ((K t x).length + N + 2))
include node

theorem walk_leaf {y : Nat} (hy : live t y = true) (hk : K t y = []) (hg : G y) : QuietAt t h (fun f => W f y) 2 := by
  have := node y 0 hy hg (by rw [hk]; intro z hz; cases hz)
  rw [hk] at this
  exact this

/-- at an object whose children are guarded, each of them childless or one where the walk is quiet with fuel `M` -/
theorem walk_kids {x : Nat} (hx : live t x = true) (gx : G x) {M : Nat} (hM : 2 ≤ M)
    (hk : ∀ z ∈ K t x, G z ∧ (live t z = true ∧ K t z = [] ∨ QuietAt t h (fun f => W f z) M)) :
    QuietAt t h (fun f => W f x) ((K t x).length + M + 2) :=
  node x M hx gx fun z hz =>
    ⟨(hk z hz).2.elim (fun l => (walk_leaf W G node l.1 l.2 (hk z hz).1).mono hM) id, (hk z hz).1⟩

end walk

/-- the five walks are quiet from the root with fuel `N` -/
def Quiet5 (d : Bytes) (fuel : Nat) (t : ObjectTree) (h N : Nat) : Prop :=
  QuietAt t h (fun f => mergeScopeDirectives d f 0) N ∧ QuietAt t h (fun f => relocateNamedObjects d f 0) N ∧
  QuietAt t h (fun f => parseDeferredBlocks d fuel f 0) N ∧ QuietAt t h (fun f => resolveMethodCalls d f 0) N ∧
  QuietAt t h (fun f => connectNonNamedObjArgs f 0) N

/-- what holds of every walk that is quiet wherever its guard holds, holds of the five walks on objects `S` that satisfy
`Guards` -/
theorem quiet5_of_walk (d : Bytes) (fuel : Nat) {t : ObjectTree} {h : Nat} (w : WF t) {S : Nat → Prop}
    (gS : ∀ y, S y → Guards t h y) {N : Nat}
    (H : ∀ (W : Nat → Nat → P PRes) (G : Nat → Prop),
      (∀ x N, live t x = true → G x → (∀ y ∈ K t x, QuietAt t h (fun f => W f y) N ∧ G y) →
        QuietAt t h (fun f => W f x) ((K t x).length + N + 2)) →
      (∀ y, S y → G y) → QuietAt t h (fun f => W f 0) N) : Quiet5 d fuel t h N :=
  ⟨H (fun f y => mergeScopeDirectives d f y) (fun y => MergeSkip t h y)
      (fun _ N hx hg hq => merge_node d w hx hg N (fun y hy => (hq y hy).1)) (fun y hy => (gS y hy).merge),
    H (fun f y => relocateNamedObjects d f y) (fun y => RelocSkip t h y)
      (fun _ N hx hg hq => reloc_node d w hx hg N (fun y hy => (hq y hy).1)) (fun y hy => (gS y hy).reloc),
    H (fun f y => parseDeferredBlocks d fuel f y) (fun y => DeferSkip t y)
      (fun _ N hx hg hq => defer_node d fuel w hx hg N (fun y hy => (hq y hy).1)) (fun y hy => (gS y hy).defer),
    H (fun f y => resolveMethodCalls d f y) (fun y => (slot t y).opcode ≠ opIntNamePathOrMethodCall)
      (fun _ N hx _ hq => resolve_node d w hx N hq) (fun y hy => (gS y hy).op),
    H (fun f y => connectNonNamedObjArgs f y) (fun y => CnnSkip t y)
      (fun _ N hx _ hq => cnn_node w hx N hq) (fun y hy => (gS y hy).cnn)⟩

/-- **`parseAML` behind the first pass** when `connectNamedObjArgs` succeeds and the five other walks find nothing to do:
one round of the resolve loop, then success; the pool is the one `connectNamedObjArgs` left -/
theorem parseAML_of_quiet {d : Bytes} {fuel handle N : Nat} {s sF s1 : PState}
    (e1 : firstPass d fuel handle s = .ok (PRes.ok, sF)) (e2 : connectNamedObjArgs d fuel 0 sF = .ok (PRes.ok, s1))
    (hh1 : s1.tableHandle = handle) (q : Quiet5 d fuel s1.tree handle N) (hN : N ≤ fuel) (hf : 1 ≤ fuel) :
    ∃ s', parseAML d fuel handle s = .ok (true, s') ∧ s'.tree = s1.tree := by
  obtain ⟨q1, q2, q3, q4, q5⟩ := q
  let s1' : PState := { s1 with resolvePasses := 1 }
  obtain ⟨s2, e3, ht2, hh2⟩ := q1 fuel s1' hN rfl hh1
  obtain ⟨s3, e4, ht3, hh3⟩ := q2 fuel s2 hN ht2 hh2
  have eloop : resolveLoopPasses d fuel fuel s1' = .ok (true, s3) := by
    obtain ⟨n, hn⟩ : ∃ n, fuel = n + 1 := ⟨fuel - 1, by omega⟩
    conv => lhs; arg 3; rw [hn]
    rw [resolveLoopPasses, bind_run e3, if_neg (by decide), bind_run e4, if_neg (by decide), if_pos ⟨rfl, rfl⟩]
    rfl
  obtain ⟨s4, e5, ht4, hh4⟩ := q3 fuel s3 hN ht3 hh3
  obtain ⟨s5, e6, ht5, hh5⟩ := q4 fuel s4 hN ht4 hh4
  obtain ⟨s6, e7, ht6, hh6⟩ := q5 fuel s5 hN ht5 hh5
  refine ⟨s6, ?_, ht6⟩
  rw [parseAML_eq, bind_run e1]
  unfold afterFirstPass
  rw [if_neg (by decide), bind_run e2, if_neg (by decide)]
  have em : (modify fun s => { s with resolvePasses := 1 } : P Unit) s1 = .ok ((), s1') := rfl
  rw [bind_run em, bind_run eloop]
  simp only [Bool.not_true, Bool.false_eq_true, ↓reduceIte]
  rw [bind_run e5, if_neg (by decide), bind_run e6, if_neg (by decide), bind_run e7, if_neg (by decide)]
  rfl

end Firefly.AmlParser.F
