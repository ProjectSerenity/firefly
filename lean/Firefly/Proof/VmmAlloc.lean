import Firefly.Proof.VmmMap
/-! `Map` when a table level is missing: the callback on allocator failure (`mapCb_allocfail`), and the creation of one new level. -/

namespace Firefly.Vmm
open Firefly.Gen.C04

theorem allocFrame_cons {st : St} {f : W} {rest : List W} (hf : st.free = f :: rest) :
    allocFrame st = some (f, { st with free := rest, allocs := st.allocs + 1 }) := by
  simp [allocFrame, hf]

theorem mapCb_allocfail {page frame flags ea : W} {L : Nat} (hL : L < 3) {loc : Loc} {err : Nat} {st : St}
    (hp : st.rdLoc loc &&& 1#64 = 0#64) (hh : st.rdLoc loc &&& 128#64 = 0#64) (hf : st.free = []) :
    mapCb page frame flags L ea loc err st = .ok ((false, eAlloc), st) := by
  have h1 : ¬ L = pageLevels - 1 := by simp [pageLevels]; omega
  simp [mapCb, h1, hasFlags_huge_false hh, hasFlags_present_false hp, hf]

/-- `kernel.Memset(va, 0, PageSize)` of a virtual page that shows frame `f` clears exactly frame `f` -/
theorem memsetPage_of_mmu {st : St} {va f : W} (h : mmu st.mem st.cr3 va = some (f <<< 12)) (hfo : FrameOK f)
    (hb : st.mem.backed f.toNat = true) :
    memsetPage st va = .ok { st with mem := st.mem.setFrame f.toNat (fun _ => 0) } := by
  have hfN : ((f <<< 12) >>> 12).toNat = f.toNat := frameN_shl12 hfo
  have hz : (f <<< 12) &&& 0xfff#64 = 0#64 := shl12_and_low _ (by decide)
  unfold memsetPage
  rw [h]
  simp only [hfN, hz, hb, beq_self_eq_true, Bool.and_self, if_true]

/-- state after `Map` has linked and cleared one new level -/
def allocStep (st : St) (f : W) (rest : List W) (loc : Loc) : St :=
  let st1 := ({ st with free := rest, allocs := st.allocs + 1 } : St).wrLoc loc (mkEntry f (fPresent ||| fRW))
  { st1 with mem := st1.mem.setFrame f.toNat (fun _ => 0) }

theorem rd_allocStep (st : St) (f : W) (rest : List W) (loc : Loc) (F j : Nat) :
    (allocStep st f rest loc).mem.rd F j =
      if f.toNat = F then 0#64 else if loc.1 = F ∧ loc.2 = j then mkEntry f (fPresent ||| fRW) else st.mem.rd F j := by
  simp only [allocStep, St.wrLoc, rd_setFrame, rd_wr]; rfl

/-- **Creating one new level.** The path exists down to the level-`L` table `T`, whose entry for `va`
is empty; the allocator hands out `f` (RAM, < 2^40, neither a root nor a table of the path).  Then
`Map`'s callback links `f` with Present|RW into that entry, clears *exactly* frame `f` (the Memset
address computed from the entry's own virtual address lands on it through the window), leaves the
window and every link of the path intact, and the path now continues through the empty table `f`. -/
theorem newLevel {st : St} {R : W} (va : W) (L : Nat) (hL : L < 3) (T : W) (hw : Window st R)
    (hc : Chain st.mem R va L T) (hb : st.mem.backed (frameN T) = true)
    (hp : st.mem.rd (frameN T) (kidx va L) &&& 1#64 = 0#64) (hh : st.mem.rd (frameN T) (kidx va L) &&& 128#64 = 0#64)
    {f : W} {rest : List W} (hf : st.free = f :: rest) (hfo : FrameOK f) (hfb : st.mem.backed f.toNat = true)
    (hA : f.toNat ≠ frameN (st.cr3 &&& hwMask)) (hR : f.toNat ≠ frameN R)
    (hfc : ∀ k T', k ≤ L → Chain st.mem R va k T' → f.toNat ≠ frameN T')
    (hlocA : ¬(frameN T = frameN (st.cr3 &&& hwMask) ∧ kidx va L = 511))
    (hlocR : ¬(frameN T = frameN R ∧ kidx va L = 511))
    (hlc : ∀ k T', k < L → Chain st.mem R va k T' → ¬(frameN T = frameN T' ∧ kidx va L = kidx va k))
    (page frame flags : W) (err : Nat) :
    mapCb page frame flags L (E va L) (frameN T, kidx va L) err st =
      .ok ((true, err), allocStep st f rest (frameN T, kidx va L)) ∧
    Window (allocStep st f rest (frameN T, kidx va L)) R ∧
    (∀ k T' T'', k < L → Chain st.mem R va k T' → Link st.mem T' (kidx va k) T'' →
      Link (allocStep st f rest (frameN T, kidx va L)).mem T' (kidx va k) T'') ∧
    Link (allocStep st f rest (frameN T, kidx va L)).mem T (kidx va L) (f <<< 12) := by
  let st1 : St := ({ st with free := rest, allocs := st.allocs + 1 } : St).wrLoc (frameN T, kidx va L) (mkEntry f (fPresent ||| fRW))
  have hw1 : Window st1 R :=
    ⟨hw.top.wr _ _ _ hlocA, hw.self.wr _ _ _ hlocR⟩
  have hlink1 : Link st1.mem T (kidx va L) (f <<< 12) :=
    Link.of_mkEntry hb hfo (by simp only [st1, St.wrLoc, rd_wr, and_self, if_true])
  have hc1 : Chain st1.mem R va L T := Chain.map L T hc fun k T' T'' hk hck l => l.wr _ _ _ (hlc k T' hk hck)
  -- the callback: the Memset address resolves to the new table
  have hms : memsetPage st1 (E va L <<< levelBits (L + 1)) = .ok (allocStep st f rest (frameN T, kidx va L)) := by
    rw [levelBits_eq (by omega)]
    exact memsetPage_of_mmu (mmu_next hw1 va L hL _ ⟨T, hc1, hlink1⟩) hfo hfb
  have h1 : ¬ L = pageLevels - 1 := by simp [pageLevels]; omega
  have hcb : mapCb page frame flags L (E va L) (frameN T, kidx va L) err st =
      .ok ((true, err), allocStep st f rest (frameN T, kidx va L)) := by
    simp only [mapCb, h1, if_false, St.rdLoc, hasFlags_huge_false hh, hasFlags_present_false hp, hf]
    simp only [Bool.false_eq_true, if_false, Bool.not_false, if_true]
    rw [show (({ st with free := rest, allocs := st.allocs + 1 } : St).wrLoc (frameN T, kidx va L)
      (mkEntry f (fPresent ||| fRW))) = st1 from rfl, hms]
  -- window and path survive clearing frame f
  exact ⟨hcb, ⟨hw1.top.setFrame _ _ hA, hw1.self.setFrame _ _ hR⟩,
    fun k T' T'' hk hck l => (l.wr _ _ _ (hlc k T' hk hck)).setFrame _ _ (hfc k T' (by omega) hck),
    hlink1.setFrame _ _ (hfc L T (by omega) hc)⟩

/-- **`Map` creating the leaf table.** The page's path exists down to its level-2 table `T2`, whose
entry is empty; the allocator hands out `f`.  `Map` succeeds; the final state is exactly: `f` popped,
`T2[i2] := f<<12 | Present|RW`, frame `f` cleared, `f[i3] := frame<<12 | flags`, the page flushed. -/
theorem mapOp_new_leaf_table {st : St} {R T1 T2 : W} (page frame flags : W) (hw : Window st R)
    (l0 : Link st.mem R (kidx (pageAddr page) 0) T1) (l1 : Link st.mem T1 (kidx (pageAddr page) 1) T2)
    (hb2 : st.mem.backed (frameN T2) = true)
    (hp : st.mem.rd (frameN T2) (kidx (pageAddr page) 2) &&& 1#64 = 0#64)
    (hh : st.mem.rd (frameN T2) (kidx (pageAddr page) 2) &&& 128#64 = 0#64)
    {f : W} {rest : List W} (hf : st.free = f :: rest) (hfo : FrameOK f) (hfb : st.mem.backed f.toNat = true)
    (hfd : f.toNat ≠ frameN (st.cr3 &&& hwMask) ∧ f.toNat ≠ frameN R ∧ f.toNat ≠ frameN T1 ∧ f.toNat ≠ frameN T2)
    (htd : frameN T2 ≠ frameN (st.cr3 &&& hwMask) ∧ frameN T2 ≠ frameN R ∧ frameN T2 ≠ frameN T1)
    (hg : (st.protect && frame == st.zeroFrame && (flags &&& fRW) != 0) = false) :
    mapOp st page frame flags =
      .ok (0, ((allocStep st f rest (frameN T2, kidx (pageAddr page) 2)).wrLoc (f.toNat, kidx (pageAddr page) 3)
        (mkEntry frame flags)).flush (pageAddr page)) ∧
    Path (allocStep st f rest (frameN T2, kidx (pageAddr page) 2)).mem R (pageAddr page) T1 T2 (f <<< 12) := by
  have c0 : Chain st.mem R (pageAddr page) 0 R := rfl
  have c1 : Chain st.mem R (pageAddr page) 1 T1 := ⟨R, c0, l0⟩
  have c2 : Chain st.mem R (pageAddr page) 2 T2 := ⟨T1, c1, l1⟩
  have hfc : ∀ k T', k ≤ 2 → Chain st.mem R (pageAddr page) k T' → f.toNat ≠ frameN T' := by
    intro k T' hk hc
    have h : k = 0 ∨ k = 1 ∨ k = 2 := by omega
    rcases h with h | h | h <;> subst h
    · rw [Chain.unique 0 T' R hc c0]; exact hfd.2.1
    · rw [Chain.unique 1 T' T1 hc c1]; exact hfd.2.2.1
    · rw [Chain.unique 2 T' T2 hc c2]; exact hfd.2.2.2
  have hlc : ∀ k T', k < 2 → Chain st.mem R (pageAddr page) k T' →
      ¬(frameN T2 = frameN T' ∧ kidx (pageAddr page) 2 = kidx (pageAddr page) k) := by
    intro k T' hk hc hh'
    have h : k = 0 ∨ k = 1 := by omega
    rcases h with h | h <;> subst h
    · rw [Chain.unique 0 T' R hc c0] at hh'; exact htd.2.1 hh'.1
    · rw [Chain.unique 1 T' T1 hc c1] at hh'; exact htd.2.2 hh'.1
  obtain ⟨hcb, hw2, keep, l2⟩ := newLevel (pageAddr page) 2 (by omega) T2 hw c2 hb2 hp hh hf hfo hfb hfd.1 hfd.2.1 hfc
    (fun h => htd.1 h.1) (fun h => htd.2.1 h.1) hlc page frame flags 0
  have hc3 : Chain (allocStep st f rest (frameN T2, kidx (pageAddr page) 2)).mem R (pageAddr page) 3 (f <<< 12) :=
    ⟨T2, Chain.map 2 T2 c2 keep, l2⟩
  have hfN : frameN (f <<< 12) = f.toNat := frameN_shl12 hfo
  have hb3 : (allocStep st f rest (frameN T2, kidx (pageAddr page) 2)).mem.backed (frameN (f <<< 12)) = true := by
    rw [hfN]; simpa [allocStep, St.wrLoc] using hfb
  constructor
  · rw [mapOp_unguarded hg,
      walkFrom_chain_const hw (mapCb page frame flags) 0 (fun _ _ _ hL hp hh => mapCb_present hL hp hh) 2 T2 (by omega) c2,
      walkFrom_at hw _ (by omega) c2 hb2, hcb]
    simp only
    rw [walkFrom_at hw2 _ (by omega) hc3 hb3, mapCb_leaf, hfN]
    rfl
  · exact ⟨keep 0 R T1 (by omega) c0 l0, keep 1 T1 T2 (by omega) c1 l1, l2, hb3⟩

end Firefly.Vmm
