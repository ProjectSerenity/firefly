import Firefly.Proof.AmlShapeInv
import Firefly.Proof.AmlUnfold
import Firefly.Proof.AmlArgOps
/-!
One walk of the mutually recursive parser functions in the first pass (`allBlocks = false`).

The run of the first pass does not depend on the shape invariants (`F.KP`, `F.Both`): from any state with `G.FP` and
room in the pool every step returns, and the invariants are only *kept* by it.  So the contract `SkipW` states, for
each function, under the operational hypotheses alone, a guarded run `S.Rs (fuel suffices) …` (no panic for every
fuel, a result for enough fuel) whose post holds the operational facts (`G.FP`, the frame `Eff`) and, as an
implication, "if `KP`/`Both` held before, they hold after".  `G.FirstPassTot` (the `TPs` half, invariants dropped)
and `F.FNP` (the `NPs` half, invariants fed in) are its two projections.
-/
namespace Firefly.AmlParser.Sk
open Firefly.AmlLex Firefly.AmlTree Firefly.C13 Firefly.AmlParser.G Firefly.AmlParser.S Firefly.AmlParser.F
open Firefly.AmlParser.ST
open Firefly.Gen.C12

variable {T : Nat → Prop} {jf : Prop}

/-- the shape invariants ride along: `KP` is kept, and `Both` (exception `ex`) holds afterwards when `pre` (the
invariant and the side conditions of the function) held before and the call did not fail -/
def Rides (jf : Prop) (d : Bytes) (ex : Option Nat) (s s' : PState) (pre ok : Prop) : Prop :=
  F.KP d s → F.KP d s' ∧ (pre → ok → Both jf d ex s')

def TargetW (jf : Prop) (d : Bytes) (f : Nat) : Prop :=
  ∀ {s : PState}, FP d s → s.allBlocks = false → Bud d 1 s →
    Rs (needT (d.size - s.r.offset) ≤ f) (parseTarget d f) s (fun a s' =>
      FP d s' ∧ Eff (fun _ => False) 1 0 s s' ∧ RetOK s s' a.1 ∧ Rides jf d none s s' (Both jf d none s) (a.2 ≠ .failed))

/-- the invariant with `curObj` excepted if it is a `Scope` or a `Method`, and the side conditions under which `parseArg`
keeps it -/
structure ArgSide (jf : Prop) (d : Bytes) (s : PState) (curObj argType : Nat) : Prop where
  both : Both jf d (exOf s curObj) s
  par : ParSB s curObj
  leaf : exOf s curObj ≠ none → Leaf argType ∨ argType = argTypeTermList
  ncall : (slot s.tree curObj).opcode ≠ opIntNamePathOrMethodCall

def ArgW (jf : Prop) (d : Bytes) (f : Nat) : Prop :=
  ∀ {s : PState} (info curObj argType : Nat), ArgPre d s info curObj argType → s.allBlocks = false →
    argType ≠ argTypeByteList →
    Rs (needArg (d.size - s.r.offset) ≤ f) (parseArg d f info curObj argType) s (fun a s' =>
      FP d s' ∧ Eff (TCur s curObj) 2 (if argType = argTypeTermList then 1 else 0) s s' ∧
      ArgRes d s s' info curObj argType a ∧ Rides jf d (exOf s curObj) s s' (ArgSide jf d s curObj argType) (a.2 ≠ .failed))

def ArgsW (jf : Prop) (d : Bytes) (f : Nat) : Prop :=
  ∀ {s : PState} (info curObj j : Nat), ArgsPre d s info curObj j → s.allBlocks = false →
    (1 ≤ j → argAt info (j - 1) ≠ argTypeTermArg) →
    Rs (needArgs (d.size - s.r.offset) j ≤ f) (parseArgs d f info curObj j) s (fun res s' =>
      FP d s' ∧ Eff (TCur s curObj) (2 * (7 - j)) (AmlParser.G info j) s s' ∧
      Rides jf d none s s' (ArgsInv jf d s info curObj j) (res ≠ .failed))

def ObjArgsW (jf : Prop) (d : Bytes) (f : Nat) : Prop :=
  ∀ {s : PState} (curObj : Nat), ObjPre d s curObj → s.allBlocks = false →
    Rs (needOA (d.size - s.r.offset) ≤ f) (parseObjectArgs d f curObj) s (fun res s' =>
      FP d s' ∧ Eff (TCur s curObj) 14 0 s s' ∧
      Rides jf d none s s' (ArgsInv jf d s (slot s.tree curObj).infoIndex curObj 0) (res ≠ .failed))

def NextW (jf : Prop) (d : Bytes) (f : Nat) : Prop :=
  ∀ {s : PState}, FP d s → s.allBlocks = false → s.scopeStack.size ≠ 0 → Bud d 0 s →
    Rs (needNext (d.size - s.r.offset) ≤ f) (parseNextObject d f) s (fun res s' =>
      FP d s' ∧ Eff (TTop s) 0 0 s s' ∧ (res = .ok → s.r.offset < s'.r.offset) ∧
      Rides jf d none s s' (Both jf d none s) (res ≠ .failed))

/-- the first-pass contract of the five mutually recursive functions with fuel `f` -/
structure SkipW (jf : Prop) (d : Bytes) (f : Nat) : Prop where
  target : TargetW jf d f
  arg : ArgW jf d f
  args : ArgsW jf d f
  objArgs : ObjArgsW jf d f
  next : NextW jf d f

theorem Rides.refl {d : Bytes} {s : PState} {ok : Prop} : Rides jf d none s s (Both jf d none s) ok := fun hS => ⟨hS, fun hdir _ => hdir⟩

theorem Rides.trans {d : Bytes} {a b c : PState} {ok1 ok2 ok : Prop} (h1 : Rides jf d none a b (Both jf d none a) ok1)
    (h2 : Rides jf d none b c (Both jf d none b) ok2) (hok : ok → ok1 ∧ ok2) : Rides jf d none a c (Both jf d none a) ok :=
  fun hS => ⟨(h2 (h1 hS).1).1, fun hdir o => (h2 (h1 hS).1).2 ((h1 hS).2 hdir (hok o).1) (hok o).2⟩

/-- stack operations: the tree is untouched and no scope is pushed -/
theorem rides_ofTree {d : Bytes} {s s' : PState} {ok : Prop} (h' : FP d s') (ht : s'.tree = s.tree)
    (hsame : s'.allBlocks = s.allBlocks ∧ s'.tableHandle = s.tableHandle ∧ s'.streamEnd = s.streamEnd)
    (hst : ∀ x ∈ s'.scopeStack.toList, x ∈ s.scopeStack.toList) : Rides jf d none s s' (Both jf d none s) ok :=
  fun hS => ⟨hS.ofTree h' ht hsame.1 hst, fun hdir _ => hdir.ofTree ht hsame.2.1⟩

/-- a step of the reader alone -/
theorem rides_lex {d : Bytes} {s : PState} {r2 : Reader} {ok : Prop} (h2 : FP d { s with r := r2 }) :
    Rides jf d none s { s with r := r2 } (Both jf d none s) ok := rides_ofTree h2 rfl ⟨rfl, rfl, rfl⟩ fun _ hx => hx

/-- a fresh object that is neither a `Method` nor a name-or-call object keeps both invariants -/
theorem rides_fresh1 {d : Bytes} {ex : Option Nat} {n : Nat} {s s' : PState} {side ok : Prop} (h' : FP d s') (f : Fresh1 n s s')
    (w : WF s.tree) (hk : isK (slot s'.tree n).opcode = false) (hd : side → Both jf d ex s) :
    Rides jf d ex s s' side ok :=
  fun hS => ⟨hS.step h' (SGrow.ofFresh1 (T := fun _ => False) f) (fun x hx => Or.inl (by rw [← f.scope]; exact hx)),
    fun hs _ => (hd hs).fresh1 f w h'.tree.wf (fun e => by rw [e, isK_method] at hk; cases hk)
      (fun e => by rw [e, isK_call] at hk; cases hk)⟩

theorem target_stepW {d : Bytes} (hd : d.size + 268435456 ≤ 4294967296) {f : Nat} (ih : SkipW jf d f) : TargetW jf d (f + 1) := by
  intro s h hsk hb
  have w := h.tree.wf
  refine parseTarget_rs (by omega) h hb ?_ ?_ ?_
  · intro n s6 res h6 f6 hk
    exact ⟨h6, Eff.ofFresh1 f6, f6.retOK, rides_fresh1 h6 f6 w hk id⟩
  · intro r2 res h2 hlt
    exact ⟨h2, (Eff.ofLex rfl (Nat.le_of_lt hlt)).weaken (by decide) (Nat.le_refl _), .none, rides_lex h2⟩
  · intro r2 n s4 h2 hlt f4 pre htop
    have h4 := pre.fp
    have hnK : ∀ k, isTargetOp k = false → (slot s4.tree n).opcode ≠ k := fun k hk hq => by rw [hq, hk] at htop; cases htop
    have g4 : Eff (fun _ => False) 1 0 { s with r := r2 } s4 := Eff.ofFresh1 f4
    refine (ih.objArgs (s := s4) n pre (by rw [g4.sg.same.1]; exact hsk)).mono (fun hf => ?_) ?_
    · have h1 : r2.offset ≤ s4.r.offset := g4.sg.off
      have h2' := h4.inv.1
      unfold needT at hf; unfold needOA needArgs needArg needT; omega
    · intro res s5 ⟨h5, g5, k5⟩
      refine ⟨h5, ?_, f4.retOK.grow g5.sg, fun hS => ?_⟩
      · exact (Eff.absorb rfl hlt (g4.thenCur g5 w f4.nlive (Or.inl f4.pn)) (by omega)).weaken (by decide) (Nat.le_refl _)
      · have k2' := rides_lex (jf := jf) (ok := True) h2 hS
        have hS4 : F.KP d s4 := k2'.1.step h4 g4.sg (fun x hx => Or.inl (by rw [← f4.scope]; exact hx))
        -- a target is neither a `Scope` nor a `Method`
        exact ⟨(k5 hS4).1, fun hdir hnf => (k5 hS4).2 (.other
          ((k2'.2 hdir trivial).fresh1 f4 h2.tree.wf h4.tree.wf (hnK _ target_ops.2.2.1) (hnK _ target_ops.2.2.2.1))
          (Or.inl f4.pn) (hnK _ target_ops.2.2.2.1) (hnK _ target_ops.1) (hnK _ target_ops.2.2.1)) hnf⟩


/-- a step with a slot frame that pushes no scope keeps both invariants (`Both.grow`) -/
theorem rides_grow {d : Bytes} {ex : Option Nat} {c : Nat} {s s' : PState} {side ok : Prop} (h' : FP d s') (g : SGrow T c s s')
    (hsc : s'.scopeStack = s.scopeStack) (w : WF s.tree) (hd : side → Both jf d ex s)
    (hT : side → ∀ y, T y → live s.tree y = true → TOK s ex y)
    (hnew : ∀ x, live s.tree x = false → live s'.tree x = true →
      ((slot s'.tree x).opcode = opScope → Fi s'.tree x = INV) ∧ ((slot s'.tree x).opcode = opMethod → some x = ex) ∧
      ((slot s'.tree x).opcode = opIntNamePathOrMethodCall →
        C13.P s'.tree x ≠ INV ∧ ∃ off len, (slot s'.tree x).value = .bytes off len)) :
    Rides jf d ex s s' side ok :=
  fun hS => ⟨hS.step h' g (fun x hx => Or.inl (by rw [← hsc]; exact hx)), fun hs _ => (hd hs).grow g w h'.tree.wf (hT hs) hnew⟩

theorem arg_stepW {d : Bytes} (hd : d.size + 268435456 ≤ 4294967296) {f : Nat} (ih : SkipW jf d f) : ArgW jf d (f + 1) := by
  intro s info curObj argType pre hsk hnbl
  have ⟨h, hc, hinfo, hb, hfl⟩ := pre
  have hd' : d.size + 1024 ≤ 4294967296 := by omega
  have w := h.tree.wf
  have hszlt : s.tree.pool.size < INV := (hb.mono (k' := 1) (by decide)).size_lt
  -- `curObj` and its parent may be touched
  have hTcur : ArgSide jf d s curObj argType → ∀ y, TCur s curObj y → live s.tree y = true → TOK s (exOf s curObj) y :=
    fun sd => TOK.ofTCur ⟨Tch.cur sd.par, sd.ncall⟩ sd.par w
  unfold parseArg
  by_cases hsimple : isSimpleArg argType = true
  · rw [if_pos hsimple]
    have hnpk : argType ≠ argTypePkgLen := by intro hq; rw [hq] at hsimple; revert hsimple; decide
    have hntl : argType ≠ argTypeTermList := by intro hq; rw [hq] at hsimple; revert hsimple; decide
    have hnta : argType ≠ argTypeTermArg := by intro hq; rw [hq] at hsimple; revert hsimple; decide
    obtain ⟨n, res, s', e, h', f', hop', hinfo', hk', hp, hv, hnm⟩ :=
      parseSimpleArg_full (rel_parseNameString' d hd') (fun _ _ _ hr => hr.1) h hszlt hsimple
    have hcn : curObj ≠ n := f'.ne hc
    refine Rs.of_eq e ⟨h', (Eff.ofFresh1 f').weaken (by decide) (Nat.zero_le _), ⟨f'.retOK,
      fun _ => ⟨fun x hx _ => f'.old x (f'.ne hx), by unfold Fi; rw [f'.old _ hcn], by unfold La; rw [f'.old _ hcn]⟩, ?_,
      fun hq => absurd hq hnpk, fun _ _ => ⟨n, rfl⟩, ?_, fun hq => absurd hq hntl, ?_, fun _ => by rw [f'.old _ hcn],
      fun hq => absurd hq hntl, fun _ => hp.elim (fun q => Or.inl q.1) Or.inr, ?_, ?_, fun hq => absurd hq hnpk, fun hq => absurd hq hnpk⟩,
      rides_fresh1 h' f' w hk' (·.both)⟩
    · intro hbd _
      obtain ⟨v, hv⟩ := hv (Or.inl hbd)
      exact ⟨n, v, rfl, hv⟩
    · intro hns hok
      obtain ⟨sr, _, _, ⟨_, hlead⟩, hsr, hv⟩ := hnm hns
      refine ⟨n, rfl, by rw [hop', hns]; rfl, f'.fin, ?_⟩
      rw [hv]
      exact sliceVal_exprOK d sr.1 (hlead (by rw [← hsr]; exact hok))
    · intro hq
      rcases hq with hq | hq
      · exact absurd hq hnta
      · exact absurd hq hntl
    · intro hns _ x hx
      cases hx
      exact ⟨by rw [hop', hns]; rfl, f'.fin, by rw [hinfo', hns]; rfl⟩
    · intro hbd _ x hx
      cases hx
      exact ⟨by rw [hop', hbd]; rfl, f'.fin, by rw [hinfo', hbd]; rfl, hv (Or.inl hbd)⟩
  · rw [if_neg hsimple, if_neg hnbl]
    have hnns : argType ≠ argTypeNameString := by intro hq; rw [hq] at hsimple; exact hsimple (by decide)
    have hnbd : argType ≠ argTypeByteData := by intro hq; rw [hq] at hsimple; exact hsimple (by decide)
    by_cases hpk : argType = argTypePkgLen
    · rw [if_pos hpk]
      have hntl : argType ≠ argTypeTermList := by rw [hpk]; decide
      obtain ⟨a, s', e, h', ha, hsc', ⟨g', sl, hoth⟩, hinf', hkind, hpush, _⟩ := parsePkgLenArg_skip hd h info curObj hc hinfo
      refine Rs.of_eq e ⟨h', g'.weaken (by decide) (Nat.zero_le _), ⟨fun x hx => (by rw [ha] at hx; cases hx),
        fun _ => ⟨fun x _ hne => hoth x hne, sl.fi _, sl.la _⟩,
        fun hq => absurd hq hnbd, fun _ => ha, fun hq => absurd hq hsimple, fun hq => absurd hq hnns,
        fun hq => absurd hq hntl, ?_, fun _ => hinf',
        fun hq => absurd hq hntl, fun hq => absurd hq hsimple, fun hq => absurd hq hnns,
        fun hq => absurd hq hnbd, fun _ => hkind, fun _ => ⟨by rw [hsc'], hpush⟩⟩,
        rides_grow h' g'.sg hsc' w (·.both) hTcur (fun x h1 h2 => by rw [sl.live, h1] at h2; cases h2)⟩
      intro hq; rcases hq with hq | hq <;> rw [hpk] at hq <;> cases hq
    · rw [if_neg hpk]
      have hnl : ¬ Leaf argType := fun hl => hl.elim hsimple hpk
      by_cases hfld : argType = argTypeFieldList
      · rw [if_pos hfld]
        have hntl : argType ≠ argTypeTermList := by rw [hfld]; decide
        obtain ⟨hp, hla, hv⟩ := hfl hfld
        obtain ⟨res, s', e, h', g', hsc', hpk', fr⟩ := parseFieldElements_tot (T := TCur s curObj) hd h curObj hc hp hla hv hb
          (Or.inl rfl) (Or.inr rfl)
        exact Rs.step e (Rs.pure ⟨h', ⟨g', (Stk.ofEq hsc' hpk' g'.off).weaken (Nat.zero_le _)⟩,
          .other hnl hntl .none (fun hq => by rw [hfld] at hq; cases hq),
          rides_grow h' g' hsc' w (·.both) hTcur fun x h1 h2 => notK_new (fr.newK x h1 h2)⟩)
      · rw [if_neg hfld]
        by_cases hta : argType = argTypeTermArg ∨ argType = argTypeDataRefObj
        · rw [if_pos hta]
          have hntl : argType ≠ argTypeTermList := by rcases hta with hq | hq <;> rw [hq] <;> decide
          refine Rs.step (allBlocks_ex s) ?_
          rw [hsk]
          simp only [Bool.false_eq_true, ↓reduceIte]
          exact Rs.pure ⟨h, (Eff.refl s).weaken (by decide) (Nat.zero_le _), .other hnl hntl .none (fun _ hq => by cases hq),
            fun hS => ⟨hS, fun sd _ => sd.both⟩⟩
        · rw [if_neg hta]
          by_cases htl : argType = argTypeTermList
          · rw [if_pos htl]
            obtain ⟨scope, s1, sm, e1, h1, hm, fm, hs1, hopm, hinfm, hrm, _⟩ := newScopeBlock_step h hszlt
            have g1 : Eff (TCur s curObj) 1 1 s s1 := hs1 ▸ Eff.ofScopeBlock fm
            refine Rs.step e1 (Rs.step (allBlocks_ex s1) ?_)
            have ht1 : s1.tree = sm.tree := by rw [hs1]
            have hsc1 : s1.scopeStack = s.scopeStack.push scope := by rw [hs1]; show sm.scopeStack.push scope = _; rw [fm.scope]
            rw [g1.sg.same.1, hsk]
            simp only [Bool.not_false, ↓reduceIte]
            have hinf1 : (slot s1.tree scope).infoIndex = pOpcodeTableIndex opIntScopeBlock true := by rw [ht1]; exact hinfm
            have hop1 : (slot s1.tree scope).opcode = opIntScopeBlock := by rw [ht1]; exact hopm
            refine Rs.pure ⟨h1, ⟨g1.sg.weaken (by decide), by rw [if_pos htl]; exact g1.st⟩, ⟨hs1 ▸ fm.retOK, fun hl => absurd hl hnl,
              fun hq => absurd hq hnbd, fun hq => absurd hq hpk, fun hq => absurd hq hsimple, fun hq => absurd hq hnns,
              fun _ _ => ⟨scope, rfl, hop1, hinf1⟩, fun _ hq => (by cases hq),
              fun _ => by rw [ht1, fm.old _ (fm.ne hc)], fun _ x hx => by rw [ht1, fm.old _ (fm.ne hx)],
              fun hq => absurd hq hsimple, fun hq => absurd hq hnns, fun hq => absurd hq hnbd, fun hq => absurd hq hpk,
              fun hq => absurd hq hpk⟩, fun hS => ⟨hS.step h1 g1.sg (fun x hx => ?_), fun sd _ => ?_⟩⟩
            · rw [hsc1, Array.toList_push, List.mem_append, List.mem_singleton] at hx
              exact hx.imp id (fun hx => by rw [hx]; exact hop1)
            · exact (sd.both.fresh1 fm w hm.tree.wf (by rw [hopm]; exact mth_ops.2.2.1) (by rw [hopm]; decide)).ofTree ht1
                (by rw [g1.sg.same.2.1, fm.same.2.1])
          · rw [if_neg htl, if_neg htl]
            refine (ih.target h hsk (hb.mono (by decide))).mono (fun hf => by unfold needArg at hf; omega) ?_
            intro a s' ⟨h', g', hret, k'⟩
            refine ⟨h', (g'.mono w (fun x _ hT => False.elim hT)).weaken (by decide) (Nat.le_refl _),
              .other hnl htl hret (fun hq => absurd (Or.inl hq) hta), fun hS => ⟨(k' hS).1, fun sd hnf => ?_⟩⟩
            have hexn : exOf s curObj = none := Classical.byContradiction fun hq => (sd.leaf hq).elim hnl htl
            have hb := sd.both
            rw [hexn] at hb ⊢
            exact (k' hS).2 hb hnf


/-! The phase machine of a `Scope` and of a `Method`, one step: `s1` is the state `parseArg` left for argument `j` of the
row, `s2` the state after the returned object (if any) became the last argument of `c`.  The row says what was read, so
what was returned (`ArgRes`) has the shape the next phase asks for: either the loop goes on (`ok`) with the arguments below
`j + 1` in place, or it ends and the object is closed. -/

theorem _root_.Firefly.AmlParser.F.ScopeArgs.step {d : Bytes} {s s1 s2 : PState} {c j : Nat} {a1 : Option Nat} {a2 : PRes}
    (h : ScopeArgs d s1.tree c j) (hj : j < 3) (hdr : ScopeHdr s1.tree c) (R : ArgRes d s s1 scopeInfo c (argAt scopeInfo j) (a1, a2))
    (hnf : a2 ≠ .failed) (happ : ArgHung c a1 s1 s2) (w1 : WF s1.tree) (hc : live s.tree c = true) (hc1 : live s1.tree c = true) :
    (a2 = .ok ∧ j + 1 < 3 ∧ ScopeArgs d s2.tree c (j + 1)) ∨ (a2 ≠ .ok ∧ (Fi s2.tree c = INV ∨ DShape d s2.tree c)) := by
  obtain ⟨_, r0, r1, r2⟩ := scope_row
  have hxc : ∀ x, live s.tree x = false → x ≠ c := fun x q e => by rw [e, hc] at q; cases q
  have : j = 0 ∨ j = 1 ∨ j = 2 := by omega
  rcases this with rfl | rfl | rfl
  · -- the package length returns no object; a `Scope` that stops here stays blank
    obtain rfl : a1 = none := R.pkgNone r0
    cases happ
    by_cases hok : a2 = .ok
    · exact Or.inl ⟨hok, by omega, fun _ => h.1 (by omega), fun e => by omega⟩
    · exact Or.inr ⟨hok, Or.inl (h.1 (by omega)).1⟩
  · -- the name
    obtain ⟨hok, _⟩ := R.simpleSome (by rw [r1]; decide) hnf
    obtain ⟨x, rfl, nm⟩ := R.name r1 hok
    obtain ⟨q1, q2, _⟩ := R.ret x rfl
    exact Or.inl ⟨hok, by omega, h.name happ.2 q2 nm (hxc x q1)⟩
  · -- the block
    obtain ⟨x, rfl, hop, _⟩ := R.block r2 hnf
    exact Or.inr ⟨R.stop (Or.inr r2), Or.inr (h.close happ.2 w1 hc1 hdr hop (hxc x (R.ret x rfl).1))⟩

/-- the row of a `Method` is not a deferred one: its package length returns `ok` -/
theorem _root_.Firefly.AmlParser.F.MethodArgs.step {d : Bytes} {s s1 s2 : PState} {c j : Nat} {a1 : Option Nat} {a2 : PRes}
    (h : MethodArgs s1.tree c j) (hj : j < 4) (hdr : MethodHdr s1.tree c)
    (R : ArgRes d s s1 methodInfoIdx c (argAt methodInfoIdx j) (a1, a2)) (hnf : a2 ≠ .failed) (happ : ArgHung c a1 s1 s2)
    (w1 : WF s1.tree) (hc : live s.tree c = true) (hc1 : live s1.tree c = true) :
    (a2 = .ok ∧ j + 1 < 4 ∧ MethodArgs s2.tree c (j + 1)) ∨ (a2 ≠ .ok ∧ MthC s2.tree c) := by
  obtain ⟨_, m0, m1, m2, m3⟩ := methodIdx_row
  have hxc : ∀ x, live s.tree x = false → x ≠ c := fun x q e => by rw [e, hc] at q; cases q
  have : j = 0 ∨ j = 1 ∨ j = 2 ∨ j = 3 := by omega
  rcases this with rfl | rfl | rfl | rfl
  · obtain rfl : a1 = none := R.pkgNone m0
    cases happ
    refine Or.inl ⟨?_, by omega, fun _ => h.1 (by omega), fun e => by omega, fun e => by omega⟩
    rcases R.pkgRes m0 with h0 | h0 | ⟨fl, hfl, hdf⟩
    · exact h0
    · exact absurd h0 hnf
    · rw [method_not_deferred fl hfl] at hdf; cases hdf
  · -- the name
    obtain ⟨hok, x, rfl⟩ := R.simpleSome (by rw [m1]; decide) hnf
    obtain ⟨q1, q2, _⟩ := R.ret x rfl
    exact Or.inl ⟨hok, by omega, h.name happ.2 q2 (R.name2 m1 hok x rfl) (hxc x q1)⟩
  · -- the flags
    obtain ⟨hok, x, rfl⟩ := R.simpleSome (by rw [m2]; decide) hnf
    obtain ⟨q1, q2, q3⟩ := R.ret x rfl
    exact Or.inl ⟨hok, by omega, h.flags happ.2 w1 hc1 q2 (R.byte2 m2 hok x rfl) (hxc x q1) q3⟩
  · -- the block
    obtain ⟨x, rfl, hop, hinf⟩ := R.block m3 hnf
    obtain ⟨q1, q2, q3⟩ := R.ret x rfl
    exact Or.inr ⟨R.stop (Or.inr m3), h.close happ.2 w1 hc1 hdr q2 hop hinf (hxc x q1) q3⟩

/-! The `append` of what `parseArg` returned (`ArgHung`) keeps the invariants: `curObj` may be touched while its arguments are read. -/

theorem _root_.Firefly.AmlParser.F.KP.hung {d : Bytes} {s1 s2 : PState} {c : Nat} {a : Option Nat} (h : F.KP d s1) (h2 : FP d s2)
    (k : ArgHung c a s1 s2) : F.KP d s2 := by
  cases a with
  | none => cases k; exact h
  | some x => exact h.append h2 k.1 k.2.pay k.2.pay.live

theorem _root_.Firefly.AmlParser.F.Both.hung {d : Bytes} {ex : Option Nat} {s s1 s2 : PState} {c : Nat} {a : Option Nat}
    (h : Both jf d ex s1) (w1 : WF s1.tree) (w2 : WF s2.tree) (k : ArgHung c a s1 s2) (hr : RetOK s s1 a)
    (hc1 : live s1.tree c = true) (t : Tch s1 ex c) : Both jf d ex s2 := by
  cases a with
  | none => cases k; exact h
  | some x => exact h.append w1 w2 k.1 (hr x rfl).2.2 hc1 t k.2.pay.live k.2.pay k.2.p k.2.nx k.2.fi

/-- the loop invariant after argument `j` (`s1`, `s2` as above) -/
theorem _root_.Firefly.AmlParser.F.ArgsInv.next {d : Bytes} {s s1 s2 : PState} {info c j : Nat} {a1 : Option Nat} {a2 : PRes}
    (sd : ArgsInv jf d s info c j) (hlt : j < argCnt info) (w : WF s.tree) (hc : live s.tree c = true)
    (w1 : WF s1.tree) (w2 : WF s2.tree) (g1 : SGrow (TCur s c) 2 s s1) (g2 : SGrow (TCur s c) 2 s s2)
    (R : ArgRes d s s1 info c (argAt info j) (a1, a2)) (hdir1 : Both jf d (exOf s c) s1) (hnf : a2 ≠ .failed)
    (happ : ArgHung c a1 s1 s2) :
    (a2 ≠ .ok → Both jf d none s2) ∧ (a2 = .ok → ArgsInv jf d s2 info c (j + 1)) := by
  have hc1 : live s1.tree c = true := g1.oldLive _ hc
  -- the parse of an argument of a `Scope` or `Method` left the object and the objects that existed alone
  have hkeep : exOf s c ≠ none → (∀ y, live s.tree y = true → y ≠ c → slot s1.tree y = slot s.tree y) ∧
      Fi s1.tree c = Fi s.tree c ∧ La s1.tree c = La s.tree c := fun hne =>
    (sd.leaf hlt hne).elim R.leaf fun hq => ⟨fun y hy _ => R.blockFrame hq y hy, congrArg Obj.firstArgIndex (R.blockFrame hq _ hc),
      congrArg Obj.lastArgIndex (R.blockFrame hq _ hc)⟩
  have hdir2 : Both jf d (exOf s c) s2 := hdir1.hung w1 w2 happ R.ret hc1 (exOf_kfr g1.kfr hc ▸ Tch.cur (sd.par.grow g1 w hc))
  have hpar2 := sd.par.grow g2 w hc
  have hcN2 : (slot s2.tree c).opcode ≠ opIntNamePathOrMethodCall := fun e => sd.ncall ((kfr_cK g2.kfr _ hc).1 e)
  by_cases hq : (slot s.tree c).opcode = opScope
  · obtain ⟨hi, hdr, A0⟩ := sd.scope hq
    have hE := exOf_pos (Or.inl hq)
    obtain ⟨k1, k2, k3⟩ := hkeep (by rw [hE]; exact Option.some_ne_none c)
    have hq2 : (slot s2.tree c).opcode = opScope := (g2.kfr.sK _ hc).2 hq
    rw [hE] at hdir2
    rcases (A0.congr w hc g1.oldLive k1 k2 k3).step (sd.scopeLt hlt hq) (hdr.grow g1 hc hq) (hi ▸ R) hnf happ w1 hc hc1 with
      ⟨hok, h3, A2⟩ | ⟨hnok, hcl⟩
    · exact ⟨fun h => absurd hok h, fun _ => ⟨by rw [hi, scope_row.1, if_pos h3, exOf_pos (Or.inl hq2)]; exact hdir2, hpar2, hcN2,
        fun _ => ⟨hi, hdr.grow g2 hc hq, A2⟩, fun e => absurd (hq2.symm.trans e) mth_ops.2.2.2.2.2.2.2.2.symm⟩⟩
    · exact ⟨fun _ => hdir2.closeDir hq2 hcl, fun h => absurd h hnok⟩
  · by_cases hqm : (slot s.tree c).opcode = opMethod
    · obtain ⟨hi, hdr, A0⟩ := sd.method hqm
      have hE := exOf_pos (Or.inr hqm)
      obtain ⟨k1, k2, k3⟩ := hkeep (by rw [hE]; exact Option.some_ne_none c)
      have hqm2 : (slot s2.tree c).opcode = opMethod := (g2.kfr.mK _ hc).2 hqm
      rw [hE] at hdir2
      rcases (A0.congr w hc g1.oldLive k1 k2 k3).step (sd.methodLt hlt hqm) (hdr.grow g1 hc hqm) (hi ▸ R) hnf happ w1 hc hc1 with
        ⟨hok, h4, A2⟩ | ⟨hnok, hcl⟩
      · exact ⟨fun h => absurd hok h, fun _ => ⟨by rw [hi, methodIdx_row.1, if_pos h4, exOf_pos (Or.inr hqm2)]; exact hdir2, hpar2, hcN2,
          fun e => absurd (hqm2.symm.trans e) mth_ops.2.2.2.2.2.2.2.2, fun _ => ⟨hi, hdr.grow g2 hc hqm, A2⟩⟩⟩
      · exact ⟨fun _ => hdir2.closeMth hqm2 hcl, fun h => absurd h hnok⟩
    · -- an object of another kind is no exception
      rw [exOf_neg hq hqm] at hdir2
      exact ⟨fun _ => hdir2, fun _ => .other hdir2 hpar2 hcN2 (fun e => hq ((g2.kfr.sK _ hc).1 e)) (fun e => hqm ((g2.kfr.mK _ hc).1 e))⟩

theorem args_stepW {d : Bytes} {f : Nat} (ih : SkipW jf d f) : ArgsW jf d (f + 1) := by
  intro s info curObj j pre hsk hpast
  have h := pre.fp
  have hc := pre.lv
  have hrow := pre.row
  have w := h.tree.wf
  have hcnt := rowFacts_cnt hrow
  refine parseArgs_rs pre
    (A := fun a s' => FP d s' ∧ Eff (TCur s curObj) 2 (if argAt info j = argTypeTermList then 1 else 0) s s' ∧
      ArgRes d s s' info curObj (argAt info j) a ∧
      Rides jf d (exOf s curObj) s s' (ArgSide jf d s curObj (argAt info j)) (a.2 ≠ .failed))
    (fun he => ⟨h, (Eff.refl s).weaken (Nat.zero_le _) (Nat.zero_le _), fun hS => ⟨hS, fun sd _ => sd.done he⟩⟩)
    (fun hlt pa => ?_) (fun a s1 p => ⟨p.1, p.2.1.sg, p.2.2.1.ret, p.2.2.1.byteData⟩) (fun hlt a1 a2 s1 s2 p hung h2 g2 => ?_)
  · -- a `ByteList` sits behind a `TermArg`, where the loop stopped
    have hnbl : argAt info j ≠ argTypeByteList := fun hq =>
      have ⟨q1, q2⟩ := rowFacts_bl hrow (by omega) hq
      hpast q1 q2
    exact (ih.arg info curObj (argAt info j) pa hsk hnbl).mono
      (fun hf => by unfold needArgs at hf; omega) (fun _ _ p => p)
  · have hj8 : j < 8 := by omega
    obtain ⟨h1, g1, R, k1⟩ := p
    dsimp only at k1
    have hs2 := hung.eq
    have hsc2 : s2.scopeStack = s1.scopeStack := by rw [hs2]
    have hpk2 : s2.pkgEndStack = s1.pkgEndStack := by rw [hs2]
    have hr2 : s2.r = s1.r := by rw [hs2]
    have e2 : Eff (TCur s curObj) 2 (if argAt info j = argTypeTermList then 1 else 0) s s2 :=
      ⟨g2, by rw [hsc2]; exact g1.st.sc, by rw [hpk2]; exact g1.st.pk, by rw [hsc2, hpk2]; exact g1.st.scpk,
        by rw [hpk2, hr2]; exact g1.st.pkoff⟩
    -- the invariants behind the `append`
    have k2 : F.KP d s → F.KP d s2 ∧ (ArgsInv jf d s info curObj j → a2 ≠ .failed →
        (a2 ≠ .ok → Both jf d none s2) ∧ (a2 = .ok → ArgsInv jf d s2 info curObj (j + 1))) := fun hS =>
      ⟨(k1 hS).1.hung h2 hung, fun sd hnf => sd.next hlt w hc h1.tree.wf h2.tree.wf g1.sg g2 R
        ((k1 hS).2 ⟨sd.cur hlt, sd.par, sd.leaf hlt, sd.ncall⟩ hnf) hnf hung⟩
    constructor
    · intro hok p2
      have hntl : argAt info j ≠ argTypeTermList := fun hq => R.stop (Or.inr hq) hok
      rw [if_neg hntl] at e2
      have hpast2 : 1 ≤ j + 1 → argAt info (j + 1 - 1) ≠ argTypeTermArg := fun _ hq => R.stop (Or.inl hq) hok
      refine (ih.args info curObj (j + 1) p2 (by rw [g2.same.1]; exact hsk) hpast2).mono (fun hf => needArgs_next hf (Nat.sub_le_sub_left g2.off _) hj8) ?_
      intro res s3 ⟨h3, g3, k3⟩
      refine ⟨h3, ⟨pre.comp hlt g2 g3.sg, ?_⟩, fun hS => ⟨(k3 (k2 hS).1).1, fun sd hnf =>
        (k3 (k2 hS).1).2 (((k2 hS).2 sd (by rw [hok]; decide)).2 hok) hnf⟩⟩
      by_cases hG1 : 1 ≤ j + 1 ∧ tlFrom info (j + 1) = true
      · have hGv : AmlParser.G info (j + 1) = 1 := by unfold AmlParser.G; rw [if_pos hG1]
        have g3s := g3.st
        rw [hGv] at g3s
        by_cases hj0 : j = 0
        · -- the `PkgLen` at index 0 pushed a pkgEnd
          obtain ⟨q1, q2⟩ := R.pkgStk (by rw [hj0]; exact tlFrom_pkg hrow hG1.2)
          exact (e2.st.afterPkg (by rw [hsc2]; exact q1) (by rw [hpk2]; exact q2 hok) g3s).weaken (Nat.zero_le _)
        · have hGj : AmlParser.G info j = 1 := by unfold AmlParser.G; rw [if_pos ⟨by omega, tlFrom_mono hG1.2⟩]
          rw [hGj]
          exact e2.st.trans g3s
      · have hGv : AmlParser.G info (j + 1) = 0 := by unfold AmlParser.G; rw [if_neg hG1]
        have g3s := g3.st
        rw [hGv] at g3s
        exact (e2.st.trans g3s).weaken (Nat.zero_le _)
    · intro hok
      have hGle : (if argAt info j = argTypeTermList then 1 else 0) ≤ AmlParser.G info j := by
        split
        · rename_i htl
          have := rowFacts_tl hrow hj8 htl
          unfold AmlParser.G
          rw [if_pos ⟨this.1, tlFrom_of_at hj8 htl⟩]
          exact Nat.le_refl _
        · exact Nat.zero_le _
      exact ⟨h2, e2.weaken (by omega) hGle, fun hS => ⟨(k2 hS).1, fun sd hnf => ((k2 hS).2 sd hnf).1 hok⟩⟩

theorem objArgs_stepW {d : Bytes} {f : Nat} (ih : SkipW jf d f) : ObjArgsW jf d (f + 1) := by
  intro s curObj pre hsk
  have ⟨h, hc, hrow, hatt, hb⟩ := pre
  have w := h.tree.wf
  refine parseObjectArgs_rs pre ?_ ?_
  · -- a constant: only the value of `curObj` changes
    intro res s' hk h' hp
    have hnm : (slot s.tree curObj).opcode ≠ opScope ∧ (slot s.tree curObj).opcode ≠ opMethod :=
      ⟨notScope_of_notK hk, fun hq => by rw [hq, isK_method] at hk; cases hk⟩
    have g : SGrow (TCur s curObj) 0 s s' := SGrow.ofPay hp (Or.inr (Or.inr rfl)) (Or.inl rfl) hc
    have hex := exOf_neg hnm.1 hnm.2
    exact ⟨h', ⟨g.weaken (by decide), Stk.ofEq hp.scope hp.pkg hp.off⟩,
      rides_grow h' g hp.scope w (fun sd => by have hb := sd.both; rwa [hex, ite_self] at hb)
        (fun sd => TOK.ofTCur ⟨Or.inr ⟨hnm, Or.inl sd.par⟩, sd.ncall⟩ sd.par w)
        (fun x h1 h2 => by rw [hp.links.live, h1] at h2; cases h2)⟩
  · refine (ih.args (slot s.tree curObj).infoIndex curObj 0 pre.args hsk (fun h0 => by omega)).mono (fun hf => by unfold needOA at hf; omega) ?_
    intro res s' ⟨h', g', k'⟩
    rw [AmlParser.G_zero] at g'
    refine ⟨h', g', fun hS => ⟨(k' hS).1, fun sd hq => (k' hS).2 sd ?_⟩⟩
    intro hf
    rw [hf] at hq
    exact hq (by decide)

/-- a fresh object `n` hung under the innermost scope (a scope block, which may be touched) rides, with `n` excepted if it is
a `Scope` or a `Method`; a name-or-call object comes with its path -/
theorem _root_.Firefly.AmlParser.S.HungNew.rides {d : Bytes} {s2 s5 s6 : PState} {n : Nat} {ok : Prop}
    (k : HungNew (TTop s2) s2 s5 s6 n (topOf s2)) (hne : s2.scopeStack.size ≠ 0) (h6 : FP d s6)
    (hv : (slot s6.tree n).opcode = opIntNamePathOrMethodCall → ∃ off len, (slot s6.tree n).value = .bytes off len) :
    Rides jf d (exOf s6 n) s2 s6 (Both jf d none s2) ok :=
  fun hS2 =>
    have ⟨_, htopl, htopm⟩ := scopeCurrent_top hS2.fp hne
    have htop := hS2.ns _ htopm
    rides_grow h6 k.sg k.scope hS2.fp.tree.wf (·.weaken _)
      (fun _ y e _ => by
        rw [e]; exact ⟨Or.inr ⟨⟨by rw [htop]; decide, by rw [htop]; decide⟩, Or.inr htop⟩, by rw [htop]; decide⟩)
      (fun x h1 h2 => by
        obtain rfl := k.only x h1 h2
        exact ⟨fun _ => k.fin htopl, fun ho => (exOf_pos (Or.inr ho)).symm,
          fun ho => ⟨by rw [k.par]; exact live_ne_INV hS2.fp.tree.wf.size_le htopl, hv ho⟩⟩) hS2

/-- `parseNamePathOrMethodCall()` in the first pass: a name-or-call object under the current scope; it calls nothing -/
theorem namePath_stepW {d : Bytes} (hd : d.size + 268435456 ≤ 4294967296) (f : Nat) {g : Prop} {s : PState}
    (h : FP d s) (hsk : s.allBlocks = false) (hne : s.scopeStack.size ≠ 0) (hb : Bud d 0 s) :
    Rs g (parseNamePathOrMethodCall d (f + 1)) s (fun res s' =>
      FP d s' ∧ Eff (TTop s) 0 0 s s' ∧ (res = .ok → s.r.offset < s'.r.offset) ∧ Rides jf d none s s' (Both jf d none s) (res ≠ .failed)) := by
  have hd' : d.size + 1024 ≤ 4294967296 := by omega
  have w := h.tree.wf
  unfold parseNamePathOrMethodCall
  refine Rs.step (lex_offset_ex s) (Rs.lex (rel_parseNameString' d hd') h fun sr r2 h2 ⟨hR2, _⟩ => ?_)
  have g12 : Eff (TTop s) 0 0 s { s with r := r2 } := Eff.ofLex rfl hR2.2.1
  have k2 : ∀ ok, Rides jf d none s { s with r := r2 } (Both jf d none s) ok := fun _ => rides_lex h2
  refine Rs.ite (fun _ => Rs.pure ⟨h2, g12, fun hq => (by cases hq), k2 _⟩) fun hok => ?_
  have hlt : s.r.offset < r2.offset := by
    rcases hR2.2.2.2 with ⟨_, hlt⟩ | hf
    · exact hlt
    · exact absurd (by rw [hf]; decide) hok
  refine Rs.step (allBlocks_ex _) (Rs.ite (fun _ => ?_) fun hc => absurd (by show (!s.allBlocks) = true; rw [hsk]; rfl) hc)
  unfold namePathOrCallObject
  have hb2 : Bud d 16 { s with r := r2 } := hb.consume rfl hlt h2.inv.1
  obtain ⟨n, s3, s4, e3, _, e4, h4, f4, _, hop4, _⟩ := newObjectAt_step h2 opIntNamePathOrMethodCall s.r.offset
    (hb2.mono (k' := 1) (by decide)).size_lt (infoOK_const (by decide))
  refine Rs.step e3 (Rs.step e4 ?_)
  obtain ⟨s5, e5, h5, hp5, hsl5, hr5⟩ := upd_step h4 f4.liven (fun o => { o with value := sliceVal sr.1 }) (fun _ => rfl) Iff.rfl
    (h4.tree.info _ f4.liven)
  refine Rs.step e5 ?_
  have f5 := f4.thenPay hp5
  obtain ⟨esc5, _, _⟩ := scopeCurrent_top h5 (by rw [f5.scope]; exact hne)
  rw [show topOf s5 = topOf s by unfold topOf; rw [f5.scope]] at esc5
  refine Rs.step esc5 (Rs.step (derefP_some_ex _) ?_)
  obtain ⟨_, htopl, _⟩ := scopeCurrent_top h hne
  obtain ⟨s6, e6, h6, k⟩ := hang_step (T := TTop s) h2 h5 f5 htopl rfl
  have hop6 : (slot s6.tree n).opcode = opIntNamePathOrMethodCall := by rw [pay_opcode k.pay, hsl5]; exact hop4
  have k6 := k.rides (jf := jf) (ok := True) (s2 := { s with r := r2 }) hne h6 fun _ => by
    rw [pay_value k.pay, hsl5]
    unfold sliceVal
    cases sr.1.data with
    | none => exact ⟨_, _, rfl⟩
    | some off => exact ⟨_, _, rfl⟩
  refine Rs.step e6 (Rs.pure ⟨h6, ?_, fun _ => Nat.lt_of_lt_of_le hlt k.eff.sg.off, fun hS => ?_⟩)
  · exact Eff.absorb rfl hlt k.eff (by omega)
  · obtain ⟨hS6, k6'⟩ := k6 (k2 True hS).1
    refine ⟨hS6, fun hdir _ => ?_⟩
    have hb6 := k6' ((k2 True hS).2 hdir trivial) trivial
    rwa [exOf_neg (by rw [hop6]; decide) (by rw [hop6]; decide)] at hb6

theorem next_stepW {d : Bytes} (hd : d.size + 268435456 ≤ 4294967296) {f : Nat} (ih : SkipW jf d f) : NextW jf d (f + 1) := by
  intro s h hsk hne hb
  have w := h.tree.wf
  refine parseNextObject_rs (by omega) h hne hb ?_ ?_ ?_
  · cases f with
    | zero =>
      unfold parseNamePathOrMethodCall
      exact Rs.fuel (fun hf => by unfold needNext needOA needArgs needArg needT at hf; omega)
    | succ f' => exact namePath_stepW hd f' h hsk hne hb
  · intro r2 h2 hlt
    exact ⟨h2, Eff.ofLex rfl (Nat.le_of_lt hlt), fun _ => hlt, rides_lex h2⟩
  · intro r2 n s4 s6 h2 hlt h4 k pre hinfo6 hbad hname
    have h6 := pre.fp
    obtain ⟨_, htopl, htopm⟩ := scopeCurrent_top h hne
    have htopINV : topOf s ≠ INV := live_ne_INV w.size_le htopl
    have hnC6 : (slot s6.tree n).opcode ≠ opIntNamePathOrMethodCall := fun e => by rw [e] at hbad; exact hbad target_ops.2.2.2.2
    refine Rs.mono (ih.objArgs (s := s6) n pre (by rw [k.sg.same.1]; exact hsk)) (fun hf => ?_) ?_
    · have hle : d.size - s6.r.offset ≤ d.size - s.r.offset :=
        Nat.sub_le_sub_left (Nat.le_trans (Nat.le_of_lt hlt) (show r2.offset ≤ s6.r.offset from k.sg.off)) _
      unfold needNext at hf
      unfold needOA needArgs needArg needT at hf ⊢
      omega
    · intro res s7 ⟨h7, g7, k7⟩
      refine ⟨h7, ?_, fun _ => by have : r2.offset ≤ s6.r.offset := k.sg.off; have := g7.sg.off; omega, fun hS => ?_⟩
      · exact Eff.absorb rfl hlt (k.eff.thenCur g7 w k.fresh.nlive (Or.inr k.par)) (by omega)
      · have k2' := rides_lex (jf := jf) (ok := True) h2 hS
        obtain ⟨hS6, k6'⟩ := k.rides (jf := jf) (ok := True) (s2 := { s with r := r2 }) hne h6 (fun e => absurd e hnC6) k2'.1
        refine ⟨(k7 hS6).1, fun hdir hnf7 => (k7 hS6).2 ?_ hnf7⟩
        have hfi6 := k.fin htopl
        exact .new (k6' (k2'.2 hdir trivial) trivial) (Or.inr (by rw [k.par]; exact hS6.ns _ (by rw [k.scope]; exact htopm))) hnC6 hfi6
          ((h6.tree.wf.lP k.liven).ends.1 hfi6) hinfo6 (by rw [pay_name k.pay, hname]; exact k2'.1.fn n k.fresh.nlive)
          (by rw [k.par]; exact htopINV)

theorem skipW {d : Bytes} (hd : d.size + 268435456 ≤ 4294967296) (f : Nat) : SkipW jf d f := by
  induction f with
  | zero =>
    have nf : ∀ {α : Type} {n : Nat} {s : PState} {Q : α → PState → Prop}, 2 ≤ n → Rs (n ≤ 0) (throw .outOfFuel : P α) s Q :=
      fun hn => Rs.fuel (by omega)
    refine ⟨?_, ?_, ?_, ?_, ?_⟩
    · intro s _ _ _; unfold parseTarget; exact nf (by unfold needT; omega)
    · intro s i c a _ _ _; unfold parseArg; exact nf (by unfold needArg needT; omega)
    · intro s i c j _ _ _; unfold parseArgs; exact nf (by unfold needArgs needArg needT; omega)
    · intro s c _ _; unfold parseObjectArgs; exact nf (by unfold needOA needArgs needArg needT; omega)
    · intro s _ _ _ _; unfold parseNextObject; exact nf (by unfold needNext needOA needArgs needArg needT; omega)
  | succ f ih => exact ⟨target_stepW hd ih, arg_stepW hd ih, args_stepW ih, objArgs_stepW ih, next_stepW hd ih⟩

/-! ### The contracts `G.FirstPassTot` (enough fuel: a result) and `F.FNP` (every fuel: no panic, the invariants) -/

theorem SkipW.tot {d : Bytes} {f : Nat} (h : SkipW jf d f) : FirstPassTot d f where
  target hp hsk hb hf := ((h.target hp hsk hb).2 hf).mono fun _ _ ⟨h', e, r, _⟩ => ⟨h', e.grow, r⟩
  arg info curObj argType hp hsk hc hinfo hb hnbl hfl hf :=
    ((h.arg info curObj argType ⟨hp, hc, hinfo, hb, hfl⟩ hsk hnbl).2 hf).mono fun _ _ ⟨h', e, r, _⟩ =>
      ⟨h', e.grow, r.ret, r.byteData, r.pkgStk, r.stop⟩
  args info curObj j hp hsk hc hinfo hrow hj hb hatt hprev hpast hf :=
    ((h.args info curObj j ⟨hp, hc, hinfo, hrow, hj, hb, hatt, hprev⟩ hsk hpast).2 hf).mono fun _ _ ⟨h', e, _⟩ => ⟨h', e.grow⟩
  objectArgs curObj hp hsk hc hrow hatt hb hf :=
    ((h.objArgs curObj ⟨hp, hc, hrow, hatt, hb⟩ hsk).2 hf).mono fun _ _ ⟨h', e, _⟩ => ⟨h', e.grow⟩
  nextObject hp hsk hne hb hf :=
    ((h.next hp hsk hne hb).2 hf).mono fun _ _ ⟨h', e, p, _⟩ => ⟨h', e.grow, p⟩

theorem SkipW.fnp {d : Bytes} {f : Nat} (h : SkipW jf d f) : FNP jf d f where
  target hS hdir hb := (h.target hS.fp hS.sk hb).1.mono fun _ _ ⟨_, e, r, k⟩ => ⟨⟨(k hS).1, e.sg, e.st.sc, (k hS).2 hdir⟩, r⟩
  arg info curObj argType ex hS hc hinfo hb hnbl hfl hdir hexP hcS hpar hexL hcN := by
    cases exOf_eq hexP hcS
    exact (h.arg info curObj argType ⟨hS.fp, hc, hinfo, hb, hfl⟩ hS.sk hnbl).1.mono fun _ _ ⟨_, e, r, k⟩ =>
      ⟨⟨(k hS).1, e.sg, e.st.sc, (k hS).2 ⟨hdir, hpar, hexL, hcN⟩⟩, r.ret, r.leaf, r.byteData, r.pkgNone, r.simple, r.name,
        r.block, r.stop, r.infoK, r.blockFrame, r.simpleRes, r.name2, r.byte2, r.pkgRes⟩
  args info curObj j hS hc hinfo hrow hj hb hatt hprev hpast hdx hcons hconsM hpar hcN :=
    (h.args info curObj j ⟨hS.fp, hc, hinfo, hrow, hj, hb, hatt, hprev⟩ hS.sk hpast).1.mono fun _ _ ⟨_, e, k⟩ =>
      ⟨(k hS).1, e.sg, e.st.sc, (k hS).2 (.ofDIRx hdx (fun q _ => hcons q) (fun q _ => hconsM q) hpar hcN)⟩
  objArgs curObj hS hc hrow hatt hb hdx hpar hcN :=
    (h.objArgs curObj ⟨hS.fp, hc, hrow, hatt, hb⟩ hS.sk).1.mono fun _ _ ⟨_, e, k⟩ =>
      ⟨(k hS).1, e.sg, e.st.sc, (k hS).2 (.ofDIRx hdx (fun _ e => e) (fun _ e => e) hpar hcN)⟩
  next hS hdir hne hb :=
    (h.next hS.fp hS.sk hne hb).1.mono fun _ _ ⟨_, e, _, k⟩ => ⟨(k hS).1, e.sg, e.st.sc, (k hS).2 hdir⟩


theorem _root_.Firefly.AmlParser.G.firstPassTot {d : Bytes} (hd : d.size + 268435456 ≤ 4294967296) (f : Nat) : FirstPassTot d f :=
  (skipW (jf := False) hd f).tot

theorem _root_.Firefly.AmlParser.F.fnp {d : Bytes} (hd : d.size + 268435456 ≤ 4294967296) (f : Nat) : FNP jf d f := (skipW hd f).fnp

/-! ### The loops of `parseObjectList` and the first pass -/

theorem objectListInner_W {d : Bytes} (hd : d.size + 268435456 ≤ 4294967296) (fuel : Nat) :
    ∀ (n : Nat) {s : PState}, FP d s → s.allBlocks = false → s.scopeStack.size ≠ 0 → Bud d 0 s →
      Rs (needNext (d.size - s.r.offset) ≤ fuel ∧ d.size - s.r.offset + 1 ≤ n) (objectListInner d fuel n) s
        (fun b s' => FP d s' ∧ Eff (fun _ => True) 0 0 s s' ∧ Rides jf d none s s' (Both jf d none s) (b = true)) := by
  intro n
  induction n with
  | zero => intro s _ _ _ _; unfold objectListInner; exact Rs.fuel (fun hg => by omega)
  | succ n ih =>
    intro s h hsk hne hb
    unfold objectListInner
    refine Rs.step (lex_eof_ex s) ?_
    by_cases he : s.r.eof = true
    · rw [if_pos he]
      exact Rs.pure ⟨h, Eff.refl s, Rides.refl⟩
    · rw [if_neg he]
      refine Rs.bind ((skipW (jf := jf) hd fuel).next h hsk hne hb) (fun hg => hg.1) ?_
      intro res s2 ⟨h2, g2, hprog, k2⟩
      have g2' : Eff (fun _ => True) 0 0 s s2 := g2.mono h.tree.wf (fun _ _ _ => trivial)
      by_cases hok : res = .ok
      · rw [if_neg (by rw [hok]; decide)]
        have hlt := hprog hok
        have hi2 := h2.inv.1
        refine (ih h2 (by rw [g2.sg.same.1]; exact hsk) (by have := g2.st.sc; omega) (budS hb g2.sg hi2 (Nat.le_refl _))).mono
          (fun hg => ⟨Nat.le_trans (needNext_mono (by omega)) hg.1, by omega⟩) ?_
        intro b3 s3 ⟨h3, g3, k3⟩
        exact ⟨h3, g2'.trans g3, k2.trans k3 (fun hb => ⟨by rw [hok]; decide, hb⟩)⟩
      · rw [if_pos hok]
        exact Rs.pure ⟨h2, g2', fun hS => ⟨(k2 hS).1, fun _ hq => by cases hq⟩⟩

/-- the termination measure of `parseObjectList` is "bytes left + open pkgEnds": the inner loop does not raise it (every
pkgEnd it pushes is paid for by a byte, `Stk.pkoff`) and the pop behind it lowers it.  `o`, `pk`, `sc` are the offset and
the two stack sizes before the inner loop, `o1`, `pk1`, `sc1` after it, `sc2` the scope stack after the optional exit;
the conclusion is the guard of the next round, after one pkgEnd was popped -/
theorem loop_measure {D o o1 pk pk1 sc sc1 sc2 fuel n : Nat} (ho : o ≤ o1) (hi : o1 ≤ D) (hscpk : sc1 + pk ≤ sc + pk1)
    (hpkoff : pk1 + o ≤ pk + o1) (hsc2 : sc1 ≤ pk1 → sc2 + 1 ≤ pk1) (q1 : sc ≤ pk) (q3 : D - o + 1 ≤ fuel)
    (q4 : D - o + pk + 1 ≤ n + 1) :
    sc2 ≤ pk1 - 1 ∧ D - o1 ≤ D - o ∧ D - o1 + 1 ≤ fuel ∧ D - o1 + (pk1 - 1) + 1 ≤ n := by
  omega

theorem parseObjectList_W {d : Bytes} (hd : d.size + 268435456 ≤ 4294967296) (fuel : Nat) :
    ∀ (n : Nat) {s : PState}, FP d s → s.allBlocks = false → Bud d 0 s →
      Rs (s.scopeStack.size ≤ s.pkgEndStack.size ∧ needNext (d.size - s.r.offset) ≤ fuel ∧ d.size - s.r.offset + 1 ≤ fuel ∧
          d.size - s.r.offset + s.pkgEndStack.size + 1 ≤ n) (parseObjectList d fuel n) s
        (fun res s' => FP d s' ∧ SGrow (fun _ => True) 0 s s' ∧ Rides jf d none s s' (Both jf d none s) (res ≠ .failed) ∧
          (res ≠ .failed → s'.scopeStack.size = 0)) := by
  intro n
  induction n with
  | zero => intro s _ _ _; unfold parseObjectList; exact Rs.fuel (fun hg => by omega)
  | succ n ih =>
    intro s h hsk hb
    unfold parseObjectList
    have e0 : stackSizes s = .ok ((s.pkgEndStack.size, s.scopeStack.size), s) := rfl
    refine Rs.step e0 ?_
    by_cases hz : s.scopeStack.size = 0
    · rw [if_pos hz]
      exact Rs.pure ⟨h, SGrow.refl s, Rides.refl, fun _ => hz⟩
    · rw [if_neg hz]
      refine Rs.bind (objectListInner_W (jf := jf) hd fuel fuel h hsk hz hb) (fun hg => ⟨hg.2.1, hg.2.2.1⟩) ?_
      intro b s1 ⟨h1, g1, k1⟩
      by_cases hbt : b = true
      · rw [hbt]
        simp only [Bool.not_true, Bool.false_eq_true, ↓reduceIte]
        have e2 : stackSizes s1 = .ok ((s1.pkgEndStack.size, s1.scopeStack.size), s1) := rfl
        refine Rs.step e2 ?_
        have hne1 : s1.scopeStack.size ≠ 0 := by have := g1.st.sc; omega
        have hi1 := h1.inv.1
        have hsk1 : s1.allBlocks = false := by rw [g1.sg.same.1]; exact hsk
        -- what follows the optional `scopeExit`, from a state that differs from `s1` in the scope stack only
        have cont : ∀ s2 : PState, FP d s2 → s2 = { s1 with scopeStack := s2.scopeStack } →
            (∀ x ∈ s2.scopeStack.toList, x ∈ s1.scopeStack.toList) →
            (s1.scopeStack.size ≤ s1.pkgEndStack.size → s2.scopeStack.size + 1 ≤ s1.pkgEndStack.size) →
            Rs (s.scopeStack.size ≤ s.pkgEndStack.size ∧ needNext (d.size - s.r.offset) ≤ fuel ∧ d.size - s.r.offset + 1 ≤ fuel ∧
                d.size - s.r.offset + s.pkgEndStack.size + 1 ≤ n + 1) (popPkgEnd d >>= fun _ => parseObjectList d fuel n) s2
              (fun res s' => FP d s' ∧ SGrow (fun _ => True) 0 s s' ∧ Rides jf d none s s' (Both jf d none s) (res ≠ .failed) ∧
                (res ≠ .failed → s'.scopeStack.size = 0)) := by
          intro s2 h2 hs2 hst2 hsc2
          obtain ⟨_, s3, e3, h3, hs3, ho3⟩ := popPkgEnd_step h2
          refine Rs.step e3 ?_
          have ht3 : s3.tree = s1.tree := by rw [hs3, hs2]
          have hsame3 : s3.allBlocks = s1.allBlocks ∧ s3.tableHandle = s1.tableHandle ∧ s3.streamEnd = s1.streamEnd := by
            rw [hs3, hs2]; exact ⟨rfl, rfl, rfl⟩
          have ho31 : s3.r.offset = s1.r.offset := by rw [ho3, hs2]
          have hpk3 : s3.pkgEndStack.size = s1.pkgEndStack.size - 1 := by rw [hs3, hs2]; simp only [Array.size_pop]
          have hsc3 : s3.scopeStack = s2.scopeStack := by rw [hs3]
          have hb3 : Bud d 0 s3 := by
            have := budS hb g1.sg hi1 (Nat.le_refl _)
            unfold Bud at this ⊢; rw [ht3, ho31]; exact this
          refine (ih h3 (by rw [hsame3.1]; exact hsk1) hb3).mono ?_ ?_
          · intro ⟨q1, q2, q3, q4⟩
            obtain ⟨a1, a2, a3, a4⟩ := loop_measure (pk1 := s1.pkgEndStack.size) g1.sg.off hi1 g1.st.scpk g1.st.pkoff hsc2 q1 q3 q4
            exact ⟨by rw [hsc3, hpk3]; exact a1, by rw [ho31]; exact Nat.le_trans (needNext_mono a2) q2, by rw [ho31]; exact a3,
              by rw [ho31, hpk3]; exact a4⟩
          · intro res s4 ⟨h4, g4, k4, hz4⟩
            have g13 : SGrow (fun _ => True) 0 s1 s3 := SGrow.ofSame ht3 (Nat.le_of_eq ho31.symm) hsame3
            exact ⟨h4, (g1.sg.trans g13).trans g4, (k1.trans (rides_ofTree h3 ht3 hsame3 (fun x hx => hst2 x (by rw [← hsc3]; exact hx)))
              (fun o => ⟨hbt, o⟩)).trans k4 (fun o => ⟨o, o⟩), hz4⟩
        refine Rs.ite (fun heq => ?_) fun _ => cont s1 h1 rfl (fun x hx => hx) (fun _ => by omega)
        · obtain ⟨s2, e2', h2, hs2⟩ := scopeExit_step h1 hne1
          refine Rs.step e2' (cont s2 h2 (by rw [hs2]) ?_ ?_)
          · intro x hx
            rw [hs2] at hx
            simp only [Array.toList_pop] at hx
            exact (List.dropLast_sublist _).subset hx
          · intro _
            rw [hs2]; show s1.scopeStack.pop.size + 1 ≤ _
            simp only [Array.size_pop]; omega
      · rw [Bool.eq_false_iff.mpr hbt]
        simp only [Bool.not_false, ↓reduceIte]
        exact Rs.pure ⟨h1, g1.sg, fun hS => ⟨(k1 hS).1, fun _ hq => absurd rfl hq⟩, fun hq => absurd rfl hq⟩

/-- **the first pass** of a table below 256 MiB into any well-formed pool with room for 16 objects per table byte: it
never panics, with fuel ≥ 13·len + 13 it returns, the pool stays well formed and grows by at most 16 objects per byte;
and if the root was a parentless scope block, freed slots carried no name and no `Scope` left by an earlier table
carried this handle, then unless the pass fails it leaves `MIJ` and an empty scope stack -/
theorem firstPass_rs {d : Bytes} (hd : d.size + 268435456 ≤ 4294967296) {s : PState} (ht : TreeG s.tree)
    (hsz : s.tree.pool.size + 16 * d.size ≤ INV) (fuel handle : Nat) :
    Rs (13 * d.size + 13 ≤ fuel) (firstPass d fuel handle) s (fun res s' =>
      FP d s' ∧ s'.tree.pool.size ≤ s.tree.pool.size + 16 * d.size ∧
      (RootSB s → FN s →
        (∀ x, live s.tree x = true → (slot s.tree x).opcode = opScope → (slot s.tree x).tableHandle ≠ handle) →
        (jf → MInv s ∧ CSA s) → res ≠ .failed → MIJ jf d s' ∧ s'.scopeStack.size = 0)) := by
  refine Rs.congr (F.firstPass_eq d fuel handle s) ?_
  generalize hs3 : F.initState d handle s = s3
  have h3 : FP d s3 := hs3 ▸ F.initState_fp ht handle
  have ht3 : s3.tree = s.tree := by rw [← hs3]; rfl
  have hsc3 : s3.scopeStack = #[0] := by rw [← hs3]; rfl
  have hpk3 : s3.pkgEndStack = #[d.size] := by rw [← hs3]; rfl
  have hab3 : s3.allBlocks = false := by rw [← hs3]; rfl
  have hb3 : Bud d (INV - (s.tree.pool.size + 16 * d.size)) s3 := by unfold Bud; rw [ht3]; omega
  refine (parseObjectList_W (jf := jf) hd fuel fuel h3 hab3 (hb3.mono (Nat.zero_le _))).mono ?_ ?_
  · intro hf
    refine ⟨by rw [hsc3, hpk3]; exact Nat.le_refl _, ?_, by omega, ?_⟩
    · unfold needNext needOA needArgs needArg needT; omega
    · rw [hpk3]; show d.size - s3.r.offset + 1 + 1 ≤ fuel; omega
  · intro res s4 ⟨h4, g4, k4, hz4⟩
    refine ⟨h4, ?_, fun hroot hfn hh hmth hq => ?_⟩
    · have := budS hb3 g4 h4.inv.1 (Nat.zero_le _)
      unfold Bud at this; omega
    · have k4' := k4 (hs3 ▸ KP.init ht handle hroot hfn)
      have hr3 : RootSB s3 := hroot.ofTree ht3
      exact ⟨(k4'.2 (hs3 ▸ Both.init handle hh hmth) hq).mij h4 (hr3.grow g4 h3.tree.root)
        fun hb => (RootI.ofTree (s := s) (hmth hb).1.rootI ht3).grow hr3 g4 h3.tree.root, hz4 hq⟩

/-- total correctness from any well-formed pool -/
theorem _root_.Firefly.AmlParser.G.firstPass_tot {d : Bytes} (hd : d.size + 268435456 ≤ 4294967296) {s : PState} (ht : TreeG s.tree)
    (hsz : s.tree.pool.size + 16 * d.size ≤ INV) (fuel handle : Nat) (hfuel : 13 * d.size + 13 ≤ fuel) :
    ∃ res s', firstPass d fuel handle s = .ok (res, s') ∧ FP d s' :=
  ((firstPass_rs (jf := False) hd ht hsz fuel handle).2 hfuel).mono fun _ _ hq => hq.1

/-- the first pass establishes `MIJ` -/
theorem _root_.Firefly.AmlParser.F.firstPass_mi {d : Bytes} (hd : d.size + 268435456 ≤ 4294967296) {s : PState} (ht : TreeG s.tree)
    (hsz : s.tree.pool.size + 16 * d.size ≤ INV) (fuel handle : Nat) (hroot : RootSB s) (hfn : FN s)
    (hh : ∀ x, live s.tree x = true → (slot s.tree x).opcode = opScope → (slot s.tree x).tableHandle ≠ handle)
    (hmth : jf → MInv s ∧ CSA s) :
    NPs (firstPass d fuel handle) s (fun res s' => FP d s' ∧ s'.tree.pool.size ≤ s.tree.pool.size + 16 * d.size ∧
      (res ≠ .failed → MIJ jf d s' ∧ s'.scopeStack.size = 0)) :=
  (firstPass_rs hd ht hsz fuel handle).1.mono fun _ _ ⟨h', hp, k⟩ => ⟨h', hp, k hroot hfn hh hmth⟩

end Firefly.AmlParser.Sk
