/-! Machine words read as numbers: what a shift or a mask by a constant does to `toNat` (core Lean only).
Every file that reasons about words goes to `Nat` through these and then argues with `/` and `%` by powers of two. -/
namespace Firefly.Bits
variable {w : Nat}

theorem toNat_shr (x : BitVec w) (n : Nat) : (x >>> n).toNat = x.toNat / 2 ^ n := by
  rw [BitVec.toNat_ushiftRight, Nat.shiftRight_eq_div_pow]

theorem toNat_shl (x : BitVec w) (n : Nat) : (x <<< n).toNat = x.toNat * 2 ^ n % 2 ^ w := by
  rw [BitVec.toNat_shiftLeft, Nat.shiftLeft_eq]

theorem getLsbD_of_toNat_lt {x : BitVec w} {k i : Nat} (hx : x.toNat < 2 ^ k) (hi : k ≤ i) : x.getLsbD i = false :=
  Nat.testBit_lt_two_pow (Nat.lt_of_lt_of_le hx (Nat.pow_le_pow_right (by decide) hi))

theorem toNat_lowmask {k : Nat} (hk : k ≤ w) : (BitVec.ofNat w (2 ^ k - 1)).toNat = 2 ^ k - 1 :=
  Nat.mod_eq_of_lt (Nat.lt_of_lt_of_le (Nat.sub_one_lt (Nat.ne_of_gt (Nat.two_pow_pos k))) (Nat.pow_le_pow_right (by decide) hk))

theorem toNat_and_lowmask (x : BitVec w) (k : Nat) (hk : k ≤ w) :
    (x &&& BitVec.ofNat w (2 ^ k - 1)).toNat = x.toNat % 2 ^ k := by
  rw [BitVec.toNat_and, toNat_lowmask hk, Nat.and_two_pow_sub_one_eq_mod]

theorem lowmask_getLsbD (k i : Nat) (hi : i < w) :
    (BitVec.ofNat w (2^k - 1)).getLsbD i = decide (i < k) := by
  rw [BitVec.getLsbD_ofNat, Nat.testBit_two_pow_sub_one]; simp [hi]

theorem lowmask_and {x : BitVec w} {k : Nat} (hx : x.toNat < 2 ^ k) : BitVec.ofNat w (2 ^ k - 1) &&& x = x := by
  apply BitVec.eq_of_getLsbD_eq
  intro i hi
  rw [BitVec.getLsbD_and, lowmask_getLsbD k i hi]
  by_cases h : i < k
  · rw [decide_eq_true h, Bool.true_and]
  · rw [getLsbD_of_toNat_lt hx (Nat.le_of_not_lt h), Bool.and_false]

theorem shl_and_lowmask (x : BitVec w) (k : Nat) : (x <<< k) &&& BitVec.ofNat w (2 ^ k - 1) = 0#w := by
  apply BitVec.eq_of_getLsbD_eq
  intro i hi
  rw [BitVec.getLsbD_and, lowmask_getLsbD k i hi, BitVec.getLsbD_shiftLeft, BitVec.getLsbD_zero]
  by_cases h : i < k <;> simp [h]

theorem and_not_lowmask (x : BitVec w) (k : Nat) :
    x &&& ~~~(BitVec.ofNat w (2^k - 1)) = (x >>> k) <<< k := by
  apply BitVec.eq_of_getLsbD_eq
  intro i hi
  simp only [BitVec.getLsbD_and, BitVec.getLsbD_not, BitVec.getLsbD_shiftLeft,
    BitVec.getLsbD_ushiftRight, lowmask_getLsbD k i hi, hi, decide_true, Bool.true_and]
  by_cases h : i < k
  · simp [h]
  · simp [h]
    congr 1; omega

theorem toNat_and_not_lowmask (x : BitVec w) (k : Nat) :
    (x &&& ~~~(BitVec.ofNat w (2^k - 1))).toNat = x.toNat / 2^k * 2^k := by
  rw [and_not_lowmask, toNat_shl, toNat_shr]
  exact Nat.mod_eq_of_lt (Nat.lt_of_le_of_lt (Nat.div_mul_le_self _ _) x.isLt)

theorem toNat_not_lowmask (k : Nat) (hk : k ≤ w) : (~~~BitVec.ofNat w (2 ^ k - 1)).toNat = 2 ^ w - 2 ^ k := by
  rw [BitVec.toNat_not, toNat_lowmask hk, Nat.sub_sub, Nat.add_sub_cancel' (Nat.two_pow_pos k)]

theorem toNat_roundUp (x : BitVec w) (k : Nat) (h : x.toNat + (2 ^ k - 1) < 2 ^ w) :
    ((x + BitVec.ofNat w (2 ^ k - 1)) &&& ~~~BitVec.ofNat w (2 ^ k - 1)).toNat =
      (x.toNat + (2 ^ k - 1)) / 2 ^ k * 2 ^ k := by
  rw [toNat_and_not_lowmask, BitVec.toNat_add, BitVec.toNat_ofNat, Nat.mod_eq_of_lt (Nat.lt_of_le_of_lt (Nat.le_add_left ..) h),
    Nat.mod_eq_of_lt h]

theorem twoPow_ne_zero {i : Nat} (hi : i < w) : BitVec.twoPow w i ≠ 0#w := fun h => by
  have := congrArg (·.getLsbD i) h
  simp [BitVec.getLsbD_twoPow, hi] at this

theorem and_twoPow_eq_zero (x : BitVec w) {i : Nat} (hi : i < w) :
    x &&& BitVec.twoPow w i = 0#w ↔ x.getLsbD i = false := by
  rw [BitVec.and_twoPow]
  cases x.getLsbD i
  · exact iff_of_true rfl rfl
  · exact iff_of_false (twoPow_ne_zero hi) nofun

theorem and_two_pow_ne_zero (x k : Nat) : x &&& 2 ^ k ≠ 0 ↔ (x >>> k) % 2 = 1 := by
  rw [Nat.shiftRight_eq_div_pow, ← decide_eq_true_iff (p := _ % 2 = 1), ← Nat.testBit_eq_decide_div_mod_eq]
  constructor
  · intro h
    obtain ⟨i, hi⟩ := Nat.exists_testBit_of_ne_zero h
    rw [Nat.testBit_and, Nat.testBit_two_pow, Bool.and_eq_true, decide_eq_true_iff] at hi
    rw [hi.2]; exact hi.1
  · intro h h0
    have : (x &&& 2 ^ k).testBit k = true := by rw [Nat.testBit_and, h, Nat.testBit_two_pow_self]; rfl
    rw [h0, Nat.zero_testBit] at this; cases this

/-- the models' way of writing an unsigned subtraction modulo `M`, where nothing wraps -/
theorem wrap_sub {a b M : Nat} (hb : b ≤ a) (ha : a < M) : (a + M - b) % M = a - b := by
  rw [Nat.sub_add_comm hb, Nat.add_mod_right, Nat.mod_eq_of_lt (Nat.lt_of_le_of_lt (Nat.sub_le ..) ha)]

/-! The page mask as the models and the generated expressions write it, `PageSize - 1`. -/

theorem pageMask_eq : (4096#64 - 1 : BitVec 64) = BitVec.ofNat 64 (2 ^ 12 - 1) := by decide

theorem toNat_and_mask12 (x : BitVec 64) : (x &&& ~~~(4096#64 - 1)).toNat = x.toNat / 4096 * 4096 := by
  rw [pageMask_eq]; exact toNat_and_not_lowmask x 12

/-- page rounding where the Go code's guard `size > ^(PageSize-1)` is false: then the sum does not wrap -/
theorem toNat_roundUp12 (x : BitVec 64) (h : ¬ x > ~~~(4096#64 - 1)) :
    ((x + (4096#64 - 1)) &&& ~~~(4096#64 - 1)).toNat = (x.toNat + 4095) / 4096 * 4096 := by
  rw [pageMask_eq] at h ⊢
  rw [gt_iff_lt, BitVec.lt_def, toNat_not_lowmask 12 (by decide)] at h
  exact toNat_roundUp x 12 (by omega)

end Firefly.Bits
