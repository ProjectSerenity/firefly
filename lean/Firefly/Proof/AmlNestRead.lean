import Firefly.Proof.AmlNodes
/-!
C11, the nested fragment: what `nsWalk` and `callWalk` read off a connected node — its namespace entries, and no call site.
-/
namespace Firefly.AmlParser.F
open Firefly.AmlLex Firefly.AmlTree Firefly.C13 Firefly.AmlParser Firefly.AmlParser.G Firefly.AmlParser.S
open Firefly.Gen.C12 Firefly.AmlProg Firefly.AmlNs

theorem treeDesc_dval (t : ObjectTree) (tables : Array Bytes) (c : Nat) (o : AmlTree.Obj) (dv : DVal) (h : o.opcode = dv.op) :
    treeDesc t tables c o = none ∧ o.opcode ≠ 0x1f6 ∧ o.opcode ≠ 0x1fd := by
  cases dv with
  | int w v =>
    obtain ⟨k1, k2, k3, _⟩ := treeDesc_const t tables c o w v h
    exact ⟨k1, k2, k3⟩
  | str s =>
    unfold treeDesc
    rw [h]
    simp [DVal.op]

/-- **`treeDataDesc` reads the declared data back**: the integer, or the hexadecimal bytes of the string taken from the table
of the object's handle -/
theorem treeData_dval {d : Bytes} {t : ObjectTree} {k : Nat} {dv : DVal} (tables : Array Bytes) (hl : live t k = true)
    (hop : (slot t k).opcode = dv.op) (hd : DataAt d t k dv) (htab : tables.getD ((slot t k).tableHandle - 1) #[] = d) :
    treeDataDesc t tables 64 k = dv.desc := by
  rw [show (64 : Nat) = 63 + 1 from rfl, treeDataDesc, pool_live hl]
  cases dv with
  | int w v =>
    obtain ⟨_, _, _, k4, k5, k6⟩ := treeDesc_const t tables k (slot t k) w v hop
    simp only [if_neg k4, if_neg k5, if_neg k6]
    exact intOf_eq hl hd
  | str s =>
    obtain ⟨off, hv, hb⟩ := hd
    have h13 : (slot t k).opcode = 0x0d := hop
    simp only [h13, if_true]
    unfold valHex DVal.desc
    rw [hv]
    simp only [htab, sliceBytes_of_bytesAt hb]


/-- an object the namespace walk and the call-site walk pass in silence: childless, and no entry of its own -/
structure Silent (t : ObjectTree) (tables : Array Bytes) (y : Nat) : Prop where
  lv : live t y = true
  k : K t y = []
  desc : treeDesc t tables y (slot t y) = none
  nsb : (slot t y).opcode ≠ 0x1f6
  ncall : (slot t y).opcode ≠ 0x1fd

theorem Silent.ns {t : ObjectTree} {tables : Array Bytes} {y : Nat} (q : Silent t tables y) (f i : Nat) (π : AmlProg.Path) :
    nsStep t tables (f + 1) i π y = [] := nsStep_leaf tables f i π q.lv q.k q.nsb q.desc

theorem Silent.call {t : ObjectTree} {tables : Array Bytes} {y : Nat} (q : Silent t tables y) (f : Nat) :
    callStep t (f + 1) y = [] := callStep_nil (f + 1) q.lv q.ncall (callWalk_leaf t f y q.k)

theorem silent_path {t : ObjectTree} {c : Nat} (tables : Array Bytes) (lc : live t c = true) (kc : K t c = [])
    (opc : (slot t c).opcode = opIntNamePath) : Silent t tables c :=
  have ⟨c1, c2, c3⟩ := treeDesc_path t tables c (slot t c) opc
  ⟨lc, kc, c1, c2, c3⟩

theorem ConstT.silent {t : ObjectTree} {h x : Nat} {a : CArg} (c : ConstT t h x a) (tables : Array Bytes) : Silent t tables a.e :=
  have ⟨k1, k2, k3, _⟩ := treeDesc_const t tables a.e (slot t a.e) _ _ c.op
  ⟨c.le, c.ke, k1, k2, k3⟩

theorem args_silent {t : ObjectTree} {h x c : Nat} {es : List CArg} (tables : Array Bytes) (lc : live t c = true) (kc : K t c = [])
    (opc : (slot t c).opcode = opIntNamePath) (args : ∀ a ∈ es, ConstT t h x a) : ∀ y ∈ c :: es.map (·.e), Silent t tables y := by
  intro y hy
  rcases List.mem_cons.1 hy with e | hy
  · rw [e]; exact silent_path tables lc kc opc
  · obtain ⟨a, ha, e⟩ := List.mem_map.1 hy
    rw [← e]; exact (args a ha).silent tables

theorem walk_name {d : Bytes} {t : ObjectTree} {h p x c k off : Nat} {seg : List UInt8} {dv : DVal}
    (io : NameT d t h p x c k off seg dv true) (tables : Array Bytes) (f : Nat) (path : AmlProg.Path) :
    nsWalk t tables (f + 2) x path = [] ∧ callWalk t (f + 2) x = [] ∧
    (tables.getD (h - 1) #[] = d → treeDesc t tables x (slot t x) = some (nameDesc dv)) := by
  have hk : K t x = [c, k] := io.kx
  have hq : ∀ y ∈ [c, k], Silent t tables y := by
    intro y hy
    simp only [List.mem_cons, List.mem_nil_iff, or_false] at hy
    rcases hy with rfl | rfl
    · exact silent_path tables io.lc io.kc io.opc
    · have ⟨k1, k2, k3⟩ := treeDesc_dval t tables y (slot t y) dv io.opk
      exact ⟨io.lk, io.kk, k1, k2, k3⟩
  refine ⟨?_, ?_, ?_⟩
  · rw [nsWalk_eq, hk]; exact List.flatMap_eq_nil_iff.2 (fun y hy => (hq y hy).ns f x path)
  · rw [callWalk_eq, hk]; exact List.flatMap_eq_nil_iff.2 (fun y hy => (hq y hy).call f)
  · intro htab
    unfold treeDesc nameDesc
    have hko : kidsOf t x = [c, k] := hk
    simp only [io.opx, hko, if_true]
    have : ([c, k] : List Nat).getD 1 4294967295 = k := rfl
    rw [this, treeData_dval tables io.lk io.opk io.dat (by rw [io.thk]; exact htab)]

theorem u64Of_const {t : ObjectTree} {h x : Nat} {a : CArg} (c : ConstT t h x a) (hn : a.n = 1 ∨ a.n = 2 ∨ a.n = 4) :
    u64Of t a.e = toString (a.v % 256 ^ a.n) := by
  unfold u64Of
  rw [pool_live c.le]
  have hop := c.op
  have hv : (slot t a.e).value = .u64 (a.v % 256 ^ a.n) := by
    have hi : intVal a.n a.v = a.v % 256 ^ a.n := by
      unfold intVal
      rcases hn with e | e | e <;> rw [e] <;> simp
    rcases c.int with ⟨h1, _⟩ | ⟨h1, _⟩ | ⟨h1, _⟩ | ⟨_, _, _, h4⟩
    · rw [h1] at hop; rcases hn with e | e | e <;> rw [e] at hop <;> simp [constOp] at hop
    · rw [h1] at hop; rcases hn with e | e | e <;> rw [e] at hop <;> simp [constOp] at hop
    · rw [h1] at hop; rcases hn with e | e | e <;> rw [e] at hop <;> simp [constOp] at hop
    · rw [h4, hi]
  simp only [hv]

theorem treeDesc_leaf {d : Bytes} {t : ObjectTree} {h p : Nat} {kd : LKind} {x c off : Nat} {seg : List UInt8} {es : List CArg}
    (lt : LeafT d t h p kd x c off seg es true) (tables : Array Bytes) :
    treeDesc t tables x (slot t x) = some (ldesc kd (rvals kd.ws (es.map (·.v)))) := by
  unfold treeDesc
  have hko : kidsOf t x = c :: es.map (·.e) := lt.kx
  rw [lt.opx]
  cases kd with
  | event => simp [LKind.op, ldesc]
  | mutex =>
    have hws := lt.wsok
    simp only [LKind.ws] at hws
    obtain ⟨a, rfl⟩ : ∃ a, es = [a] := by
      cases es with
      | nil => simp at hws
      | cons a as =>
        cases as with
        | nil => exact ⟨a, rfl⟩
        | cons b bs => simp at hws
    have ha : a.n = 1 := by simpa using hws
    have := u64Of_const (lt.args a (by simp)) (Or.inl ha)
    simp only [LKind.op, hko, List.map_cons, List.map_nil, ldesc, LKind.ws, rvals]
    simp only [this, ha, List.getD_cons_succ, List.getD_cons_zero]
    rfl

theorem treeDesc_dev {d : Bytes} {t : ObjectTree} {h p : Nat} {kd : BKind} {x c sb off : Nat} {seg : List UInt8} {es : List CArg}
    (dt : DevT d t h p kd x c sb off seg es true) (tables : Array Bytes) :
    treeDesc t tables x (slot t x) = some (kd.tag (rvals kd.ws (es.map (·.v)))) := by
  unfold treeDesc
  have hko : kidsOf t x = c :: (es.map (·.e) ++ [sb]) := dt.kx
  rw [dt.opx]
  have hws := dt.wsok
  cases kd with
  | device => simp [BKind.op, BKind.tag]
  | thermal => simp [BKind.op, BKind.tag]
  | proc =>
    simp only [BKind.ws] at hws
    obtain ⟨a1, a2, a3, rfl⟩ : ∃ a1 a2 a3, es = [a1, a2, a3] :=
      len3 (by have := congrArg List.length hws; simpa using this)
    simp only [List.map_cons, List.map_nil, List.cons.injEq, and_true] at hws
    have u1 := u64Of_const (dt.args a1 (by simp)) (Or.inl hws.1)
    have u2 := u64Of_const (dt.args a2 (by simp)) (Or.inr (Or.inr hws.2.1))
    have u3 := u64Of_const (dt.args a3 (by simp)) (Or.inl hws.2.2)
    simp only [BKind.op, hko, List.map_cons, List.map_nil, BKind.tag, BKind.ws, rvals, List.cons_append, List.nil_append]
    simp [u1, u2, u3, hws.1, hws.2.1, hws.2.2]
    rfl
  | power =>
    simp only [BKind.ws] at hws
    obtain ⟨a1, a2, rfl⟩ : ∃ a1 a2, es = [a1, a2] :=
      len2 (by have := congrArg List.length hws; simpa using this)
    simp only [List.map_cons, List.map_nil, List.cons.injEq, and_true] at hws
    have u1 := u64Of_const (dt.args a1 (by simp)) (Or.inl hws.1)
    have u2 := u64Of_const (dt.args a2 (by simp)) (Or.inr (Or.inl hws.2))
    simp only [BKind.op, hko, List.map_cons, List.map_nil, BKind.tag, BKind.ws, rvals, List.cons_append, List.nil_append]
    simp [u1, u2, hws.1, hws.2]
    rfl

mutual
theorem nsStep_node {d : Bytes} {t : ObjectTree} {h : Nat} (tables : Array Bytes) (htab : tables.getD (h - 1) #[] = d) :
    ∀ (p : Nat) (n : Node) (π : AmlProg.Path) (f i : Nat), NodeOK d t h true true p n → (∀ y ∈ n.objs, y ≠ 0) →
      2 * cntN n ≤ f → nsStep t tables f i π n.x = entsN π n
  | p, .name x c k off seg dv, π, f, i, ok, _, hf => by
    unfold NodeOK at ok
    obtain ⟨f', rfl⟩ : ∃ f', f = f' + 2 := ⟨f - 2, by simp only [cntN] at hf; omega⟩
    obtain ⟨w1, _, w3'⟩ := walk_name ok tables f' (π ++ [nameStr (Name.ofList seg)])
    have w3 := w3' htab
    show nsStep t tables (f' + 2) i π x = _
    rw [nsStep_named _ i π ok.lx (by rw [ok.opx]; decide) w3, ok.nm rfl, w1]
    rfl
  | p, .dev kd x c sb off pw seg es kids, π, f, i, ok, h0, hf => by
    unfold NodeOK at ok
    obtain ⟨dt, hksb, okk⟩ := ok
    simp only [cntN] at hf
    obtain ⟨f', rfl⟩ : ∃ f', f = f' + 2 := ⟨f - 2, by omega⟩
    have hx0 : x ≠ 0 := h0 x (by simp [Node.objs])
    show nsStep t tables (f' + 2) i π x = _
    rw [nsStep_named _ i π dt.lx (by rw [dt.opx]; exact kd.op_ne.2.2.2.2.2.1) (treeDesc_dev dt tables), dt.nm rfl, entsN]
    congr 1
    -- below the device: the name path and the fixed arguments (nothing), the scope block (its contents, same path)
    rw [nsWalk_eq, show K t x = (c :: es.map (·.e)) ++ [sb] from dt.kx, List.flatMap_append,
      List.flatMap_eq_nil_iff.2 (fun y hy => (args_silent tables dt.lc dt.kc dt.opc dt.args y hy).ns f' x _), List.nil_append,
      List.flatMap_cons, List.flatMap_nil, List.append_nil, nsStep_block _ _ dt.lsb dt.opsb hx0, nsWalk_eq, hksb, tops_true]
    exact nsStep_list tables htab sb kids _ f' sb okk (fun y hy => h0 y (by simp [Node.objs, hy])) (by omega)
  | p, .leaf kd x c off seg es, π, f, i, ok, _, hf => by
    unfold NodeOK at ok
    obtain ⟨f', rfl⟩ : ∃ f', f = f' + 2 := ⟨f - 2, by simp only [cntN] at hf; omega⟩
    show nsStep t tables (f' + 2) i π x = _
    rw [nsStep_named _ i π ok.lx (by rw [ok.opx]; exact kd.op_ne.2.2.2.2.2.1) (treeDesc_leaf ok tables), ok.nm rfl, entsN]
    congr 1
    rw [nsWalk_eq, ok.kx]
    exact List.flatMap_eq_nil_iff.2 (fun y hy => (args_silent tables ok.lc ok.kc ok.opc ok.args y hy).ns f' x _)
theorem nsStep_list {d : Bytes} {t : ObjectTree} {h : Nat} (tables : Array Bytes) (htab : tables.getD (h - 1) #[] = d) :
    ∀ (p : Nat) (ns : List Node) (π : AmlProg.Path) (f i : Nat), NodesOK d t h true p ns → (∀ y ∈ objsL ns, y ≠ 0) →
      2 * cntL ns ≤ f → (ns.map Node.x).flatMap (nsStep t tables f i π) = entsL π ns
  | _, [], _, _, _, _, _, _ => by simp [entsL]
  | p, n :: ns, π, f, i, ok, h0, hf => by
    unfold NodesOK at ok
    simp only [cntL] at hf
    simp only [List.map_cons, List.flatMap_cons, entsL]
    rw [nsStep_node tables htab p n π f i ok.1 (fun y hy => h0 y (by simp [objsL, hy])) (by omega),
      nsStep_list tables htab p ns π f i ok.2 (fun y hy => h0 y (by simp [objsL, hy])) (by omega)]
end

mutual
theorem call_node {d : Bytes} {t : ObjectTree} {h : Nat} :
    ∀ (p : Nat) (n : Node) (f : Nat), NodeOK d t h true true p n → 2 * cntN n ≤ f →
      callStep t f n.x = []
  | p, .name x c k off seg dv, f, ok, hf => by
    unfold NodeOK at ok
    obtain ⟨f', rfl⟩ : ∃ f', f = f' + 2 := ⟨f - 2, by simp only [cntN] at hf; omega⟩
    obtain ⟨_, w2, _⟩ := walk_name ok #[] f' []
    show callStep t (f' + 2) x = []
    exact callStep_nil _ ok.lx (by rw [ok.opx]; decide) w2
  | p, .dev kd x c sb off pw seg es kids, f, ok, hf => by
    unfold NodeOK at ok
    obtain ⟨dt, hksb, okk⟩ := ok
    simp only [cntN] at hf
    obtain ⟨f', rfl⟩ : ∃ f', f = f' + 2 := ⟨f - 2, by omega⟩
    show callStep t (f' + 2) x = []
    refine callStep_nil _ dt.lx (by rw [dt.opx]; exact kd.op_ne.2.2.2.2.2.2.2.2.1) ?_
    rw [callWalk_eq, show K t x = (c :: es.map (·.e)) ++ [sb] from dt.kx, List.flatMap_append,
      List.flatMap_eq_nil_iff.2 (fun y hy => (args_silent #[] dt.lc dt.kc dt.opc dt.args y hy).call f'), List.nil_append,
      List.flatMap_cons, List.flatMap_nil, List.append_nil]
    refine callStep_nil _ dt.lsb (by rw [dt.opsb]; decide) ?_
    rw [callWalk_eq, hksb, tops_true]
    exact call_list sb kids f' okk (by omega)
  | p, .leaf kd x c off seg es, f, ok, hf => by
    unfold NodeOK at ok
    obtain ⟨f', rfl⟩ : ∃ f', f = f' + 2 := ⟨f - 2, by simp only [cntN] at hf; omega⟩
    show callStep t (f' + 2) x = []
    refine callStep_nil _ ok.lx (by rw [ok.opx]; exact kd.op_ne.2.2.2.2.2.2.2.2.1) ?_
    rw [callWalk_eq, ok.kx]
    exact List.flatMap_eq_nil_iff.2 (fun y hy => (args_silent #[] ok.lc ok.kc ok.opc ok.args y hy).call f')
theorem call_list {d : Bytes} {t : ObjectTree} {h : Nat} :
    ∀ (p : Nat) (ns : List Node) (f : Nat), NodesOK d t h true p ns → 2 * cntL ns ≤ f →
      (ns.map Node.x).flatMap (callStep t f) = []
  | _, [], _, _, _ => by simp
  | p, n :: ns, f, ok, hf => by
    unfold NodesOK at ok
    simp only [cntL] at hf
    simp only [List.map_cons, List.flatMap_cons]
    rw [call_node p n f ok.1 (by omega), call_list p ns f ok.2 (by omega)]
    rfl
end

end Firefly.AmlParser.F
