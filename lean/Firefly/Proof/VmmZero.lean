import Firefly.Proof.VmmFault
import Firefly.Proof.VmmHistory
import Firefly.Proof.VmmPdt
/-! The zero frame. It is never mapped writable: an invariant over whole histories of the mapping interface and of page
faults (`NoRW.step`). Several pages may share it and be faulted in any order. -/

namespace Firefly.Vmm
open Firefly.Gen.C04

theorem walk_faultCb_none {st : St} {R : W} {own : Own} (g : Good st R own) {va : W} (hu : UserVA va)
    (h : hwEntry st.mem R va = none) : walk faultCb va none st = .ok (none, st) := by
  have hs := g.owned.sane hu
  rcases hwEntry_resolve hs with ⟨_, L, T, hL, hc, hp⟩ | ⟨T, _, _, _, he⟩
  · exact walk_reach g.win _ none (fun _ _ _ hL hp _ => faultCb_upper hL hp) hL hc (hs L T hL hc).1 (faultCb_absent hp) (Or.inl rfl)
  · rw [he] at h; cases h

theorem pageFault_ok_hz (st : St) (addr : W) (st' : St) (h : pageFault st addr = .ok ((), st'))
    {copy : W} {rest : List W} (hf : st.free = copy :: rest) : (st.protect && copy == st.zeroFrame) = false := by
  obtain ⟨loc, hwalk, _, hrw, hcow, _, htf⟩ := pageFault_ok_inv st addr st' h
  cases hg : (st.protect && copy == st.zeroFrame) with
  | false => rfl
  | true =>
    exfalso
    unfold pageFault at h
    simp only [hwalk, hrw, hcow, Bool.not_false, Bool.and_self, if_true] at h
    simp only [allocFrame_cons hf, mapTemporaryFn, htf, Bool.false_eq_true, if_false, mapTemporary, hg, if_true] at h
    simp [eRWZero] at h

/-- **Inversion of a fault that returned**: in a well-formed active address space, if the handler
returned on a page outside the recursive slot and the temporary page, then the page had a present,
read-only, copy-on-write entry, the allocator had a frame that is not the guarded zero frame, and the
post-state is the one `pageFault_full` describes. -/
theorem pageFault_ok_post {st : St} {R : W} {own : Own} (g : Good st R own) (hA : st.cr3 &&& hwMask = R) (addr : W)
    (hu : UserVA (pageAddr (pageOf addr))) (hnt : ¬SamePage (pageAddr (pageOf addr)) tempVA)
    (st' : St) (h : pageFault st addr = .ok ((), st')) :
    ∃ e copy rest own', hwEntry st.mem R (pageAddr (pageOf addr)) = some e ∧
      hasFlags e fRW = false ∧ hasFlags e fCoW = true ∧ st.free = copy :: rest ∧
      (st.protect && copy == st.zeroFrame) = false ∧
      CowPost st st' R own own' (pageAddr (pageOf addr)) e copy rest := by
  obtain ⟨loc, hwalk, _, hrw, hcow, hfree, htf⟩ := pageFault_ok_inv st addr st' h
  cases he : hwEntry st.mem R (pageAddr (pageOf addr)) with
  | none => rw [walk_faultCb_none g hu he] at hwalk; cases hwalk
  | some e =>
    obtain ⟨T3, hc3, hb3, hle, hpres⟩ := hwEntry_some g.owned hu he
    have hw2 := walk_faultCb_leaf g.win hc3 hb3 (by rw [hle]; exact hpres)
    rw [hw2] at hwalk
    cases hwalk
    simp only [St.rdLoc, hle] at hrw hcow
    cases hfr : st.free with
    | nil => exact absurd hfr hfree
    | cons copy rest =>
      have hz := pageFault_ok_hz st addr st' h hfr
      rcases pageFault_full g hA addr hu hnt he hrw hcow hfr htf hz with hp | ⟨st'', own', h2, post⟩
      · rw [hp] at h; cases h
      · rw [h2] at h; cases h
        exact ⟨e, copy, rest, own', rfl, hrw, hcow, rfl, hz, post⟩

/-- no page of the address space rooted at `R` translates to the zero frame with the RW bit -/
def NoZeroRW (st : St) (R : W) : Prop :=
  ∀ va', UserVA va' → ∀ e, hwEntry st.mem R va' = some e →
    ¬(e &&& hwMask = st.zeroFrame <<< 12 ∧ e &&& fRW ≠ 0#64)

/-- requests to the kernel: the mapping interface and page faults -/
inductive KOp where
  | map (page frame flags : W)
  | maps (flags : W) (l : List (W × W))
  | unmap (page : W)
  | maptmp (frame : W)
  | fault (addr : W)

def runK (st : St) : KOp → R Nat
  | .map p f fl => mapOp st p f fl
  | .maps fl l => seqMap fl l st
  | .unmap p => unmapOp st p
  | .maptmp f => (mapTemporary st f).map fun r => (r.1.1, r.2)
  | .fault a => (pageFault st a).map fun r => (0, r.2)

/-- the domain of the invariant: pages outside the recursive slot, frame numbers < 2^40, flags outside
the frame field; faults not on the temporary page -/
def KOp.dom : KOp → Prop
  | .map p f fl => UserVA (pageAddr p) ∧ FrameOK f ∧ FlagsOK fl
  | .maps fl l => FlagsOK fl ∧ ∀ x ∈ l, UserVA (pageAddr x.1) ∧ FrameOK x.2
  | .unmap p => UserVA (pageAddr p)
  | .maptmp f => FrameOK f
  | .fault a => UserVA (pageAddr (pageOf a)) ∧ ¬SamePage (pageAddr (pageOf a)) tempVA

/-- the invariant: well formed, active, guard armed, zero frame never writable -/
structure ZInv (st : St) (R : W) (own : Own) : Prop where
  good : Good st R own
  active : st.cr3 &&& hwMask = R
  armed : st.protect = true
  zf : FrameOK st.zeroFrame
  nzrw : NoZeroRW st R

/-- no address of the address space `as` maps frame `zf` writable -/
def NoRW (zf : W) (as : W → Option W) : Prop :=
  ∀ va', UserVA va' → ∀ e, as va' = some e → ¬(e &&& hwMask = zf <<< 12 ∧ e &&& fRW ≠ 0#64)

theorem mkEntry_not_zero_rw {zf frame flags : W} (hfo : FrameOK frame) (hfl : FlagsOK flags)
    (hzf : FrameOK zf) (hn : ¬(frame = zf ∧ (flags &&& fRW) ≠ 0)) :
    ¬(mkEntry frame flags &&& hwMask = zf <<< 12 ∧ mkEntry frame flags &&& fRW ≠ 0#64) := by
  rintro ⟨h1, h2⟩
  rw [mkEntry_frame hfo hfl] at h1
  rw [mkEntry_low fRW (by decide)] at h2
  exact hn ⟨shl12_inj hfo hzf h1, h2⟩

/-- a request that does not ask for the zero frame writable keeps it read-only, whatever code it returned -/
theorem NoRW.step {zf : W} {as as' : AS} (h : NoRW zf as) (hzf : FrameOK zf) {rq : Op} {c : Nat}
    (hs : ∀ va', UserVA va' → as' va' = absStep as rq c va')
    (hrq : ∀ p f fl, rq = .map p f fl → c = 0 → FrameOK f ∧ FlagsOK fl ∧ ¬(f = zf ∧ (fl &&& fRW) ≠ 0)) :
    NoRW zf as' := by
  intro va' hu' e he
  rw [hs va' hu'] at he
  by_cases hc : c = 0
  · subst hc
    cases rq with
    | map p f fl =>
      obtain ⟨hfo, hfl, hn⟩ := hrq p f fl rfl rfl
      rw [absStep_map] at he
      split at he
      · split at he
        · cases he
        · cases he; exact mkEntry_not_zero_rw hfo hfl hzf hn
      · exact h va' hu' e he
    | unmap p =>
      rw [absStep_unmap] at he
      split at he
      · cases he
      · exact h va' hu' e he
  · rw [absStep_err hc] at he
    exact h va' hu' e he

theorem ZInv.of_regs {st st' : St} {R : W} {own own' : Own} (z : ZInv st R own) (g' : Good st' R own')
    (r : SameRegs st st') (h : NoRW st.zeroFrame (hwEntry st'.mem R)) : ZInv st' R own' :=
  ⟨g', by rw [r.cr3]; exact z.active, by rw [r.protect]; exact z.armed, by rw [r.zeroFrame]; exact z.zf,
    fun va' hu' e he => by rw [r.zeroFrame]; exact h va' hu' e he⟩

theorem ZInv.mapOp_refines {R : W} (p f fl : W) (hu : UserVA (pageAddr p)) (hfo : FrameOK f) (hfl : FlagsOK fl) :
    Refines (fun st own => ZInv st R own) R (fun st => mapOp st p f fl) (.map p f fl)
      (fun c => c = eAlloc ∨ c = eRWZero) := fun st own z => by
  obtain ⟨c, st', own', h1, g', gr, hc, a⟩ := Firefly.Vmm.mapOp_refines p f fl hu st own z.good
  refine ⟨c, st', own', h1, z.of_regs g' gr.regs (NoRW.step z.nzrw z.zf a fun p' f' fl' e hc => ?_), gr, hc, a⟩
  cases e; subst hc
  exact ⟨hfo, hfl, mapOp_ok_not_zero_rw st p f fl _ z.armed h1⟩

theorem ZInv.map_step {st : St} {R : W} {own : Own} (z : ZInv st R own) (p f fl : W) (hu : UserVA (pageAddr p))
    (hfo : FrameOK f) (hfl : FlagsOK fl) :
    ∃ c st' own', mapOp st p f fl = .ok (c, st') ∧ ZInv st' R own' := by
  obtain ⟨c, st', own', h1, z', _⟩ := ZInv.mapOp_refines p f fl hu hfo hfl st own z
  exact ⟨c, st', own', h1, z'⟩

/-- the page loop of `MapRegion` / `IdentityMapRegion` (and any other run of `Map` calls that stops
at the first error) preserves the invariant -/
theorem ZInv.seqMap_step {R : W} (fl : W) (hfl : FlagsOK fl) (l : List (W × W)) (st : St) (own : Own) (z : ZInv st R own)
    (hd : ∀ x ∈ l, UserVA (pageAddr x.1) ∧ FrameOK x.2) (c : Nat) (st' : St) (h : seqMap fl l st = .ok (c, st')) :
    ∃ own', ZInv st' R own' := by
  obtain ⟨c', st'', own', _, h', z', _⟩ :=
    seqCalls_refines (Dom := fun x => UserVA (pageAddr x.1) ∧ FrameOK x.2.1 ∧ FlagsOK x.2.2)
      (mp := fun p f fl st => mapOp st p f fl) (fun p f fl hd => ZInv.mapOp_refines (R := R) p f fl hd.1 hd.2.1 hd.2.2)
      (withFlags fl l) st own z (fun x hx => by
        obtain ⟨y, hy, rfl⟩ := List.mem_map.1 hx
        exact ⟨(hd y hy).1, (hd y hy).2, hfl⟩)
  rw [seqMap_eq_seqCalls, h'] at h
  cases h
  exact ⟨own', z'⟩

theorem ZInv.step {st : St} {R : W} {own : Own} (z : ZInv st R own) (op : KOp) (hd : op.dom) (c : Nat) (st' : St)
    (h : runK st op = .ok (c, st')) : ∃ own', ZInv st' R own' := by
  cases op with
  | map p f fl =>
    obtain ⟨_, _, own', h1, z'⟩ := z.map_step p f fl hd.1 hd.2.1 hd.2.2
    rw [runK, h1] at h; cases h; exact ⟨own', z'⟩
  | maps fl l => exact ZInv.seqMap_step fl hd.1 l st own z hd.2 c st' h
  | unmap p =>
    obtain ⟨code, st'', own', h1, g', gr, _, a⟩ := unmapOp_refines p hd st own z.good
    dsimp only at h1
    rw [runK, h1] at h; cases h
    exact ⟨own', z.of_regs g' gr.regs (NoRW.step z.nzrw z.zf a (fun _ _ _ e => by cases e))⟩
  | maptmp f =>
    simp only [runK, mapTemporary] at h
    split at h
    · cases h; exact ⟨own, z⟩
    · obtain ⟨c2, st2, own2, hm, z2⟩ :=
        z.map_step (pageOf tempVA) f (fPresent ||| fRW) (by rw [tempVA_page]; exact userVA_temp) hd flagsOK_prw
      rw [hm] at h
      have hst : st2 = st' := by
        by_cases hc : c2 ≠ 0
        · simp only [if_pos hc, Except.map] at h; cases h; rfl
        · simp only [if_neg hc, Except.map] at h; cases h; rfl
      exact ⟨own2, hst ▸ z2⟩
  | fault a =>
    simp only [runK] at h
    cases hp : pageFault st a with
    | error x => rw [hp] at h; cases h
    | ok r =>
      obtain ⟨⟨⟩, st2⟩ := r
      rw [hp] at h; cases h
      obtain ⟨e, copy, rest, own', he, _, _, hfr, hz, post⟩ := pageFault_ok_post z.good z.active a hd.1 hd.2 st2 hp
      refine ⟨own', z.of_regs post.good post.regs ?_⟩
      intro va' hu' e' he'
      rw [post.as va' hu'] at he'
      split at he'
      · -- the page itself now points to the copy, which the guard kept apart from the zero frame
        cases he'
        have hco : FrameOK copy := (z.good.pop hfr).1.1
        rintro ⟨h1, _⟩
        unfold cowEntry at h1
        rw [setFrame_frame _ hco] at h1
        simp [z.armed, shl12_inj hco z.zf h1] at hz
      · split at he'
        · cases he'
        · exact z.nzrw va' hu' e' he'

/-- run a history of kernel requests (stops at the first panic / fault) -/
def runKs : St → List KOp → Except Abort St
  | st, [] => .ok st
  | st, op :: rest =>
    match runK st op with
    | .error e => .error e
    | .ok (_, st') => runKs st' rest

/-- **The zero frame is never writable**, over every history that runs to completion -/
theorem ZInv.history {R : W} (ops : List KOp) : ∀ (st : St) (own : Own), ZInv st R own → (∀ op ∈ ops, op.dom) →
    ∀ st', runKs st ops = .ok st' → ∃ own', ZInv st' R own' := by
  induction ops with
  | nil => intro st own z _ st' h; simp only [runKs] at h; cases h; exact ⟨own, z⟩
  | cons op ops ih =>
    intro st own z hd st' h
    simp only [runKs] at h
    cases hr : runK st op with
    | error e => rw [hr] at h; cases h
    | ok r =>
      obtain ⟨c, st1⟩ := r
      rw [hr] at h
      obtain ⟨own1, z1⟩ := z.step op (hd op List.mem_cons_self) c st1 hr
      exact ih st1 own1 z1 (fun o ho => hd o (List.mem_cons_of_mem _ ho)) st' h


/-- page (as an address) of a fault address -/
def pg (a : W) : W := pageAddr (pageOf a)

def runFaults : St → List W → Except Abort St
  | st, [] => .ok st
  | st, a :: rest =>
    match pageFault st a with
    | .error e => .error e
    | .ok (_, st') => runFaults st' rest

/-- a well-formed active address space together with a shared all-zero frame `zf` that is RAM and
belongs neither to the page tables nor to the allocator -/
structure ZSeq (st : St) (R : W) (own : Own) (zf : Nat) : Prop where
  good : Good st R own
  active : st.cr3 &&& hwMask = R
  zback : st.mem.backed zf = true
  zown : own zf = none
  zfree : ∀ f ∈ st.free, f.toNat ≠ zf
  zzero : ∀ i, st.mem.rd zf i = 0#64

/-- `shared_zero_sequence` with the frame part as one `GrowX`: the only frames written outside the tree are the copies. -/
theorem shared_zero_sequence_growX {R : W} {zf : Nat} (addrs : List W) : ∀ (st : St) (own : Own), ZSeq st R own zf →
    (∀ a ∈ addrs, UserVA (pg a) ∧ ¬SamePage (pg a) tempVA ∧
      ∃ e, hwEntry st.mem R (pg a) = some e ∧ frameN (e &&& hwMask) = zf) →
    addrs.Pairwise (fun a b => ¬SamePage (pg a) (pg b)) →
    ∀ st', runFaults st addrs = .ok st' →
    ∃ (own' : Own) (cp : W → W), ZSeq st' R own' zf ∧
      GrowX (fun F => ∃ a ∈ addrs, (cp a).toNat = F) st st' own own' ∧
      (∀ a ∈ addrs, cp a ∈ st.free ∧ cp a ∉ st'.free ∧ own' (cp a).toNat = none ∧
        (∀ i, st'.mem.rd (cp a).toNat i = 0#64) ∧
        ∃ e, hwEntry st.mem R (pg a) = some e ∧ hwEntry st'.mem R (pg a) = some (cowEntry e (cp a))) ∧
      (∀ a ∈ addrs, ∀ b ∈ addrs, ¬SamePage (pg a) (pg b) → (cp a).toNat ≠ (cp b).toNat) ∧
      (∀ va', UserVA va' → (∀ a ∈ addrs, ¬SamePage va' (pg a)) → ¬SamePage va' tempVA →
        hwEntry st'.mem R va' = hwEntry st.mem R va') := by
  induction addrs with
  | nil =>
    intro st own z _ _ st' h
    simp only [runFaults] at h; cases h
    exact ⟨own, fun _ => 0, z, (Grow.refl st own).mono (fun _ h => h.elim), (fun a ha => by cases ha), (fun a ha => by cases ha),
      fun _ _ _ _ => rfl⟩
  | cons a addrs ih =>
    intro st own z hd hpw st' h
    simp only [runFaults] at h
    cases hp : pageFault st a with
    | error x => rw [hp] at h; cases h
    | ok r =>
      obtain ⟨⟨⟩, st1⟩ := r
      rw [hp] at h
      obtain ⟨hua, hta, ea, hea, hfa⟩ := hd a List.mem_cons_self
      obtain ⟨e, copy, rest, own1, he, _, _, hfr, _, post⟩ := pageFault_ok_post z.good z.active a hua hta st1 hp
      obtain rfl : e = ea := Option.some.inj (he.symm.trans hea)
      obtain ⟨hcop, hsh⟩ := post.copied (by rw [hfa]; exact z.zback) (by rw [hfa]; exact z.zown)
        (fun f hf => by rw [hfa]; exact z.zfree f hf)
      rw [hfa] at hcop hsh
      obtain ⟨⟨_, _, hcn, _⟩, hcopy_rest, _⟩ := z.good.pop hfr
      have hsub1 : ∀ f ∈ st1.free, f ∈ rest := by
        obtain ⟨used, hused⟩ := post.sub
        intro f hf; rw [hused]; exact List.mem_append_right _ hf
      have hcn1 : own1 copy.toNat = none := stays_none post.newfree hcn hcopy_rest
      have z1 : ZSeq st1 R own1 zf :=
        ⟨post.good, by rw [post.regs.cr3]; exact z.active, by rw [post.regs.backed]; exact z.zback,
          stays_none post.newfree z.zown (fun f hf => z.zfree f (by rw [hfr]; exact List.mem_cons_of_mem _ hf)),
          fun f hf => z.zfree f (by rw [hfr]; exact List.mem_cons_of_mem _ (hsub1 f hf)),
          fun i => (hsh i).trans (z.zzero i)⟩
      have hpw' := List.pairwise_cons.1 hpw
      have hkeep : ∀ b ∈ addrs, hwEntry st1.mem R (pg b) = hwEntry st.mem R (pg b) := fun b hb => by
        obtain ⟨h1, h2, _⟩ := hd b (List.mem_cons_of_mem _ hb)
        rw [post.as (pg b) h1, if_neg (fun hs => hpw'.1 b hb hs.symm), if_neg h2]
      have hd1 : ∀ b ∈ addrs, UserVA (pg b) ∧ ¬SamePage (pg b) tempVA ∧
          ∃ e, hwEntry st1.mem R (pg b) = some e ∧ frameN (e &&& hwMask) = zf := by
        intro b hb
        obtain ⟨h1, h2, eb, h3, h4⟩ := hd b (List.mem_cons_of_mem _ hb)
        exact ⟨h1, h2, eb, by rw [hkeep b hb]; exact h3, h4⟩
      obtain ⟨own', cp', z', gx', hcp', hdist', has'⟩ := ih st1 own1 z1 hd1 hpw'.2 st' h
      have hane : ∀ b ∈ addrs, b ≠ a := by
        intro b hb hba; subst hba; exact hpw'.1 b hb rfl
      have hcp_free : ∀ b ∈ addrs, (cp' b).toNat ≠ copy.toNat := fun b hb =>
        hcopy_rest _ (hsub1 _ (hcp' b hb).1)
      have hcn' : own' copy.toNat = none := stays_none gx'.newfree hcn1 (fun f hf => hcopy_rest f (hsub1 f hf))
      refine ⟨own', fun x => if x = a then copy else cp' x, z', ((post.growX hfr).trans gx').mono fun F hF => ?_, ?_, ?_, ?_⟩
      · rcases hF with rfl | ⟨b, hb, rfl⟩
        · exact ⟨a, List.mem_cons_self, by simp⟩
        · exact ⟨b, List.mem_cons_of_mem _ hb, by simp [hane b hb]⟩
      · intro b hb
        rcases List.mem_cons.1 hb with rfl | hb'
        · simp only [if_true]
          refine ⟨by rw [hfr]; exact List.mem_cons_self, ?_, hcn', ?_, e, he, ?_⟩
          · intro hin; exact hcopy_rest _ (hsub1 _ (gx'.free_sub hin)) rfl
          · intro i
            rw [gx'.foot copy.toNat i hcn' (fun ⟨c, hc, e⟩ => hcp_free c hc e), hcop i]; exact z.zzero i
          · rw [has' (pg b) hua (fun c hc hs => hpw'.1 c hc hs) hta, post.as (pg b) hua, if_pos (show SamePage (pg b) (pageAddr (pageOf b)) from rfl)]
        · simp only [if_neg (hane b hb')]
          obtain ⟨c1, c2, c3, c4, e', c5, c6⟩ := hcp' b hb'
          exact ⟨by rw [hfr]; exact List.mem_cons_of_mem _ (hsub1 _ c1), c2, c3, c4, e', by rw [← hkeep b hb']; exact c5, c6⟩
      · intro b hb c hc hs
        rcases List.mem_cons.1 hb with rfl | hb' <;> rcases List.mem_cons.1 hc with rfl | hc'
        · exact absurd rfl hs
        · simp only [if_true, if_neg (hane c hc')]; exact Ne.symm (hcp_free c hc')
        · simp only [if_true, if_neg (hane b hb')]; exact hcp_free b hb'
        · simp only [if_neg (hane b hb'), if_neg (hane c hc')]; exact hdist' b hb' c hc' hs
      · intro va' hu' hns hnt
        have hna : ¬SamePage va' (pageAddr (pageOf a)) := hns a List.mem_cons_self
        rw [has' va' hu' (fun c hc => hns c (List.mem_cons_of_mem _ hc)) hnt, post.as va' hu',
          if_neg hna, if_neg hnt]

/-- **shared_zero_sequence.**  Any number of pages whose entries point to the shared zero frame,
faulted in any order (every fault returning): each page ends up with its own frame, taken from the
allocator, all of whose words are zero; distinct pages get distinct frames; each page's entry is its
old entry with CoW cleared, Present|RW set and the new frame; the shared frame is still all-zero
(and still outside tables and allocator); pages not faulted (other than the temporary page) keep
their entries. -/
theorem shared_zero_sequence {R : W} {zf : Nat} (addrs : List W) : ∀ (st : St) (own : Own), ZSeq st R own zf →
    (∀ a ∈ addrs, UserVA (pg a) ∧ ¬SamePage (pg a) tempVA ∧
      ∃ e, hwEntry st.mem R (pg a) = some e ∧ frameN (e &&& hwMask) = zf) →
    addrs.Pairwise (fun a b => ¬SamePage (pg a) (pg b)) →
    ∀ st', runFaults st addrs = .ok st' →
    ∃ (own' : Own) (cp : W → W), ZSeq st' R own' zf ∧
      (∀ f ∈ st'.free, f ∈ st.free) ∧
      (∀ F x, own F = some x → own' F = some x) ∧
      (∀ F, own F = none → own' F ≠ none → ∃ f ∈ st.free, f.toNat = F) ∧
      (∀ a ∈ addrs, cp a ∈ st.free ∧ cp a ∉ st'.free ∧ own' (cp a).toNat = none ∧
        (∀ i, st'.mem.rd (cp a).toNat i = 0#64) ∧
        ∃ e, hwEntry st.mem R (pg a) = some e ∧ hwEntry st'.mem R (pg a) = some (cowEntry e (cp a))) ∧
      (∀ a ∈ addrs, ∀ b ∈ addrs, ¬SamePage (pg a) (pg b) → (cp a).toNat ≠ (cp b).toNat) ∧
      (∀ F j, own' F = none → (∀ a ∈ addrs, (cp a).toNat ≠ F) → st'.mem.rd F j = st.mem.rd F j) ∧
      (∀ va', UserVA va' → (∀ a ∈ addrs, ¬SamePage va' (pg a)) → ¬SamePage va' tempVA →
        hwEntry st'.mem R va' = hwEntry st.mem R va') := by
  intro st own z hd hpw st' h
  obtain ⟨own', cp, z', gx, hcp, hdist, has⟩ := shared_zero_sequence_growX addrs st own z hd hpw st' h
  exact ⟨own', cp, z', fun _ hf => gx.free_sub hf, gx.ext, gx.newfree, hcp, hdist,
    fun F j hF hne => gx.foot F j hF (fun ⟨a, ha, e⟩ => hne a ha e), has⟩

/-- a successful `PageDirectoryTable.Map` under the armed guard never installs a writable mapping of
the zero frame (the guard sits in `Map`, which the wrapper calls with the same frame and flags) -/
theorem pdtMap_ok_not_zero_rw {st : St} {A P : W} (hi : Inactive st A P) (page frame flags : W) (st' : St)
    (hp : st.protect = true) (h : pdtMap st P page frame flags = .ok (0, st')) :
    ¬(frame = st.zeroFrame ∧ (flags &&& fRW) ≠ 0) := by
  rintro ⟨rfl, hrw⟩
  have hg : mapOp (swapSt st A P) page st.zeroFrame flags = _ := mapOp_guard (swapSt st A P) page flags hp hrw
  rw [pdtMap, withPdt_eq hi, hg] at h
  simp [eRWZero] at h


end Firefly.Vmm
