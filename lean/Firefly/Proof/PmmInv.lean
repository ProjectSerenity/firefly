import Firefly.Proof.PmmBits
import Firefly.Proof.ListLemmas
/-! Invariant of the bitmap allocator and the abstraction to a set of free frames. -/
namespace Firefly.Pmm

def Pool.n (p : Pool) : Nat := p.end_ - p.start + 1

def Pool.freeAt (p : Pool) (f : Nat) : Bool :=
  decide (p.start ≤ f ∧ f ≤ p.end_) && !bitAt p.words (f - p.start)

structure PoolInv (p : Pool) : Prop where
  le : p.start ≤ p.end_
  small : p.n < 4294967296
  len : p.words.length = wordsFor p.n
  cnt : p.freeCount = countClear p.words p.n

/-- abstraction: the set of frames the allocator considers free -/
def isFree (bm : Bitmap) (f : Nat) : Prop := ∃ p ∈ bm.pools, p.freeAt f = true

def ranges (ps : List Pool) : List (Nat × Nat) := ps.map fun p => (p.start, p.end_)

/-- the pools' frame ranges are pairwise disjoint, in whatever order the memory map listed them
(despite the name no order is asked for: an ascending list is the special case `Or.inl`) -/
def RangesSorted (rs : List (Nat × Nat)) : Prop := rs.Pairwise fun a b => a.2 < b.1 ∨ b.2 < a.1

def freeSum (ps : List Pool) : Nat := (ps.map (·.freeCount)).sum

def nSum (ps : List Pool) : Nat := (ps.map (·.n)).sum

structure Inv (bm : Bitmap) : Prop where
  pools : ∀ p ∈ bm.pools, PoolInv p
  sorted : RangesSorted (ranges bm.pools)
  le : bm.reserved ≤ bm.total
  small : bm.total < 4294967296
  acct : bm.total - bm.reserved = freeSum bm.pools
  tot : bm.total = nSum bm.pools

theorem Pool.n_eq (p : Pool) : p.n = p.end_ - p.start + 1 := rfl

theorem freeAt_iff {p : Pool} {g : Nat} :
    p.freeAt g = true ↔ (p.start ≤ g ∧ g ≤ p.end_) ∧ bitAt p.words (g - p.start) = false := by
  simp only [Pool.freeAt, Bool.and_eq_true, decide_eq_true_eq, Bool.not_eq_true']

theorem freeAt_range {p : Pool} {g : Nat} (h : p.freeAt g = true) : p.start ≤ g ∧ g ≤ p.end_ :=
  (freeAt_iff.1 h).1

theorem PoolInv.word_lt {p : Pool} (hp : PoolInv p) {k : Nat} (hk : k < p.n) :
    k / 64 < p.words.length := by
  rw [hp.len, wordsFor]; omega

theorem PoolInv.freeCount_le {p : Pool} (hp : PoolInv p) : p.freeCount ≤ p.n := by
  rw [hp.cnt]; exact countClear_le _ _

theorem sum_map_set {α} (l : List α) (g : α → Nat) (i : Nat) (x y : α) (h : l[i]? = some y) :
    ((l.set i x).map g).sum + g y = (l.map g).sum + g x := by
  induction l generalizing i with
  | nil => simp at h
  | cons a l ih =>
    cases i with
    | zero => simp at h; subst h; simp; omega
    | succ i =>
      simp at h
      have := ih i h
      simp only [List.set, List.map_cons, List.sum_cons]; omega

theorem ranges_set {ps : List Pool} {i : Nat} {p p' : Pool} (h : ps[i]? = some p)
    (hs : p'.start = p.start) (he : p'.end_ = p.end_) : ranges (ps.set i p') = ranges ps := by
  unfold ranges
  rw [List.map_set]
  apply List.ext_getElem?
  intro j
  by_cases hj : j = i
  · subst hj
    rw [List.getElem?_set_self (by simpa using (List.getElem?_eq_some_iff.1 h).1)]
    simp [h, hs, he]
  · rw [List.getElem?_set_ne (by omega)]

theorem poolForFrame_some {ps : List Pool} {f i : Nat} (h : poolForFrame ps f = some i) :
    ∃ p, ps[i]? = some p ∧ p.start ≤ f ∧ f ≤ p.end_ := by
  unfold poolForFrame at h
  have := List.findIdx?_eq_some_iff_getElem.1 h
  obtain ⟨hl, hp, _⟩ := this
  refine ⟨ps[i], by simp [hl], ?_⟩
  simpa using hp

theorem poolForFrame_none {ps : List Pool} {f : Nat} (h : poolForFrame ps f = none) :
    ∀ p ∈ ps, ¬ (p.start ≤ f ∧ f ≤ p.end_) := by
  unfold poolForFrame at h
  rw [List.findIdx?_eq_none_iff] at h
  intro p hp
  have := h p hp
  simpa using this

theorem pool_unique {ps : List Pool} (hs : RangesSorted (ranges ps)) {p q : Pool} (hp : p ∈ ps)
    (hq : q ∈ ps) {f : Nat} (hpf : p.start ≤ f ∧ f ≤ p.end_) (hqf : q.start ≤ f ∧ f ≤ q.end_) : p = q := by
  rw [RangesSorted, ranges, List.pairwise_map] at hs
  rcases List.Pairwise.forall_of_forall_of_flip
    (R := fun a b : Pool => a = b ∨ a.end_ < b.start ∨ b.end_ < a.start) (fun _ _ => Or.inl rfl)
    (hs.imp Or.inr) (hs.imp fun h => Or.inr h.symm) hp hq with e | h | h
  · exact e
  · omega
  · omega

theorem isFree_iff_freeAt {bm : Bitmap} (hs : RangesSorted (ranges bm.pools)) {i : Nat} {p : Pool}
    (hp : bm.pools[i]? = some p) {g : Nat} (hin : p.start ≤ g ∧ g ≤ p.end_) :
    isFree bm g ↔ p.freeAt g = true := by
  constructor
  · rintro ⟨q, hq, hqf⟩
    cases pool_unique hs hq (List.mem_of_getElem? hp) (freeAt_range hqf) hin
    exact hqf
  · exact fun h => ⟨p, List.mem_of_getElem? hp, h⟩

theorem isFree_set {bm bm' : Bitmap} (hs : RangesSorted (ranges bm.pools)) {i : Nat} {p p' : Pool}
    (hp : bm.pools[i]? = some p) (hps : bm'.pools = bm.pools.set i p')
    (hst : p'.start = p.start) (hen : p'.end_ = p.end_) (g : Nat) :
    isFree bm' g ↔ if p.start ≤ g ∧ g ≤ p.end_ then p'.freeAt g = true else isFree bm g := by
  have hil := (List.getElem?_eq_some_iff.1 hp).1
  split
  · next hin =>
    exact isFree_iff_freeAt (by rw [hps, ranges_set hp hst hen]; exact hs)
      (by rw [hps, List.getElem?_set_self hil]) (by rw [hst, hen]; exact hin)
  · next hout =>
    simp only [isFree, List.mem_iff_getElem?, hps]
    constructor
    · rintro ⟨q, ⟨j, hj⟩, hq⟩
      by_cases e : i = j
      · rw [← e, List.getElem?_set_self hil] at hj; cases hj
        exact absurd (by rw [← hst, ← hen]; exact freeAt_range hq) hout
      · rw [List.getElem?_set_ne e] at hj; exact ⟨q, ⟨j, hj⟩, hq⟩
    · rintro ⟨q, ⟨j, hj⟩, hq⟩
      have e : i ≠ j := by rintro rfl; rw [hp] at hj; cases hj; exact hout (freeAt_range hq)
      exact ⟨q, ⟨j, by rw [List.getElem?_set_ne e]; exact hj⟩, hq⟩

theorem Inv.acct_add {bm : Bitmap} (hI : Inv bm) : bm.reserved + freeSum bm.pools = bm.total := by
  have := hI.acct; have := hI.le; omega

theorem Inv.set {bm bm' : Bitmap} (hI : Inv bm) {i : Nat} {p p' : Pool} (hp : bm.pools[i]? = some p)
    (hps : bm'.pools = bm.pools.set i p') (hp' : PoolInv p')
    (hst : p'.start = p.start) (hen : p'.end_ = p.end_) (ht : bm'.total = bm.total)
    (hr : bm'.reserved + p'.freeCount = bm.reserved + p.freeCount) : Inv bm' := by
  have hadd := hI.acct_add
  have hfs : freeSum bm'.pools + p.freeCount = freeSum bm.pools + p'.freeCount := by
    rw [hps]; exact sum_map_set bm.pools (·.freeCount) i p' p hp
  have hns : nSum bm'.pools + p.n = nSum bm.pools + p'.n := by
    rw [hps]; exact sum_map_set bm.pools (·.n) i p' p hp
  have hge : p.freeCount ≤ freeSum bm.pools := le_sum_map (·.freeCount) (List.mem_of_getElem? hp)
  have hn : p'.n = p.n := by rw [Pool.n_eq, Pool.n_eq, hst, hen]
  refine ⟨?_, ?_, ?_, ht ▸ hI.small, ?_, ?_⟩
  · intro q hq
    rw [hps] at hq
    rcases List.mem_or_eq_of_mem_set hq with hq | rfl
    · exact hI.pools q hq
    · exact hp'
  · rw [hps, ranges_set hp hst hen]; exact hI.sorted
  · omega
  · exact Nat.sub_eq_of_eq_add (by omega)
  · rw [ht, hI.tot]; omega

theorem Inv.reserved_add_le {bm : Bitmap} (hI : Inv bm) {i : Nat} {p : Pool} (hp : bm.pools[i]? = some p) :
    bm.reserved + p.freeCount ≤ bm.total := by
  have : p.freeCount ≤ freeSum bm.pools := le_sum_map (·.freeCount) (List.mem_of_getElem? hp)
  have := hI.acct_add
  omega

theorem Inv.reserved_pos {bm : Bitmap} (hI : Inv bm) {i : Nat} {p : Pool} (hp : bm.pools[i]? = some p)
    (h : p.freeCount < p.n) : 0 < bm.reserved := by
  have hsum : freeSum bm.pools + _ = nSum bm.pools :=
    sum_map_add_sub bm.pools (·.freeCount) (·.n) fun x hx => (hI.pools x hx).freeCount_le
  have := le_sum_map (fun x => x.n - x.freeCount) (List.mem_of_getElem? hp)
  have := hI.acct_add
  have := hI.tot
  omega

def managed (rs : List (Nat × Nat)) (f : Nat) : Prop := ∃ r ∈ rs, r.1 ≤ f ∧ f ≤ r.2

theorem managed_ranges {ps : List Pool} {f : Nat} :
    managed (ranges ps) f ↔ ∃ p ∈ ps, p.start ≤ f ∧ f ≤ p.end_ := by
  constructor
  · rintro ⟨r, hr, hin⟩
    obtain ⟨p, hp, rfl⟩ := List.mem_map.1 hr
    exact ⟨p, hp, hin⟩
  · rintro ⟨p, hp, hin⟩
    exact ⟨(p.start, p.end_), List.mem_map.2 ⟨p, hp, rfl⟩, hin⟩

theorem managed_of_isFree {bm : Bitmap} {f : Nat} (h : isFree bm f) : managed (ranges bm.pools) f := by
  obtain ⟨p, hp, hf⟩ := h
  exact managed_ranges.2 ⟨p, hp, freeAt_range hf⟩

theorem poolForFrame_eq_none_iff {ps : List Pool} {f : Nat} :
    poolForFrame ps f = none ↔ ¬ managed (ranges ps) f := by
  rw [managed_ranges]
  constructor
  · rintro h ⟨p, hp, hin⟩; exact poolForFrame_none h p hp hin
  · intro h
    cases hpf : poolForFrame ps f with
    | none => rfl
    | some i =>
      obtain ⟨p, hp, hin⟩ := poolForFrame_some hpf
      exact absurd ⟨p, List.mem_of_getElem? hp, hin⟩ h

end Firefly.Pmm
