import Firefly.Proof.AmlTreeAbs
/-!
Lemmas for C13: the lookups.  Each loop of `Find` is unfolded once, for any expression, into a step on the abstracted forest
(`lookIn`); from these steps: `Find` never fails and keeps an invariant `FindInv` of what it visits, and `Find` on encoded paths is
`resolve`.
-/
namespace Firefly.C13
open Firefly.AmlTree Firefly.AmlTree.ObjectTree


def SliceIs (expr : List UInt8) (seg : Nat) (nm : Name) : Prop :=
  expr[seg + 0]? = some nm.b0 ∧ expr[seg + 1]? = some nm.b1 ∧ expr[seg + 2]? = some nm.b2 ∧ expr[seg + 3]? = some nm.b3

theorem matchName_eq (expr : List UInt8) (seg : Nat) (nm o : Name) (h : SliceIs expr seg nm) :
    matchName expr seg o [0, 1, 2, 3] = .ok (decide (o = nm)) := by
  obtain ⟨h0, h1, h2, h3⟩ := h
  obtain ⟨a0, a1, a2, a3⟩ := o
  obtain ⟨n0, n1, n2, n3⟩ := nm
  simp only [matchName, h0, h1, h2, h3, Name.get, Name.mk.injEq]
  by_cases e0 : n0 = a0
  · subst e0
    by_cases e1 : n1 = a1
    · subst e1
      by_cases e2 : n2 = a2
      · subst e2
        by_cases e3 : n3 = a3
        · subst e3; simp
        · have : ¬ a3 = n3 := fun h => e3 h.symm
          simp [e3, this]
      · have : ¬ a2 = n2 := fun h => e2 h.symm
        simp [e2, this]
    · have : ¬ a1 = n1 := fun h => e1 h.symm
      simp [e1, this]
  · have : ¬ a0 = n0 := fun h => e0 h.symm
    simp [e0, this]

theorem scanSiblings_eq {t : ObjectTree} (hs : t.pool.size ≤ INV) (expr : List UInt8) (seg : Nat) (nm : Name)
    (hsl : SliceIs expr seg nm) (q : Nat → Bool) (hq : ∀ k, q k = true ↔ (slot t k).name = nm) :
    ∀ (l : List Nat) (f i : Nat), Chain t (Nx t) i l → l.length ≤ f →
      scanSiblings t expr seg f i = .ok ((l.find? q).map fun k => (k, slot t k)) :=
  Chain.walk hs (motive := fun f i l => scanSiblings t expr seg f i = .ok ((l.find? q).map fun k => (k, slot t k)))
    (fun f => by cases f <;> simp [scanSiblings, INV])
    (fun f i xs hl hne _ ih => by
      simp only [scanSiblings, hne, if_false, objectAt_live hl, deref_some, obj_eq (live_lt hl),
        bind, Except.bind, matchName_eq expr seg nm (slot t i).name hsl, List.find?]
      by_cases hn : (slot t i).name = nm
      · simp [hn, (hq i).2 hn, pure, Except.pure]
      · have hqf : q i = false := Bool.eq_false_iff.2 fun h => hn ((hq i).1 h)
        simp only [hn, decide_false, Bool.false_eq_true, if_false, hqf]
        exact ih)

theorem sliceIs_of_drop {expr : List UInt8} {off : Nat} {nm : Name} {tl : List UInt8}
    (h : expr.drop off = nm.toList ++ tl) : SliceIs expr off nm := by
  have g : ∀ k, expr[off + k]? = (nm.toList ++ tl)[k]? := by
    intro k; rw [← h, List.getElem?_drop]
  exact ⟨by rw [g]; rfl, by rw [g]; rfl, by rw [g]; rfl, by rw [g]; rfl⟩

theorem scanArgs_eq {t : ObjectTree} (w : WF t) (expr : List UInt8) (seg : Nat) (nm : Name)
    (hsl : SliceIs expr seg nm) {s : Nat} (hl : live t s = true) :
    scanSiblings t expr seg t.fuel (slot t s).firstArgIndex =
      .ok (((abs t).lookIn s nm).map fun k => (k, slot t k)) := by
  have hc := w.kids_chain hl
  have hlen : ((abs t).kids s).length ≤ t.fuel := by
    have := (w.args_eq hl).2.2
    simp [ObjectTree.fuel]; omega
  exact scanSiblings_eq w.size_le expr seg nm hsl (fun k => (abs t).name k = nm)
    (fun k => by simp only [abs]; exact decide_eq_true_iff) _ t.fuel _ hc hlen

def flat (segs : List Name) : List UInt8 := segs.flatMap Name.toList

theorem flat_cons (s : Name) (rest : List Name) : flat (s :: rest) = s.toList ++ flat rest := by
  simp [flat]

theorem lookIn_spec {t : ObjectTree} (w : WF t) {s k : Nat} {nm : Name} (hl : live t s = true)
    (h : (abs t).lookIn s nm = some k) : live t k = true ∧ P t k = s ∧ (slot t k).name = nm :=
  let ⟨h1, h2⟩ := (w.kids_mem s hl k).1 (List.mem_of_find?_eq_some h)
  ⟨h1, h2, of_decide_eq_true (List.find?_some (p := fun k => decide ((abs t).name k = nm)) h)⟩

def nameAt (expr : List UInt8) (seg : Nat) : Name := Name.ofList (expr.drop seg)

theorem sliceIs_nameAt {expr : List UInt8} {seg : Nat} (h : seg + 4 ≤ expr.length) : SliceIs expr seg (nameAt expr seg) := by
  have g : ∀ k, k < 4 → expr[seg + k]? = some ((expr.drop seg).getD k 0) := fun k hk => by
    rw [List.getD_eq_getElem?_getD, List.getElem?_drop, List.getElem?_eq_getElem (by omega)]; rfl
  exact ⟨g 0 (by omega), g 1 (by omega), g 2 (by omega), g 3 (by omega)⟩

theorem nameAt_of_drop {expr : List UInt8} {off : Nat} {nm : Name} {tl : List UInt8}
    (h : expr.drop off = nm.toList ++ tl) : nameAt expr off = nm := by
  rw [nameAt, h]; rfl

/-- one iteration of the `nextSegment` loop -/
theorem findRelativeLoop_succ {t : ObjectTree} (w : WF t) (expr : List UInt8) (n : Nat) {scope seg : Nat}
    (hl : live t scope = true) (h1 : seg < expr.length) :
    findRelativeLoop t expr (n + 1) scope seg =
      if expr.length - skipPrefix expr expr.length seg < amlNameLen then .ok INV
      else match (abs t).lookIn scope (nameAt expr (skipPrefix expr expr.length seg)) with
        | some k => findRelativeLoop t expr n k (skipPrefix expr expr.length seg + amlNameLen)
        | none => .ok INV := by
  conv => lhs; unfold findRelativeLoop
  simp only [h1, if_true]
  split
  · rfl
  · rename_i h2
    have hseg : skipPrefix expr expr.length seg + 4 ≤ expr.length := by simp [amlNameLen] at h2; omega
    simp only [objectAt_live hl, deref_some, obj_eq (live_lt hl), bind, Except.bind,
      scanArgs_eq w expr _ _ (sliceIs_nameAt hseg) hl]
    cases (abs t).lookIn scope (nameAt expr (skipPrefix expr expr.length seg)) <;> rfl

/-- one `^` -/
theorem findCarets_caret {t : ObjectTree} {scope : Nat} (hl : live t scope = true) (rest : List UInt8) :
    t.findCarets scope (0x5e :: rest) = if P t scope = INV then .ok INV else t.findCarets (P t scope) rest := by
  simp only [findCarets, if_true, objectAt_live hl, deref_some, obj_eq (live_lt hl), bind, Except.bind]
  rfl

theorem findUpward_succ {t : ObjectTree} (w : WF t) (expr : List UInt8) (hlen : 4 ≤ expr.length) (f : Nat) {scope : Nat}
    (hl : live t scope = true) :
    findUpward t expr (f + 1) scope = match (abs t).lookIn scope (nameAt expr 0) with
      | some k => .ok k
      | none => findUpward t expr f (P t scope) := by
  simp only [findUpward, live_ne_INV w.size_le hl, if_false, objectAt_live hl, deref_some, obj_eq (live_lt hl), bind,
    Except.bind, scanArgs_eq w expr 0 _ (sliceIs_nameAt (by omega)) hl]
  cases hk : (abs t).lookIn scope (nameAt expr 0) with
  | none => rfl
  | some k => simp [pure, Except.pure, w.index_eq k (live_lt (lookIn_spec w hl hk).1)]

/-- An invariant of the positions a lookup visits: kept on the way up, and on the way down to a child whose name starts
with a byte satisfying `N` (the lookup only descends to children whose name starts with a byte of the expression). -/
structure FindInv (t : ObjectTree) (N : UInt8 → Prop) (I : Nat → Prop) : Prop where
  par : ∀ x, live t x = true → I x → P t x ≠ INV → I (P t x)
  kid : ∀ cur j, live t cur = true → I cur → live t j = true → P t j = cur → N (slot t j).name.b0 → I j

theorem skipPrefix_ge (expr : List UInt8) : ∀ f s, s ≤ skipPrefix expr f s := by
  intro f
  induction f with
  | zero => intro s; simp [skipPrefix]
  | succ f ihf =>
    intro s
    unfold skipPrefix
    split
    · omega
    · rename_i b _
      split
      · omega
      · by_cases hb : b = 0x2f
        · have := ihf (s + 2); simp only [hb, if_true]; omega
        · have := ihf (s + 1); simp only [hb, if_false]; omega

theorem skipPrefix_stop (expr : List UInt8) : ∀ (f seg : Nat), expr.length ≤ seg + f →
    ∀ b, expr[skipPrefix expr f seg]? = some b → isNameStart b = true := by
  intro f
  induction f with
  | zero =>
    intro seg hle b hb
    simp only [skipPrefix] at hb
    have : expr[seg]? = none := List.getElem?_eq_none (by omega)
    rw [this] at hb; cases hb
  | succ f ih =>
    intro seg hle b hb
    unfold skipPrefix at hb
    cases hs : expr[seg]? with
    | none => rw [hs] at hb; simp only at hb; rw [hs] at hb; cases hb
    | some c =>
      rw [hs] at hb
      simp only at hb
      by_cases hc : isNameStart c = true
      · rw [if_pos hc] at hb; rw [hs] at hb; cases hb; exact hc
      · rw [if_neg hc] at hb
        exact ih _ (by split <;> omega) b hb

section lookup
variable {t : ObjectTree} (w : WF t) {N : UInt8 → Prop} {I : Nat → Prop} (hI : FindInv t N I)
include w hI

theorem findRelativeLoop_ok (hN : ∀ b, isNameStart b = true → N b) (expr : List UInt8) :
    ∀ (n scope seg : Nat), live t scope = true → I scope → expr.length < n + seg →
      GoodIn t I (findRelativeLoop t expr n scope seg) := by
  intro n
  induction n with
  | zero =>
    intro scope seg hl hi hn
    have : ¬ seg < expr.length := by omega
    exact ⟨scope, by simp [findRelativeLoop, this], Or.inr ⟨hl, hi⟩⟩
  | succ n ih =>
    intro scope seg hl hi hn
    by_cases h1 : seg < expr.length
    · rw [findRelativeLoop_succ w expr n hl h1]
      split
      · exact ⟨_, rfl, Or.inl rfl⟩
      · rename_i h2
        have hseg : skipPrefix expr expr.length seg + 4 ≤ expr.length := by simp [amlNameLen] at h2; omega
        cases hk : (abs t).lookIn scope (nameAt expr (skipPrefix expr expr.length seg)) with
        | none => exact ⟨_, rfl, Or.inl rfl⟩
        | some k =>
          obtain ⟨hkl, hp, hnm⟩ := lookIn_spec w hl hk
          refine ih k _ hkl (hI.kid scope k hl hi hkl hp (hN _ (skipPrefix_stop expr expr.length seg (by omega) _ ?_))) ?_
          · rw [hnm]; exact (sliceIs_nameAt hseg).1
          · have := skipPrefix_ge expr expr.length seg
            simp [amlNameLen]; omega
    · exact ⟨scope, by simp [findRelativeLoop, h1], Or.inr ⟨hl, hi⟩⟩

theorem findRelative_ok (hN : ∀ b, isNameStart b = true → N b) (expr : List UInt8) {scope : Nat}
    (hl : live t scope = true) (hi : I scope) : GoodIn t I (t.findRelative scope expr) :=
  findRelativeLoop_ok w hI hN expr _ scope 0 hl hi (by omega)

theorem findCarets_ok (hN : ∀ b, isNameStart b = true → N b) :
    ∀ (rest : List UInt8) (scope : Nat), live t scope = true → I scope → GoodIn t I (t.findCarets scope rest) := by
  intro rest
  induction rest with
  | nil => intro scope hl hi; exact ⟨scope, rfl, Or.inr ⟨hl, hi⟩⟩
  | cons b rest ih =>
    intro scope hl hi
    by_cases hb : b = 0x5e
    · rw [hb, findCarets_caret hl]
      split
      · exact ⟨_, rfl, Or.inl rfl⟩
      · rename_i hp; exact ih _ (w.live_p hl hp) (hI.par scope hl hi hp)
    · simp only [findCarets, hb, if_false]; exact findRelative_ok w hI hN _ hl hi

theorem findUpward_ok (expr : List UInt8) (hlen : 4 ≤ expr.length) (he : ∀ b, expr[0]? = some b → N b) :
    ∀ (l : List Nat) (f scope : Nat), Chain t (P t) scope l → l.length ≤ f → (scope ≠ INV → I scope) →
      GoodIn t I (findUpward t expr f scope) :=
  Chain.walk w.size_le (motive := fun f scope _ => (scope ≠ INV → I scope) → GoodIn t I (findUpward t expr f scope))
    (fun f _ => by cases f <;> exact ⟨INV, by simp [findUpward, INV], Or.inl rfl⟩)
    (fun f scope xs hl hne _ ih hi => by
      rw [findUpward_succ w expr hlen f hl]
      cases hk : (abs t).lookIn scope (nameAt expr 0) with
      | none => exact ih (hI.par scope hl (hi hne))
      | some k =>
        obtain ⟨hkl, hp, hnm⟩ := lookIn_spec w hl hk
        exact ⟨_, rfl, Or.inr ⟨hkl, hI.kid scope k hl (hi hne) hkl hp (he _ (by rw [hnm]; exact (sliceIs_nameAt (by omega)).1))⟩⟩)

/-- `Find` never fails, and what it finds satisfies every invariant that holds of the root and of the scope it starts from
(a one-segment expression descends to a child whose name starts with its first byte) -/
theorem find_inv (hN : ∀ b, isNameStart b = true → N b) (scope : Nat) (expr : List UInt8)
    (he : expr.length = amlNameLen → ∀ b, expr[0]? = some b → N b)
    (hroot : live t 0 = true) (h0 : I 0) (hl : scope = INV ∨ (live t scope = true ∧ I scope)) :
    GoodIn t I (t.Find scope expr) := by
  unfold ObjectTree.Find
  cases expr with
  | nil => exact ⟨_, rfl, Or.inl rfl⟩
  | cons b rest =>
    simp only []
    by_cases hs : scope = InvalidIndex
    · simp only [hs, if_true]; exact ⟨_, rfl, Or.inl rfl⟩
    · obtain ⟨hl, hi⟩ := hl.resolve_left hs
      simp only [hs, if_false]
      by_cases h1 : b = 0x5c
      · simp only [h1, if_true]
        by_cases h2 : rest.isEmpty = true
        · simp only [h2, if_true]; exact ⟨0, rfl, Or.inr ⟨hroot, h0⟩⟩
        · simp only [h2]; exact findRelative_ok w hI hN _ hroot h0
      · simp only [h1, if_false]
        by_cases h2 : b = 0x5e
        · simp only [h2, if_true]; exact findCarets_ok w hI hN _ _ hl hi
        · simp only [h2, if_false]
          by_cases h3 : (b :: rest).length > amlNameLen
          · simp only [h3, if_true]; exact findRelative_ok w hI hN _ hl hi
          · simp only [h3, if_false]
            by_cases h4 : (b :: rest).length = amlNameLen
            · simp only [h4, if_true]
              obtain ⟨l, hc, hlen⟩ := w.parChain scope (Or.inr hl)
              exact findUpward_ok w hI _ (by simp [amlNameLen] at h4; simp; omega) (he h4) l _ _ hc
                (by simp [ObjectTree.fuel]; omega) fun _ => hi
            · simp only [h4, if_false]; exact ⟨_, rfl, Or.inl rfl⟩

end lookup

theorem FindInv.true (t : ObjectTree) : FindInv t (fun _ => True) (fun _ => True) :=
  ⟨fun _ _ _ _ => trivial, fun _ _ _ _ _ _ _ => trivial⟩

theorem find_ok {t : ObjectTree} (w : WF t) (scope : Nat) (expr : List UInt8)
    (hroot : live t 0 = true) (hl : scope = INV ∨ live t scope = true) : GoodIdx t (t.Find scope expr) :=
  (find_inv w (.true t) (fun _ _ => trivial) scope expr (fun _ _ _ => trivial) hroot trivial
    (hl.imp_right fun h => ⟨h, trivial⟩)).idx

theorem loop_step {t : ObjectTree} (w : WF t) (expr : List UInt8) (s : Name) (rest : List Name)
    (n scope off0 off : Nat) (hl : live t scope = true) (h0 : off0 < expr.length)
    (hskip : skipPrefix expr expr.length off0 = off) (hdrop : expr.drop off = s.toList ++ flat rest)
    (hcont : ∀ k, live t k = true → expr.drop (off + amlNameLen) = flat rest →
      findRelativeLoop t expr n k (off + amlNameLen) = .ok (optIdx ((abs t).descend k rest))) :
    findRelativeLoop t expr (n + 1) scope off0 = .ok (optIdx ((abs t).descend scope (s :: rest))) := by
  have hlen : expr.length - off = 4 + (flat rest).length := by
    have := congrArg List.length hdrop
    simp [Name.toList] at this; omega
  have h4 : ¬ expr.length - off < amlNameLen := by simp [amlNameLen]; omega
  rw [findRelativeLoop_succ w expr n hl h0, hskip, if_neg h4, nameAt_of_drop hdrop, Forest.descend]
  cases hk : (abs t).lookIn scope s with
  | none => rfl
  | some k =>
    refine hcont k (lookIn_spec w hl hk).1 ?_
    have := congrArg (List.drop 4) hdrop
    simpa [List.drop_drop, Name.toList, amlNameLen, Nat.add_comm] using this

theorem skip_id (expr : List UInt8) (f off : Nat) (b : UInt8) (h : expr[off]? = some b)
    (hb : isNameStart b = true) : skipPrefix expr (f + 1) off = off := by
  simp [skipPrefix, h, hb]

theorem loop_run {t : ObjectTree} (w : WF t) (expr : List UInt8) :
    ∀ (rest : List Name) (n scope off : Nat), live t scope = true → expr.drop off = flat rest →
      (∀ s ∈ rest, isNameStart s.b0 = true) → expr.length < n + off → off ≤ expr.length →
      findRelativeLoop t expr n scope off = .ok (optIdx ((abs t).descend scope rest)) := by
  intro rest
  induction rest with
  | nil =>
    intro n scope off hl hd _ _ hle
    have : ¬ off < expr.length := by
      have := congrArg List.length hd
      simp [flat] at this; omega
    cases n <;> simp [findRelativeLoop, this, Forest.descend, optIdx]
  | cons s rest ih =>
    intro n scope off hl hd hns hfuel hle
    rw [flat_cons] at hd
    have hlen : expr.length - off = 4 + (flat rest).length := by
      have := congrArg List.length hd
      simp [Name.toList] at this; omega
    have h0 : off < expr.length := by omega
    cases n with
    | zero => omega
    | succ n =>
      have hb : expr[off]? = some s.b0 := by
        have := (sliceIs_of_drop hd).1
        simpa using this
      have hsk : skipPrefix expr expr.length off = off := by
        cases hL : expr.length with
        | zero => omega
        | succ f => exact skip_id expr f off s.b0 hb (hns s (by simp))
      exact loop_step w expr s rest n scope off off hl h0 hsk hd fun k hk hd' =>
        ih n k (off + amlNameLen) hk hd' (fun s' hs' => hns s' (by simp [hs'])) (by simp [amlNameLen]; omega)
          (by simp [amlNameLen]; omega)

/-- an encoded body is an optional DualNamePrefix / MultiNamePrefix+count followed by the segments; there is no prefix exactly
for a raw concatenation and for a single canonical segment -/
theorem encodeBody_shape (segs : List Name) (form : Form) (h : segs ≠ []) :
    ∃ hdr, encodeBody segs form = hdr ++ flat segs ∧ (hdr = [] ∨ hdr = [0x2e] ∨ ∃ c, hdr = [0x2f, c]) ∧
      (hdr = [] ↔ form = .raw ∨ (form = .canon ∧ segs.length = 1)) := by
  cases segs with
  | nil => exact absurd rfl h
  | cons a rest =>
    cases form with
    | raw => exact ⟨[], by simp [encodeBody, flat], Or.inl rfl, by simp⟩
    | multi => exact ⟨[0x2f, UInt8.ofNat (rest.length + 1)], by simp [encodeBody, flat], Or.inr (Or.inr ⟨_, rfl⟩), by simp⟩
    | canon =>
      cases rest with
      | nil => exact ⟨[], by simp [encodeBody, flat], Or.inl rfl, by simp⟩
      | cons b rest2 =>
        cases rest2 with
        | nil => exact ⟨[0x2e], by simp [encodeBody, flat], Or.inr (Or.inl rfl), by simp⟩
        | cons c rest3 =>
          exact ⟨[0x2f, UInt8.ofNat (rest3.length + 1 + 1 + 1)], by simp [encodeBody, flat],
            Or.inr (Or.inr ⟨_, rfl⟩), by simp⟩

theorem flat_length (segs : List Name) : (flat segs).length = 4 * segs.length := by
  rw [flat, length_flatMap_const (k := 4) fun _ _ => rfl, Nat.mul_comm]

theorem skip_hdr (hdr tl : List UInt8) (b : UInt8) (f : Nat) (hb : isNameStart b = true) (hf : 3 ≤ f)
    (hh : hdr = [] ∨ hdr = [0x2e] ∨ ∃ c, hdr = [0x2f, c]) :
    skipPrefix (hdr ++ b :: tl) f 0 = hdr.length := by
  obtain ⟨f, rfl⟩ : ∃ g, f = g + 3 := ⟨f - 3, by omega⟩
  rcases hh with rfl | rfl | ⟨c, rfl⟩
  · simp [skipPrefix, hb]
  · have : isNameStart 0x2e = false := by decide
    simp [skipPrefix, hb, this]
  · have : isNameStart 0x2f = false := by decide
    simp [skipPrefix, hb, this]

theorem findRelative_encodeBody {t : ObjectTree} (w : WF t) (segs : List Name) (form : Form)
    (hns : ∀ s ∈ segs, isNameStart s.b0 = true) {scope : Nat} (hl : live t scope = true) :
    t.findRelative scope (encodeBody segs form) = .ok (optIdx ((abs t).descend scope segs)) := by
  cases segs with
  | nil =>
    have : encodeBody [] form = [] := by cases form <;> rfl
    rw [this]
    simp [ObjectTree.findRelative, findRelativeLoop, Forest.descend, optIdx]
  | cons s rest =>
    obtain ⟨hdr, he, hh, -⟩ := encodeBody_shape (s :: rest) form (by simp)
    rw [he, flat_cons]
    generalize hE : hdr ++ (s.toList ++ flat rest) = expr
    have hlen : expr.length = hdr.length + 4 + (flat rest).length := by
      rw [← hE]; simp [Name.toList]; omega
    have hdrop : expr.drop hdr.length = s.toList ++ flat rest := by
      rw [← hE]; simp
    have hsk : skipPrefix expr expr.length 0 = hdr.length := by
      rw [← hE]
      have : hdr ++ (s.toList ++ flat rest) = hdr ++ s.b0 :: ([s.b1, s.b2, s.b3] ++ flat rest) := by
        simp [Name.toList]
      rw [this]
      apply skip_hdr _ _ _ _ (hns s (by simp)) _ hh
      simp; omega
    unfold ObjectTree.findRelative
    exact loop_step w expr s rest expr.length scope 0 hdr.length hl (by omega) hsk hdrop fun k hk hd' =>
      loop_run w expr rest _ k _ hk hd' (fun s' hs' => hns s' (by simp [hs'])) (by simp [amlNameLen])
        (by simp [amlNameLen]; omega)

theorem nameStart_ne {b : UInt8} (h : isNameStart b = true) : b ≠ 0x5c ∧ b ≠ 0x5e := by
  constructor <;> (rintro rfl; revert h; decide)

theorem climb_live {t : ObjectTree} (w : WF t) : ∀ (k scope s : Nat), live t scope = true →
    (abs t).climb k scope = some s → live t s = true := by
  intro k
  induction k with
  | zero => intro scope s hl h; simp [Forest.climb] at h; rw [← h]; exact hl
  | succ k ih =>
    intro scope s hl h
    simp only [Forest.climb, w.parentOf_abs scope hl] at h
    by_cases hp : P t scope = INV
    · simp [hp] at h
    · simp only [hp, if_false, Option.bind] at h
      exact ih _ s ((w.lP hl).lp.resolve_left hp) h

theorem findCarets_climb {t : ObjectTree} (w : WF t) (rest : List UInt8) :
    ∀ (k scope : Nat), live t scope = true →
      t.findCarets scope (List.replicate k 0x5e ++ rest) =
        match (abs t).climb k scope with
        | none => .ok INV
        | some s => t.findCarets s rest := by
  intro k
  induction k with
  | zero => intro scope _; simp [Forest.climb]
  | succ k ih =>
    intro scope hl
    rw [List.replicate_succ, List.cons_append, findCarets_caret hl, Forest.climb, w.parentOf_abs scope hl]
    split
    · rfl
    · rename_i hp; exact ih _ (w.live_p hl hp)

theorem WF.parChain_ids {t : ObjectTree} (w : WF t) (i : Nat) (h : live t i = true) :
    ∃ l, Chain t (P t) i l ∧ l.length ≤ t.pool.size ∧ l.length ≤ (abs t).ids.length := by
  obtain ⟨l, hc, hlen⟩ := w.parChain i (Or.inr h)
  obtain ⟨rk, hrk⟩ := w.rank
  have hnd := chain_nodup_of_lt w.size_le (fun a b => rk b < rk a) (fun _ => Nat.lt_irrefl _)
    (fun _ _ _ h1 h2 => Nat.lt_trans h2 h1) hrk l i hc
  exact ⟨l, hc, hlen, hnd.length_le_of_subset fun x hx => (mem_ids x).2 (chain_mem_live l i hc x hx)⟩

theorem findUpward_eq {t : ObjectTree} (w : WF t) (nm : Name) :
    ∀ (l : List Nat) (f g scope : Nat), Chain t (P t) scope l → l ≠ [] → l.length ≤ f → l.length ≤ g →
      findUpward t nm.toList f scope = .ok (optIdx ((abs t).searchUp nm g scope)) := fun l f g scope hc hne hf =>
  Chain.walk w.size_le (motive := fun f scope l => ∀ g, l ≠ [] → l.length ≤ g →
      findUpward t nm.toList f scope = .ok (optIdx ((abs t).searchUp nm g scope)))
    (fun _ _ h => absurd rfl h)
    (fun f scope xs hl hne hc' ih g _ hg => by
      cases g with
      | zero => simp at hg
      | succ g =>
        rw [findUpward_succ w nm.toList (by simp [Name.toList]) f hl, nameAt_of_drop (nm := nm) (tl := []) (by simp), Forest.searchUp]
        cases hk : (abs t).lookIn scope nm with
        | some k => rfl
        | none =>
          simp only [w.parentOf_abs scope hl]
          cases xs with
          | nil =>
            have hp : P t scope = INV := hc'
            cases f <;> simp [findUpward, hp, optIdx, INV]
          | cons y ys =>
            have hp : P t scope ≠ INV := by rw [hc'.1]; exact live_ne_INV w.size_le hc'.2.1
            simp only [hp, if_false, Option.bind]
            exact ih g (by simp) (by simpa using hg))
    l f scope hc hf g hne

theorem encodeBody_head (segs : List Name) (form : Form) (h : segs ≠ [])
    (hns : ∀ s ∈ segs, isNameStart s.b0 = true) :
    ∃ b tl, encodeBody segs form = b :: tl ∧ b ≠ 0x5c ∧ b ≠ 0x5e ∧ 3 ≤ tl.length := by
  obtain ⟨hdr, he, hh, -⟩ := encodeBody_shape segs form h
  cases segs with
  | nil => exact absurd rfl h
  | cons s rest =>
    rw [flat_cons] at he
    rcases hh with rfl | rfl | ⟨c, rfl⟩
    · exact ⟨s.b0, _, by rw [he]; simp [Name.toList]; rfl, (nameStart_ne (hns s (by simp))).1,
        (nameStart_ne (hns s (by simp))).2, by simp⟩
    · exact ⟨0x2e, _, by rw [he]; rfl, by decide, by decide, by simp [Name.toList]⟩
    · exact ⟨0x2f, _, by rw [he]; rfl, by decide, by decide, by simp [Name.toList]⟩

theorem encodeBody_long (segs : List Name) (form : Form) (h : segs ≠ [])
    (hs : ¬ (segs.length = 1 ∧ (form = .canon ∨ form = .raw))) : (encodeBody segs form).length > amlNameLen := by
  obtain ⟨hdr, he, hh, h0⟩ := encodeBody_shape segs form h
  have hn : segs.length ≠ 0 := fun e => h (List.eq_nil_of_length_eq_zero e)
  rw [he, List.length_append, flat_length]
  by_cases e : hdr = []
  · have : segs.length ≠ 1 := fun h1 => hs ⟨h1, (h0.1 e).elim Or.inr fun c => Or.inl c.1⟩
    simp [amlNameLen]; omega
  · have : 0 < hdr.length := List.length_pos_iff.2 e
    simp [amlNameLen]; omega

theorem encodeBody_single (nm : Name) (form : Form) (hf : form = .canon ∨ form = .raw) :
    encodeBody [nm] form = nm.toList := by
  obtain ⟨hdr, he, -, h0⟩ := encodeBody_shape [nm] form (by simp)
  rw [he, h0.2 (hf.elim (fun c => Or.inr ⟨c, rfl⟩) Or.inl)]; simp [flat]

/-- **Find = resolve** on every valid path -/
theorem find_correct' {t : ObjectTree} (w : WF t) (hroot : live t 0 = true) (scope : Nat)
    (hs : live t scope = true) (p : Path) (hv : p.valid = true) :
    t.Find scope (encode p) = .ok (optIdx (resolve (abs t) scope p)) := by
  obtain ⟨pre, segs, form⟩ := p
  simp only [Path.valid, Path.segsOK, Bool.and_eq_true, List.all_eq_true, decide_eq_true_eq,
    Bool.not_eq_true', Bool.and_eq_false_iff] at hv
  obtain ⟨⟨hns, _⟩, hne⟩ := hv
  have hsc : scope ≠ InvalidIndex := live_ne_INV w.size_le hs
  by_cases hsegs : segs = []
  · -- bare prefixes
    subst hsegs
    have hb : encodeBody [] form = [] := by cases form <;> rfl
    cases pre with
    | root =>
      simp [encode, encodePre, hb, ObjectTree.Find, hsc, resolve, Path.isSimple, Forest.descend, optIdx]
    | up k =>
      cases k with
      | zero => simp at hne
      | succ k =>
        have h1 : encode ⟨.up (k + 1), [], form⟩ = List.replicate (k + 1) 0x5e := by
          simp [encode, encodePre, hb]
        have h2 : resolve (abs t) scope ⟨.up (k + 1), [], form⟩ = (abs t).climb (k + 1) scope := by
          simp only [resolve, Path.isSimple]
          cases (abs t).climb (k + 1) scope <;> simp [Forest.descend]
        have hF : t.Find scope (List.replicate (k + 1) 0x5e) = t.findCarets scope (List.replicate (k + 1) 0x5e ++ []) := by
          simp [ObjectTree.Find, List.replicate_succ, hsc]
        rw [h2, h1, hF, findCarets_climb w [] (k + 1) scope hs]
        cases (abs t).climb (k + 1) scope <;> rfl
  · obtain ⟨b, tl, hbody, hb1, hb2, htl⟩ := encodeBody_head segs form hsegs hns
    have hdesc := fun (s : Nat) (hl : live t s = true) => findRelative_encodeBody w segs form hns hl
    cases pre with
    | root =>
      have hr : resolve (abs t) scope ⟨.root, segs, form⟩ = (abs t).descend 0 segs := by
        simp [resolve, Path.isSimple]
      rw [hr, ← hdesc 0 hroot]
      simp [encode, encodePre, hbody, ObjectTree.Find, hsc]
    | up k =>
      cases k with
      | succ k =>
        have hr : resolve (abs t) scope ⟨.up (k + 1), segs, form⟩ =
            ((abs t).climb (k + 1) scope).bind fun s => (abs t).descend s segs := by
          simp [resolve, Path.isSimple]
        have he : encode ⟨.up (k + 1), segs, form⟩ = List.replicate (k + 1) 0x5e ++ b :: tl := by
          simp [encode, encodePre, hbody]
        have hF : t.Find scope (List.replicate (k + 1) 0x5e ++ b :: tl) =
            t.findCarets scope (List.replicate (k + 1) 0x5e ++ b :: tl) := by
          simp [ObjectTree.Find, List.replicate_succ, hsc]
        rw [hr, he, hF, findCarets_climb w (b :: tl) (k + 1) scope hs]
        cases hc : (abs t).climb (k + 1) scope with
        | none => simp [optIdx]
        | some s =>
          simp only [Option.bind, findCarets, hb2, if_false]
          rw [← hbody]
          exact hdesc s (climb_live w _ _ _ hs hc)
      | zero =>
        have he : encode ⟨.up 0, segs, form⟩ = b :: tl := by simp [encode, encodePre, hbody]
        by_cases hsim : segs.length = 1 ∧ (form = .canon ∨ form = .raw)
        · -- the search rule
          obtain ⟨h1, hf⟩ := hsim
          obtain ⟨nm, rfl⟩ : ∃ nm, segs = [nm] := by
            cases segs with
            | nil => simp at h1
            | cons a r => cases r with
              | nil => exact ⟨a, rfl⟩
              | cons _ _ => simp at h1
          have hr : resolve (abs t) scope ⟨.up 0, [nm], form⟩ =
              (abs t).searchUp nm ((abs t).ids.length + 1) scope := by
            rcases hf with rfl | rfl <;> simp [resolve, Path.isSimple]
          have hbt : b :: tl = nm.toList := by rw [← hbody]; exact encodeBody_single nm form hf
          obtain ⟨l, hc, hl1, hl2⟩ := w.parChain_ids scope hs
          have hl0 : l ≠ [] := by
            intro e; rw [e] at hc; exact hsc hc
          rw [hr, he, hbt, ← findUpward_eq w nm l t.fuel _ scope hc hl0
            (by simp [ObjectTree.fuel]; omega) (by omega)]
          have h0 : nm.toList = nm.b0 :: [nm.b1, nm.b2, nm.b3] := rfl
          have hn := nameStart_ne (hns nm (by simp))
          rw [h0]
          simp [ObjectTree.Find, hsc, hn.1, hn.2, amlNameLen]
        · have hr : resolve (abs t) scope ⟨.up 0, segs, form⟩ = (abs t).descend scope segs := by
            have : Path.isSimple ⟨.up 0, segs, form⟩ = false := by
              simp only [Path.isSimple, Bool.and_eq_false_iff, Bool.or_eq_false_iff]
              by_cases h1 : segs.length = 1
              · right
                have := fun hf => hsim ⟨h1, hf⟩
                cases form <;> simp at this ⊢
              · left; right; simpa using h1
            simp [resolve, this, Forest.climb]
          have hlong := encodeBody_long segs form hsegs hsim
          rw [hr, he, ← hdesc scope hs, hbody]
          rw [hbody] at hlong
          have hlong' : ¬ (tl.length + 1 ≤ amlNameLen) := by simp at hlong; omega
          simp [ObjectTree.Find, hsc, hb1, hb2, hlong']

end Firefly.C13
