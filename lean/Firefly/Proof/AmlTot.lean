import Firefly.Proof.AmlTreeOps
import Firefly.Model.AmlParser
import Firefly.Proof.AmlRows
/-!
Tree-level facts shared by the total-correctness / panic-freedom proofs about the parser model: a payload update keeps
the links and `WF` (`SameLinks`, `KeepsLinks`/`KeepsLive`; `Upd`, the record of such an update), and the pool invariant
`G.TreeG` of the parser (the passes' `TP` is the same three facts about a parser state) under payload updates and link edits.
Last, `RevWalk`: the unfolding equations of the three reverse tree passes, over which each walk of them (`keeps_revWalk`,
`revWalk_np`, `revWalk_node`) is stated once; and `fwdLoopBody`, the round that `mergeLoop` and `relocateLoop` share
(`keeps_fwdLoopBody`, `fwdLoopBody_np`, `fwdBody_quiet`).
-/

namespace Firefly.AmlParser
open Firefly.AmlLex Firefly.AmlTree Firefly.C13
open Firefly.Gen.C12 (invalidIndex)

structure SameLinks (t t' : ObjectTree) : Prop where
  size : t'.pool.size = t.pool.size
  head : t'.freeListHeadIndex = t.freeListHeadIndex
  p : ∀ x, C13.P t' x = C13.P t x
  pv : ∀ x, Pv t' x = Pv t x
  nx : ∀ x, Nx t' x = Nx t x
  fi : ∀ x, Fi t' x = Fi t x
  la : ∀ x, La t' x = La t x
  live : ∀ x, live t' x = live t x
  index : ∀ x, (slot t' x).index = (slot t x).index

theorem wf_of_sameLinks {t t' : ObjectTree} (w : WF t) (h : SameLinks t t') : WF t' := by
  have hP : C13.P t' = C13.P t := funext h.p
  have hPv : Pv t' = Pv t := funext h.pv
  have hNx : Nx t' = Nx t := funext h.nx
  have hFi : Fi t' = Fi t := funext h.fi
  have hLa : La t' = La t := funext h.la
  have hlive : live t' = live t := funext h.live
  apply WF.transfer w h.size h.head h.live h.index (fun x _ => h.nx x)
  · intro i hl
    have : localOK t' i = localOK t i := by
      simp only [localOK, linkOK, hP, hPv, hNx, hFi, hLa, hlive]
    exact (localOK_iff t' i).1 (by rw [this]; exact w.loc i (by rw [← h.live]; exact hl))
  · obtain ⟨rk, hrk⟩ := w.rank
    exact ⟨rk, fun i hl hp => by rw [hP] at hp ⊢; exact hrk i (by rw [← h.live]; exact hl) hp⟩
  · obtain ⟨pos, hpos⟩ := w.order
    exact ⟨pos, fun i hl hn => by rw [hNx] at hn ⊢; exact hpos i (by rw [← h.live]; exact hl) hn⟩

/-- the link part of an object (with `index`): what `Pay` leaves out -/
abbrev Lnk (o : Obj) : Nat × Nat × Nat × Nat × Nat × Nat :=
  (o.parentIndex, o.prevSiblingIndex, o.nextSiblingIndex, o.firstArgIndex, o.lastArgIndex, o.index)

/-- for a record update of a field other than the links and `index` the proof is `fun _ => rfl` -/
def KeepsLinks (f : Obj → Obj) : Prop := ∀ o, Lnk (f o) = Lnk o

/-- `f` does not change whether slot `i` is freed -/
def KeepsLive (t : ObjectTree) (i : Nat) (f : Obj → Obj) : Prop :=
  (f (slot t i)).opcode = pOpIntFreedObject ↔ (slot t i).opcode = pOpIntFreedObject

theorem sameLinks_setAt (t : ObjectTree) (i : Nat) (f : Obj → Obj) (hf : KeepsLinks f) (hl : KeepsLive t i f) :
    SameLinks t (setAt t i f) := by
  refine ⟨by simp, rfl, fun x => proj_keep t i f x Obj.parentIndex fun o => congrArg (·.1) (hf o),
    fun x => proj_keep t i f x Obj.prevSiblingIndex fun o => congrArg (·.2.1) (hf o),
    fun x => proj_keep t i f x Obj.nextSiblingIndex fun o => congrArg (·.2.2.1) (hf o),
    fun x => proj_keep t i f x Obj.firstArgIndex fun o => congrArg (·.2.2.2.1) (hf o),
    fun x => proj_keep t i f x Obj.lastArgIndex fun o => congrArg (·.2.2.2.2.1) (hf o), fun x => ?_,
    fun x => proj_keep t i f x Obj.index fun o => congrArg (·.2.2.2.2.2) (hf o)⟩
  -- only slot `i` can change, and there `f` keeps the freed marker
  simp only [live, size_setAt, proj_setAt t i f x Obj.opcode]
  split
  · rename_i hc
    rw [← hc.1, decide_eq_decide.2 (not_congr hl)]
  · rfl

structure Upd (t t' : ObjectTree) (i : Nat) (f : Obj → Obj) : Prop where
  links : SameLinks t t'
  self : slot t' i = f (slot t i)
  other : ∀ x, x ≠ i → slot t' x = slot t x

theorem upd_setAt (t : ObjectTree) {i : Nat} (hi : i < t.pool.size) (f : Obj → Obj) (hf : KeepsLinks f) (hl : KeepsLive t i f) :
    Upd t (setAt t i f) i f :=
  ⟨sameLinks_setAt t i f hf hl, by rw [slot_setAt', if_pos ⟨rfl, hi⟩], fun x hx => by
    rw [slot_setAt', if_neg (fun hc => hx hc.1.symm)]⟩

theorem Upd.keeps {t t' : ObjectTree} {i : Nat} {f : Obj → Obj} (u : Upd t t' i f) {α : Type} (g : Obj → α)
    (h : g (f (slot t i)) = g (slot t i)) (y : Nat) : g (slot t' y) = g (slot t y) := by
  by_cases hy : y = i
  · rw [hy, u.self]; exact h
  · rw [u.other y hy]

namespace G

structure TreeG (t : ObjectTree) : Prop where
  wf : WF t
  info : ∀ x, live t x = true → InfoOK (slot t x).infoIndex
  root : live t 0 = true

theorem treeG_setAt {t : ObjectTree} (h : TreeG t) (i : Nat) (f : Obj → Obj) (hf : KeepsLinks f)
    (hl : KeepsLive t i f) (hinfo : live t i = true → InfoOK (f (slot t i)).infoIndex) : TreeG (setAt t i f) := by
  have sl := sameLinks_setAt t i f hf hl
  refine ⟨wf_of_sameLinks h.wf sl, ?_, by rw [sl.live]; exact h.root⟩
  intro x hx
  have hx' : live t x = true := by rw [← sl.live]; exact hx
  rw [slot_setAt']
  split
  · rename_i hc; obtain ⟨rfl, _⟩ := hc; exact hinfo hx'
  · exact h.info x hx'

theorem TreeG.ofPay {t t' : ObjectTree} (h : TreeG t) (w' : WF t') (sp : SamePay t t') : TreeG t' :=
  ⟨w', fun x hx => by rw [pay_info (sp.pay x)]; exact h.info x (by rw [← sp.live]; exact hx), by rw [sp.live]; exact h.root⟩

end G

/-- `connectNamedObjArgs`, `connectNonNamedObjArgs` and `resolveMethodCalls` one level down: the visit of an object is the
loop over its arguments from the last one -/
def visitBody (L : Nat → Nat → P PRes) (objIndex : Nat) : P PRes := do
  let obj ← derefP (← objectAt objIndex)
  let o ← getObj obj
  L obj o.lastArgIndex

/-- one round of their reverse argument loops in terms of the visit `V` and the loop `L` one level down: the recursive
call, then `after obj argObj k`, the rest of the round, where `k` goes on with the previous sibling -/
def revLoopBody (after : Nat → Nat → P PRes → P PRes) (V : Nat → P PRes) (L : Nat → Nat → P PRes) (obj argIndex : Nat) :
    P PRes := do
  if argIndex = invalidIndex then pure .ok else do
  let argObj ← derefP (← objectAt argIndex)
  let ao ← getObj argObj
  if (← V ao.index) ≠ .ok then pure .failed else
  after obj argObj (do L obj (← prevOf argObj))

/-- one round of `mergeLoop` and of `relocateLoop`, which have the same text, in terms of the visit `V` and the loop `L` one
level down -/
def fwdLoopBody (V : Nat → P PRes) (L : Nat → PRes → P PRes) (sib : Nat) (res : PRes) : P PRes := do
  if sib = invalidIndex then pure res else do
  let argObj ← derefP (← objectAt sib)
  let ao ← getObj argObj
  match ← V ao.index with
  | .failed => pure .failed
  | .requireExtraPass => L ao.nextSiblingIndex .requireExtraPass
  | _ => L ao.nextSiblingIndex res

/-- the rest of a round of `connectNonNamedObjArgs` and `resolveMethodCalls`: `step` says whether to go on -/
def afterStep (step : Nat → Nat → P Bool) (obj argObj : Nat) (k : P PRes) : P PRes := do
  if !(← step obj argObj) then pure .failed else k

structure RevWalk (after : Nat → Nat → P PRes → P PRes) (V : Nat → Nat → P PRes) (L : Nat → Nat → Nat → P PRes) : Prop where
  v0 : ∀ i, V 0 i = throw .outOfFuel
  l0 : ∀ o a, L 0 o a = throw .outOfFuel
  v : ∀ f i, V (f + 1) i = visitBody (L f) i
  l : ∀ f o a, L (f + 1) o a = revLoopBody after (V f) (L f) o a

/-- the rest of a round of `connectNamedObjArgs` -/
def afterNamed (d : Bytes) (obj argObj : Nat) (k : P PRes) : P PRes := do
  match ← connectNamedStep d obj argObj with
  | .inl res => pure res
  | .inr _ => k

theorem connectNamed_rev (d : Bytes) : RevWalk (afterNamed d) (connectNamedObjArgs d) (connectNamedLoop d) :=
  ⟨fun _ => rfl, fun _ _ => rfl, fun _ _ => rfl, fun _ _ _ => rfl⟩
theorem connectNonNamed_rev : RevWalk (afterStep connectNonNamedStep) connectNonNamedObjArgs connectNonNamedLoop :=
  ⟨fun _ => rfl, fun _ _ => rfl, fun _ _ => rfl, fun _ _ _ => rfl⟩
theorem resolve_rev (d : Bytes) : RevWalk (afterStep (resolveStep d)) (resolveMethodCalls d) (resolveLoop d) :=
  ⟨fun _ => rfl, fun _ _ => rfl, fun _ _ => rfl, fun _ _ _ => rfl⟩

end Firefly.AmlParser
