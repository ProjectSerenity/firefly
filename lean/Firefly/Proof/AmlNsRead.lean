import Firefly.Proof.AmlLinks
import Firefly.Proof.AmlFragRows
import Firefly.Model.AmlNs
import Firefly.Proof.AmlNsSpec
/-!
Reading a namespace off a pool (`AmlProg.nsOf`): the table and the default pool of the model run, what `nsWalk`, `callWalk`,
`treeDesc` and `intOf` see at childless objects, integers and name paths, and the namespaces without methods that the C11
fragments produce (`flatNs`), with the programs of the flat fragment (`Decl`, `Item`, `FlatItem`: lists of
`Name(NAME, integer)` declarations and the objects they become), over which the nested fragment's specification is stated too.
-/

namespace Firefly.AmlParser.F
open Firefly.AmlLex Firefly.AmlTree Firefly.C13 Firefly.AmlParser Firefly.AmlParser.G Firefly.AmlParser.S
open Firefly.Gen.C12 Firefly.AmlProg Firefly.AmlNs

theorem mkTable_size (pl : Array UInt8) : (mkTable pl).size = headerLen + pl.size := by
  simp [mkTable, headerLen]
  omega

theorem mkTable_bytes (pl : Array UInt8) : BytesAt (mkTable pl) headerLen pl.toList := by
  intro i hi
  unfold mkTable
  rw [Array.getElem?_append_right (by simp [headerLen])]
  simp [headerLen]

theorem mkTable_list (p : List UInt8) :
    (mkTable p.toArray).size = headerLen + p.length ∧ BytesAt (mkTable p.toArray) headerLen p :=
  ⟨by rw [mkTable_size, List.size_toArray], mkTable_bytes p.toArray⟩

/-- executable form of `Base` together with the names of the default scopes -/
def baseB (t : ObjectTree) : Bool :=
  live t 0 && decide (C13.P t 0 = INV) && decide ((slot t 0).opcode = opIntScopeBlock) &&
  decide ((slot t 0).infoIndex = pOpcodeTableIndex opIntScopeBlock true) &&
  (K t 0).all (fun y => decide (K t y = []) && decide ((slot t y).opcode = opIntScopeBlock) &&
    decide ((slot t y).infoIndex = pOpcodeTableIndex opIntScopeBlock true)) &&
  decide ((K t 0).map (fun y => ([nameStr (slot t y).name], "scope")) = defaultNs.objs) &&
  decide (t.pool.size = 6)

theorem default_tree : ∃ t, defaultTree 0 = .ok t ∧ TreeG t ∧ Base t ∧
    (K t 0).map (fun y => ([nameStr (slot t y).name], "scope")) = defaultNs.objs ∧ t.pool.size = 6 := by
  have h : (match defaultTree 0 with
    | .ok t => treeGb t && baseB t | .error _ => false) = true := by decide +kernel
  cases hd : defaultTree 0 with
  | error e => rw [hd] at h; cases h
  | ok t =>
    rw [hd] at h
    simp only [Bool.and_eq_true] at h
    obtain ⟨hg, hb⟩ := h
    have tg := treeG_of_b hg
    simp only [baseB, Bool.and_eq_true, decide_eq_true_eq, List.all_eq_true] at hb
    obtain ⟨⟨⟨⟨⟨⟨b1, b2⟩, b3⟩, b4⟩, b5⟩, b6⟩, b7⟩ := hb
    exact ⟨t, rfl, tg, ⟨tg.wf, b1, b2, b3, b4, fun y hy => by
      have := b5 y hy
      exact ⟨this.1.1, this.1.2, this.2⟩⟩, b6, b7⟩

theorem pool_live {t : ObjectTree} {y : Nat} (hl : live t y = true) : t.pool[y]? = some (slot t y) := by
  have := live_lt hl
  rw [Array.getElem?_eq_getElem this, slot_of_lt this]

theorem nsWalk_leaf (t : ObjectTree) (tables : Array Bytes) (f y : Nat) (path : AmlProg.Path) (hk : K t y = []) :
    nsWalk t tables (f + 1) y path = [] := by
  rw [nsWalk]
  show (K t y).flatMap _ = []
  rw [hk]; rfl

theorem callWalk_leaf (t : ObjectTree) (f y : Nat) (hk : K t y = []) : callWalk t (f + 1) y = [] := by
  rw [callWalk]
  show (K t y).flatMap _ = []
  rw [hk]; rfl

/-- the body of the `flatMap` in `nsWalk` -/
def nsStep (t : ObjectTree) (tables : Array Bytes) (f i : Nat) (path : AmlProg.Path) (c : Nat) :
    List (AmlProg.Path × String × Nat) :=
  match t.pool[c]? with
  | none => []
  | some o =>
    if o.opcode = 0x1f6 then
      if i = 0 then (path ++ [nameStr o.name], "scope", c) :: nsWalk t tables f c (path ++ [nameStr o.name])
      else nsWalk t tables f c path
    else match treeDesc t tables c o with
      | some d => (path ++ [nameStr o.name], d, c) :: nsWalk t tables f c (path ++ [nameStr o.name])
      | none => nsWalk t tables f c path

theorem nsWalk_eq (t : ObjectTree) (tables : Array Bytes) (f i : Nat) (path : AmlProg.Path) :
    nsWalk t tables (f + 1) i path = (K t i).flatMap (nsStep t tables f i path) := by
  rw [nsWalk]; rfl

theorem nsStep_leaf {t : ObjectTree} (tables : Array Bytes) (f i : Nat) (path : AmlProg.Path) {c : Nat} (hl : live t c = true)
    (hk : K t c = []) (hop : (slot t c).opcode ≠ 0x1f6) (hd : treeDesc t tables c (slot t c) = none) :
    nsStep t tables (f + 1) i path c = [] := by
  unfold nsStep
  rw [pool_live hl]
  simp only [if_neg hop, hd]
  exact nsWalk_leaf t tables f c path hk

theorem nsStep_named {t : ObjectTree} {tables : Array Bytes} {x : Nat} {desc : String} (f i : Nat) (π : AmlProg.Path)
    (lx : live t x = true) (hop : (slot t x).opcode ≠ 0x1f6) (hd : treeDesc t tables x (slot t x) = some desc) :
    nsStep t tables f i π x =
      (π ++ [nameStr (slot t x).name], desc, x) :: nsWalk t tables f x (π ++ [nameStr (slot t x).name]) := by
  unfold nsStep
  rw [pool_live lx]
  simp only [if_neg hop, hd]

theorem nsStep_block {t : ObjectTree} {tables : Array Bytes} {x i : Nat} (f : Nat) (π : AmlProg.Path) (lx : live t x = true)
    (hop : (slot t x).opcode = opIntScopeBlock) (hi : i ≠ 0) : nsStep t tables f i π x = nsWalk t tables f x π := by
  unfold nsStep
  rw [pool_live lx]
  have hop : (slot t x).opcode = 0x1f6 := hop
  simp only [hop, if_true, if_neg hi]

/-- a scope block directly under the root is the entry `scope` -/
theorem nsStep_scope {t : ObjectTree} (tables : Array Bytes) (f : Nat) (path : AmlProg.Path) {c : Nat} (hl : live t c = true)
    (hop : (slot t c).opcode = opIntScopeBlock) :
    nsStep t tables f 0 path c =
      (path ++ [nameStr (slot t c).name], "scope", c) :: nsWalk t tables f c (path ++ [nameStr (slot t c).name]) := by
  unfold nsStep
  rw [pool_live hl]
  have hop : (slot t c).opcode = 0x1f6 := hop
  simp only [hop, if_true]

/-- the body of the `flatMap` in `callWalk` -/
def callStep (t : ObjectTree) (f : Nat) (c : Nat) : List (Nat × Nat) :=
  match t.pool[c]? with
  | none => []
  | some o =>
    (if o.opcode = 0x1fd then
      match o.value with
      | .idx m => [(m, (kidsOf t c).length)]
      | _ => [(4294967295, 0)]
     else []) ++ callWalk t f c

theorem callWalk_eq (t : ObjectTree) (f i : Nat) : callWalk t (f + 1) i = (K t i).flatMap (callStep t f) := by
  rw [callWalk]; rfl

theorem callStep_nil {t : ObjectTree} (f : Nat) {c : Nat} (hl : live t c = true) (hop : (slot t c).opcode ≠ 0x1fd)
    (hw : callWalk t f c = []) : callStep t f c = [] := by
  unfold callStep
  rw [pool_live hl]
  simp only [if_neg hop, hw, List.append_nil]

theorem intOf_eq {t : ObjectTree} {k n : Nat} (hl : live t k = true) (h : IntObj t k n) : intOf t k = s!"i{n}" := by
  unfold intOf
  rw [pool_live hl]
  rcases h with ⟨h1, h2⟩ | ⟨h1, h2⟩ | ⟨h1, h2⟩ | ⟨h1, h2, h3, h4⟩
  · dsimp only
    rw [h1, h2, if_pos rfl]; decide
  · dsimp only
    rw [h1, h2, if_neg (by decide), if_pos rfl]; decide
  · dsimp only
    rw [h1, h2, if_neg (by decide), if_neg (by decide), if_pos rfl]; decide
  · dsimp only
    rw [if_neg h1, if_neg h2, if_neg h3, h4]

theorem treeDesc_const (t : ObjectTree) (tables : Array Bytes) (c : Nat) (o : AmlTree.Obj) (w v : Nat) (h : o.opcode = constOp w v) :
    treeDesc t tables c o = none ∧ o.opcode ≠ 0x1f6 ∧ o.opcode ≠ 0x1fd ∧ o.opcode ≠ 0x0d ∧ o.opcode ≠ 0x11 ∧ o.opcode ≠ 0x12 := by
  unfold treeDesc
  rcases constOp_cases w v with e | e | e | e | e | e | e <;> rw [h, e] <;> simp

theorem treeDesc_path (t : ObjectTree) (tables : Array Bytes) (c : Nat) (o : AmlTree.Obj) (h : o.opcode = opIntNamePath) :
    treeDesc t tables c o = none ∧ o.opcode ≠ 0x1f6 ∧ o.opcode ≠ 0x1fd := by
  unfold treeDesc
  rw [h]
  simp [opIntNamePath]

/-- a namespace without methods, call sites and errors -/
def flatNs (defs ents : List (AmlProg.Path × String)) : Namespace := { objs := defs ++ ents }

/-- `name:i<value>` -/
def entryDesc (w v : Nat) : String := s!"name:{s!"i{intVal w v}"}"

/-- a name segment: four characters below 256, the first one a capital letter or `_` -/
def SegOK (str : String) : Prop :=
  str.toList.length = 4 ∧ (∀ c ∈ str.toList, c.toNat < 256) ∧
  ∃ c, str.toList[0]? = some c ∧ ((0x41 ≤ c.toNat ∧ c.toNat ≤ 0x5a) ∨ c.toNat = 0x5f)

theorem char_rt (c : Char) (h : c.toNat < 256) : Char.ofNat (UInt8.ofNat c.toNat).toNat = c := by
  simp [Nat.mod_eq_of_lt h]

theorem nameStr_seg {str : String} (h : SegOK str) : nameStr (Name.ofList (segBytes str)) = str := by
  obtain ⟨h4, hlt, _⟩ := h
  have : ∃ c0 c1 c2 c3, str.toList = [c0, c1, c2, c3] := by
    match hs : str.toList, h4 with
    | [c0, c1, c2, c3], _ => exact ⟨c0, c1, c2, c3, rfl⟩
  obtain ⟨c0, c1, c2, c3, hs⟩ := this
  have e : nameStr (Name.ofList (segBytes str)) = String.ofList str.toList := by
    unfold nameStr segBytes
    rw [hs]
    simp only [List.map_cons, List.map_nil, Name.ofList, Name.toList, List.getD_cons_zero, List.getD_cons_succ]
    rw [char_rt c0 (hlt c0 (by rw [hs]; simp)), char_rt c1 (hlt c1 (by rw [hs]; simp)), char_rt c2 (hlt c2 (by rw [hs]; simp)),
      char_rt c3 (hlt c3 (by rw [hs]; simp))]
  rw [e, String.ofList_toList]

theorem seg_len {str : String} (h : SegOK str) : (segBytes str).length = 4 := by simp [segBytes, h.1]

theorem seg_nameOK {str : String} (h : SegOK str) : NameOK [segBytes str] := by
  have hlen := seg_len h
  obtain ⟨_, hlt, c, hc, hcc⟩ := h
  refine ⟨?_, by simp, ?_⟩
  · intro s hs
    simp only [List.mem_cons, List.mem_nil_iff, or_false] at hs
    rw [hs]; exact hlen
  · intro s hs
    simp only [List.cons.injEq, and_true] at hs
    subst hs
    refine ⟨UInt8.ofNat c.toNat, by simp [segBytes, hc], ?_⟩
    have hclt : c.toNat < 256 := hlt c (List.mem_of_getElem? hc)
    have : (UInt8.ofNat c.toNat).toNat = c.toNat := UInt8.toNat_ofNat_of_lt' hclt
    rw [this]; exact hcc

theorem sameList_refl {α : Type} [BEq α] [LawfulBEq α] (l : List α) : sameList l l = true := by
  unfold sameList
  simp [List.all_eq_true]

theorem sameNs_refl (a : Namespace) : sameNs a a = true := by
  unfold sameNs
  rw [sameList_refl, sameList_refl]; rfl


/-- `Name(path, integer)`: the name string (root prefix, carets, segments) and the integer (encoding width, value) -/
structure Decl where
  root : Bool
  carets : Nat
  segs : List (List UInt8)
  w : Nat
  v : Nat

/-- the three objects of a declaration: the `Name` object, its name path, the integer; and where the path lies -/
structure Item where
  x : Nat
  c : Nat
  k : Nat
  off : Nat
  q : Decl

/-- `Name(str, integer)`: the name segment, the encoding width of the integer (`0`: ZeroOp/OneOp/OnesOp), its value -/
structure FlatItem where
  str : String
  w : Nat
  v : Nat

def FlatItem.obj (a : FlatItem) : AmlProg.Obj := .name { segs := [a.str] } (.int a.w a.v)
def FlatItem.decl (a : FlatItem) : Decl := ⟨false, 0, [segBytes a.str], a.w, a.v⟩

def FlatItem.OK (a : FlatItem) : Prop := SegOK a.str ∧ IntW a.w

end Firefly.AmlParser.F
