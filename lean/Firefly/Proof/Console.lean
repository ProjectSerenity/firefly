import Firefly.Spec.Console
import Firefly.Proof.CellArith
import Firefly.Proof.FbMem
import Firefly.Proof.Bits
/-!
Lemmas for C19: what the row loops that `Model/VgaText.lean` and `Model/VesaFb.lean` build from the
checked-access loops compute, as pointwise updates `Upd`: the counted loops of `Fill` and `Write` are
instances of one `rowLoop` (`rowLoop_spec`, `paint_spec`); then the scroll row loops and the glyph walk.
-/
namespace Firefly.ConsoleProof
open Firefly.FbMem

/-- proof-side form of the counted loops of `Fill` and `Write`: trip `py` runs `body fb off py` at the
offset `off`, consecutive trips are `pitch` apart.  The rows of a rectangle are such a loop, and so are
the pixels of one row. -/
def rowLoop (body : Array α → Nat → Nat → Option (Array α)) (pitch : Nat) :
    (h : Nat) → (fb : Array α) → (rowOff py : Nat) → Option (Array α)
  | 0, fb, _, _ => some fb
  | h+1, fb, rowOff, py =>
    match body fb rowOff py with
    | none => none
    | some fb' => rowLoop body pitch h fb' (add32 rowOff pitch) (py+1)

/-- `blk i` is the trip that owns index `i`: its row, or its pixel column. -/
theorem rowLoop_spec {body : Array α → Nat → Nat → Option (Array α)} {pitch base K N : Nat} {blk : Nat → Nat}
    {In : Nat → Prop} [DecidablePred In] {val : Nat → Nat → Option α} (h32 : base + K * pitch < 4294967296)
    (hbody : ∀ (fb : Array α) (k py : Nat), fb.size = N → k < K →
      Upd (body fb (base + k * pitch) py) fb (fun i => blk i = k ∧ In i) (val py)) :
    ∀ (h : Nat) (fb : Array α) (k py : Nat), fb.size = N → k + h ≤ K →
    Upd (rowLoop body pitch h fb (base + k * pitch) py) fb
      (fun i => (k ≤ blk i ∧ blk i < k + h) ∧ In i) (fun i => val (py + (blk i - k)) i)
  | 0, _, _, _, _, _ => .refl (by omega)
  | h+1, fb, k, py, hN, hK => by
    have e : base + k * pitch + pitch = base + (k + 1) * pitch := by rw [Nat.add_one_mul, Nat.add_assoc]
    have := Nat.mul_le_mul_right pitch (show k + 1 ≤ K by omega)
    refine (hbody fb k py hN (by omega)).seq (fun fb1 e1 hsz' _ => by
      rw [rowLoop, e1, add32_of_lt (by omega), e]
      exact rowLoop_spec h32 hbody h fb1 (k + 1) (py + 1) (hsz'.trans hN) (by omega))
      (fun i => rows_succ.1)
      (fun i hi => by rw [show py + 1 + (blk i - (k + 1)) = py + (blk i - k) by omega])
      (fun i hi _ => by rw [hi.1, Nat.sub_self, Nat.add_zero])

/-- proof-side generalisation of `pixRow`: pixel `x` of the row gets the bytes `colorAt x` -/
def pixRowF (colorAt : Nat → List α) (step n : Nat) (fb : Array α) (off x : Nat) : Option (Array α) :=
  rowLoop (fun fb off x => putPixel fb off (colorAt x)) step n fb off x

theorem pixRowF_succ (colorAt : Nat → List α) (step n : Nat) (fb : Array α) (off x : Nat) :
    pixRowF colorAt step (n + 1) fb off x =
      match putPixel fb off (colorAt x) with
      | none => none
      | some fb' => pixRowF colorAt step n fb' (add32 off step) (x + 1) := rfl

/-- for any starting count `x`: the body ignores it (likewise `py` in `text_fillRows_loop` and
`vesa_fillRows_loop`); the callers take `0` -/
theorem pixRow_eq (comp : List α) (step : Nat) : ∀ (n : Nat) (fb : Array α) (off x : Nat),
    pixRow comp step fb off n = pixRowF (fun _ => comp) step n fb off x := by
  intro n
  induction n with
  | zero => intros; rfl
  | succ n ih =>
    intro fb off x
    simp only [pixRow, pixRowF_succ]
    cases putPixel fb off comp with
    | none => rfl
    | some fb' => exact ih fb' _ _

theorem pixRowF_row (colorAt : Nat → List α) (step len pitch n px0 : Nat) (hlen : ∀ x, (colorAt x).length = len)
    (hstep : len ≤ step) (hrow : (px0 + n) * step ≤ pitch)
    (fb : Array α) (R : Nat) (hsz : (R + 1) * pitch ≤ fb.size) (hB : fb.size < 4294967296) :
    Upd (pixRowF colorAt step n fb (R * pitch + px0 * step) 0) fb
      (fun i => i / pitch = R ∧ px0 ≤ i % pitch / step ∧ i % pitch / step < px0 + n ∧ i % pitch % step < len)
      (fun i => (colorAt (i % pitch / step - px0))[i % pitch % step]?) := by
  rw [Nat.add_one_mul] at hsz
  refine (rowLoop_spec (base := R * pitch) (K := px0 + n) (N := fb.size) (blk := fun i => i % pitch / step)
    (In := fun i => i / pitch = R ∧ i % pitch % step < len) (val := fun x i => (colorAt x)[i % pitch % step]?) (by omega)
    (fun fb k x hN hk => ?_) n fb px0 0 rfl (Nat.le_refl _)).congr
    (fun i => ⟨fun ⟨a, b, c, d⟩ => ⟨⟨b, c⟩, a, d⟩, fun ⟨⟨b, c⟩, a, d⟩ => ⟨a, b, c, d⟩⟩) (fun i _ => by rw [Nat.zero_add])
  have hk' := Nat.mul_le_mul_right step (show k + 1 ≤ px0 + n from hk)
  rw [Nat.add_one_mul] at hk'
  refine (putPixel_spec (colorAt x) fb (R * pitch + k * step) (by rw [hlen]; omega) (by omega)).congr
    (fun i => ?_) (fun i hi => ?_)
  -- one dimension at a time: the row of `i`, then the pixel of `i % pitch`
  all_goals
    have r1 := @row_range pitch R (k * step) len i (by omega)
    have r2 := @row_range0 step k len (i % pitch) hstep
  · rw [hlen]
    exact ⟨fun ⟨a, b, c⟩ => r1.2 ⟨b, r2.2 ⟨a, c⟩⟩, fun q => ⟨(r2.1 (r1.1 q).2).1, (r1.1 q).1, (r2.1 (r1.1 q).2).2⟩⟩
  · rw [hlen] at hi
    have d1 := Nat.div_add_mod i pitch
    have d2 := Nat.div_add_mod (i % pitch) step
    rw [(r1.1 hi).1, Nat.mul_comm] at d1
    rw [(r2.1 (r1.1 hi).2).1, Nat.mul_comm] at d2
    rw [show i - (R * pitch + k * step) = i % pitch % step by omega]

/-- the geometry of the pixel console that the cell arithmetic needs: non-empty glyphs, pixels and rows
(the four divisors), the character grid inside the visible area below the logo.  It stands in this file for
`ConsoleGrid`, which needs no more and imports this file but not `ConsoleOps`, where `Frame` extends it by the
bounds that the models' 32-bit arithmetic needs. -/
structure Geo (c : VesaFb.Cons) (f : VesaFb.Font) : Prop where
  gw1 : 0 < f.gw
  gh1 : 0 < f.gh
  bpp1 : 0 < c.bytesPerPixel
  pitch1 : 0 < c.pitch
  colsw : c.cols * f.gw ≤ c.width
  rowsh : c.offsetY + c.rows * f.gh ≤ c.height

open Firefly.VesaFb Firefly.Spec.Console in
/-- `hbody` asks for the body's shape only where the row's last pixel offset fits 32 bits: the fill
loops take their trip count from an `add32` (`vesa_fillRow_eq`). -/
theorem paint_spec (c : Cons) {body : Array UInt8 → Nat → Nat → Option (Array UInt8)} (color : Nat → Nat → List UInt8)
    (len n px0 : Nat) (hlen : ∀ x y, (color x y).length = len) (hstep : len ≤ c.bytesPerPixel)
    (hrow : (px0 + n) * c.bytesPerPixel ≤ c.pitch)
    (hbody : ∀ (fb : Array UInt8) (R py : Nat), R * c.pitch + px0 * c.bytesPerPixel + n * c.bytesPerPixel < 4294967296 →
      body fb (R * c.pitch + px0 * c.bytesPerPixel) py =
        pixRowF (fun x => color x py) c.bytesPerPixel n fb (R * c.pitch + px0 * c.bytesPerPixel) 0)
    (h : Nat) (fb : Array UInt8) (R : Nat) (hsz : (R + h) * c.pitch ≤ fb.size)
    (hB : fb.size + c.pitch + c.bytesPerPixel < 4294967296) :
    ∃ fb', rowLoop body c.pitch h fb (R * c.pitch + px0 * c.bytesPerPixel) 0 = some fb' ∧ fb'.size = fb.size ∧
      ∀ i, fb'.getD i 0 = paint c (fun j => fb.getD j 0) px0 (px0 + n) R (R + h) color i := by
  have hrow' := hrow
  rw [Nat.add_mul] at hrow'
  have g := rowLoop_spec (body := body) (pitch := c.pitch) (base := px0 * c.bytesPerPixel) (K := R + h) (N := fb.size)
    (blk := fun i => i / c.pitch)
    (In := fun i => px0 ≤ i % c.pitch / c.bytesPerPixel ∧ i % c.pitch / c.bytesPerPixel < px0 + n ∧
      i % c.pitch % c.bytesPerPixel < len)
    (val := fun py i => (color (i % c.pitch / c.bytesPerPixel - px0) py)[i % c.pitch % c.bytesPerPixel]?) (by omega)
    (fun fb k py hN hk => by
      have hk' := Nat.mul_le_mul_right c.pitch (show k + 1 ≤ R + h from hk)
      rw [Nat.add_comm, hbody fb k py (by rw [Nat.add_one_mul] at hk'; omega)]
      exact pixRowF_row (fun x => color x py) c.bytesPerPixel len c.pitch n px0 (fun x => hlen x py) hstep hrow fb k
        (by omega) (by omega)) h fb R 0 rfl (Nat.le_refl _)
  rw [Nat.add_comm] at g
  refine g.computes fun i => ?_
  simp only [paint, Nat.zero_add]
  by_cases hrect : R ≤ i / c.pitch ∧ i / c.pitch < R + h ∧ px0 ≤ i % c.pitch / c.bytesPerPixel ∧
      i % c.pitch / c.bytesPerPixel < px0 + n
  · rw [if_pos hrect]
    by_cases hk : i % c.pitch % c.bytesPerPixel < len
    · rw [if_pos ⟨⟨hrect.1, hrect.2.1⟩, hrect.2.2.1, hrect.2.2.2, hk⟩, List.getElem?_eq_getElem (by rw [hlen]; exact hk)]
      rfl
    · rw [if_neg (fun hh => hk hh.2.2.2), List.getElem?_eq_none (by rw [hlen]; omega)]
  · rw [if_neg hrect, if_neg (fun hh => hrect ⟨hh.1.1, hh.1.2, hh.2.1, hh.2.2.1⟩)]

theorem text_fillRows_loop (clr : UInt16) (w W : Nat) : ∀ (h : Nat) (fb : Array UInt16) (off py : Nat),
    VgaText.fillRows clr w W fb off h =
      rowLoop (fun fb off _ => fillRange clr fb off (add32 off w - off)) W h fb off py := by
  intro h
  induction h with
  | zero => intros; rfl
  | succ h ih =>
    intro fb off py
    simp only [VgaText.fillRows, rowLoop]
    cases fillRange clr fb off (add32 off w - off) with
    | none => rfl
    | some fb' => exact ih fb' _ _

theorem vesa_fillRows_loop (comp : List UInt8) (step pitch rowLen : Nat) : ∀ (h : Nat) (fb : Array UInt8) (off py : Nat),
    VesaFb.fillRows comp step pitch rowLen fb off h =
      rowLoop (fun fb off _ => pixRow comp step fb off ((add32 off rowLen - off + (step - 1)) / step)) pitch h fb off py := by
  intro h
  induction h with
  | zero => intros; rfl
  | succ h ih =>
    intro fb off py
    simp only [VesaFb.fillRows, rowLoop]
    cases pixRow comp step fb off ((add32 off rowLen - off + (step - 1)) / step) with
    | none => rfl
    | some fb' => exact ih fb' _ _

/-- the pixel loop of `fill8/16/24` makes `n` trips -/
theorem vesa_fillRow_eq (comp : List UInt8) (step n off : Nat) (hpos : 0 < step) (hoff : off + n * step < 4294967296)
    (fb : Array UInt8) :
    pixRow comp step fb off ((add32 off (n * step) - off + (step - 1)) / step) = pixRowF (fun _ => comp) step n fb off 0 := by
  rw [add32_of_lt hoff, Nat.add_sub_cancel_left, steps_count hpos]
  exact pixRow_eq comp step n fb off 0

section Scroll
open Firefly.VesaFb

theorem copyRow_add {D rowBytes pitch R : Nat} (fb : Array UInt8) (hrb : rowBytes ≤ pitch)
    (hsz : (R + 1) * pitch + D * pitch ≤ fb.size) (hB : fb.size < 4294967296) :
    Upd (copyAsc (fun i => add32 i (D * pitch)) fb (R * pitch) rowBytes) fb
      (fun i => i / pitch = R ∧ i % pitch < rowBytes) (fun i => fb[i + D * pitch]?) := by
  rw [Nat.add_one_mul] at hsz
  exact (copyAsc_add fb (R * pitch) rowBytes (D * pitch) (by omega) hB).congr
    (fun i => (row_range0 hrb).symm) (fun _ _ => rfl)

theorem copyRow_sub {D rowBytes pitch R : Nat} (fb : Array UInt8) (hrb : rowBytes ≤ pitch) (hD : 1 ≤ D) (hDR : D ≤ R)
    (hsz : (R + 1) * pitch ≤ fb.size) (hB : fb.size < 4294967296) :
    Upd (copyAsc (fun i => sub32 i (D * pitch)) fb (R * pitch) rowBytes) fb
      (fun i => i / pitch = R ∧ i % pitch < rowBytes) (fun i => fb[i - D * pitch]?) := by
  have h1 : D * pitch ≤ R * pitch := Nat.mul_le_mul_right _ hDR
  have h2 : pitch ≤ D * pitch := Nat.le_mul_of_pos_left _ hD
  rw [Nat.add_one_mul] at hsz
  exact (copyAsc_sub fb (R * pitch) rowBytes (D * pitch) (by omega) (by omega) h1 hB).congr
    (fun i => (row_range0 hrb).symm) (fun _ _ => rfl)

theorem pos_of_le_div {i pitch R : Nat} (h : R + 1 ≤ i / pitch) : 0 < pitch :=
  Nat.pos_of_ne_zero fun h0 => by rw [h0, Nat.div_zero] at h; omega

theorem scrollRowsUp_spec (D rowBytes pitch : Nat) (hrb : rowBytes ≤ pitch) :
    ∀ (n : Nat) (fb : Array UInt8) (R : Nat), (R + n + D) * pitch ≤ fb.size → fb.size + pitch < 4294967296 →
    Upd (scrollRowsUp (D * pitch) rowBytes pitch fb (R * pitch) n) fb
      (fun i => (R ≤ i / pitch ∧ i / pitch < R + n) ∧ i % pitch < rowBytes) (fun i => fb[i + D * pitch]?)
  | 0, _, _, _, _ => .refl (by omega)
  | n+1, fb, R, hsz, hB => by
    have e1 : (R + (n + 1) + D) * pitch = (R + 1) * pitch + n * pitch + D * pitch := by
      rw [show R + (n + 1) + D = R + 1 + n + D by omega, Nat.add_mul, Nat.add_mul]
    have e2 : (R + 1 + n + D) * pitch = (R + 1) * pitch + n * pitch + D * pitch := by rw [Nat.add_mul, Nat.add_mul]
    have e3 : (R + 1) * pitch = R * pitch + pitch := Nat.add_one_mul ..
    refine (copyRow_add (R := R) (D := D) fb hrb (by omega) (by omega)).seq (fun fb1 e hsz' h1 => by
      rw [scrollRowsUp, add32_of_lt (show R * pitch + rowBytes < 4294967296 by omega), Nat.add_sub_cancel_left, e,
        add32_of_lt (show R * pitch + pitch < 4294967296 by omega), ← e3]
      refine (scrollRowsUp_spec D rowBytes pitch hrb n fb1 (R + 1) (by omega) (by omega)).vals fun i hi => ?_
      -- the source lies in a later row than `R`: not touched by the first row copy
      rw [h1, if_neg (by rw [(shift_div_mod (pos_of_le_div hi.1.1) i D).1]; omega)])
      (fun i => rows_succ.1) (fun _ _ => rfl) (fun _ _ _ => rfl)

theorem scrollRowsDown_spec (D rowBytes pitch : Nat) (hrb : rowBytes ≤ pitch) (hD : 1 ≤ D) :
    ∀ (n : Nat) (fb : Array UInt8) (R : Nat), (R + n) * pitch ≤ fb.size → D ≤ R → fb.size + pitch < 4294967296 →
    Upd (scrollRowsDown (D * pitch) rowBytes pitch fb ((R + n) * pitch) n) fb
      (fun i => (R ≤ i / pitch ∧ i / pitch < R + n) ∧ i % pitch < rowBytes) (fun i => fb[i - D * pitch]?)
  | 0, _, _, _, _, _ => .refl (by omega)
  | n+1, fb, R, hsz, hR, hB => by
    have e1 : (R + (n + 1)) * pitch = (R + n) * pitch + pitch := by rw [← Nat.add_assoc, Nat.add_one_mul]
    refine (copyRow_sub (R := R + n) (D := D) fb hrb hD (by omega) (by rw [Nat.add_one_mul, ← e1]; exact hsz) (by omega)).seq
      (fun fb1 e hsz' h1 => by
        rw [scrollRowsDown, e1]
        simp only [sub32_of_le (Nat.le_add_left pitch _) (show (R + n) * pitch + pitch < 4294967296 by omega),
          Nat.add_sub_cancel, add32_of_lt (show (R + n) * pitch + rowBytes < 4294967296 by omega), Nat.add_sub_cancel_left, e]
        refine (scrollRowsDown_spec D rowBytes pitch hrb hD n fb1 R (by omega) hR (by omega)).vals fun i hi => ?_
        -- the source lies in an earlier row than `R+n`: not touched by the first row copy
        rw [h1, if_neg (by rw [Nat.mul_comm, Nat.sub_mul_div]; omega)])
      (fun i => rows_succ.2) (fun _ _ => rfl) (fun _ _ _ => rfl)

end Scroll

section Glyph
open Firefly.VesaFb Firefly.Spec.Console

/-- the running mask `1<<7 >> j` selects bit `7-j` -/
theorem mask_eq {j : Nat} (h : j ≤ 7) : 128 >>> j = 2 ^ (7 - j) := by
  rw [Nat.shiftRight_eq_div_pow, show 128 = 2 ^ 7 from rfl, Nat.pow_div h (by decide)]

/-- state of the walk at the head of the pixel loop, before pixel `x` of a glyph row whose first font
byte is `rowBase`: `j` bits of byte `fontOff` are used up, so the bit position `8 * fontOff + j` is that
of pixel `x`.  With all 8 used the mask has run out, and the `if mask == 0` step moves on to the next
byte without changing the bit position. -/
def GlyphInv (f : Font) (rowBase x fontOff rd mask : Nat) : Prop :=
  ∃ j, j ≤ 8 ∧ mask = 128 >>> j ∧ 8 * fontOff + j = 8 * rowBase + x ∧ (j < 8 → rd = (f.data.getD fontOff 0).toNat)

theorem bit_pos {fontOff j rowBase x : Nat} (hj : j ≤ 8) (hq : 8 * fontOff + j = 8 * rowBase + x) :
    (j = 8 ∧ fontOff + 1 = rowBase + x / 8 ∧ x % 8 = 0) ∨ (j = x % 8 ∧ fontOff = rowBase + x / 8) := by omega

theorem glyphRow_eq (f : Font) (fgC bgC : List UInt8) (step ch py rowBase : Nat) (hsz : f.data.size < 4294967296)
    (hrb : rowBase = ch * f.bpr * f.gh + py * f.bpr) :
    ∀ (n : Nat) (fb : Array UInt8) (fbOff fontOff rd mask x : Nat), GlyphInv f rowBase x fontOff rd mask →
      (n ≠ 0 → rowBase + (x + n - 1) / 8 < f.data.size) →
      glyphRow f fgC bgC step n fb fbOff fontOff rd mask =
        (pixRowF (fun x => if glyphBit f ch x py then fgC else bgC) step n fb fbOff x).map fun fb' =>
          (fb', if n = 0 then fontOff else rowBase + (x + n - 1) / 8) := by
  intro n
  induction n with
  | zero => intros; rfl
  | succ n ih =>
    intro fb fbOff fontOff rd mask x ⟨j, hj, hm, hq, hrd⟩ hbound
    have hb : rowBase + x / 8 < f.data.size := by have := hbound (by omega); omega
    have hget : f.data[rowBase + x / 8]? = some f.data[rowBase + x / 8] := Array.getElem?_eq_getElem hb
    have hgetD : f.data.getD (rowBase + x / 8) 0 = f.data[rowBase + x / 8] := by
      rw [Array.getD_eq_getD_getElem?, hget]; rfl
    have hmask := @mask_eq (x % 8) (Nat.le_of_lt_succ (Nat.mod_lt _ (by decide)))
    -- the state after the `if mask == 0` step is a function of `x`
    have hst : (if mask = 0 then (f.data[add32 fontOff 1]?).map (fun d => (add32 fontOff 1, d.toNat, 128))
        else some (fontOff, rd, mask)) =
        some (rowBase + x / 8, (f.data[rowBase + x / 8]).toNat, 128 >>> (x % 8)) := by
      rcases bit_pos hj hq with ⟨h8, hf, h0⟩ | ⟨hjx, hf⟩
      · rw [hm, h8, if_pos (by decide), add32_of_lt (hf ▸ Nat.lt_trans hb hsz), hf, hget, h0]; rfl
      · rw [hm, hjx, hmask, if_neg (Nat.ne_of_gt (Nat.pow_pos (by decide))), hrd (hjx ▸ Nat.mod_lt _ (by decide)), hf, hgetD]
    have hcol : (if (f.data[rowBase + x / 8]).toNat &&& (128 >>> (x % 8)) ≠ 0 then fgC else bgC) =
        if glyphBit f ch x py then fgC else bgC := by
      unfold glyphBit
      rw [← hrb, hgetD, hmask]
      exact ite_congr (propext ((Bits.and_two_pow_ne_zero _ _).trans decide_eq_true_iff.symm)) (fun _ => rfl) (fun _ => rfl)
    simp only [glyphRow, pixRowF_succ]
    rw [hst]
    simp only [hcol]
    cases putPixel fb fbOff (if glyphBit f ch x py then fgC else bgC) with
    | none => rfl
    | some fb' =>
      simp only []
      rw [ih fb' (add32 fbOff step) (rowBase + x / 8) _ _ (x + 1)
        ⟨x % 8 + 1, Nat.mod_lt _ (by decide), (Nat.shiftRight_add ..).symm,
          by rw [Nat.mul_add, Nat.add_assoc, ← Nat.add_assoc (8 * (x / 8)), Nat.div_add_mod], fun _ => by rw [hgetD]⟩
        (by intro hn; have := hbound (by omega); omega)]
      cases pixRowF (fun x => if glyphBit f ch x py then fgC else bgC) step n fb' (add32 fbOff step) (x + 1) with
      | none => rfl
      | some fb'' =>
        rw [Option.map_some, Option.map_some, if_neg (Nat.succ_ne_zero n), Nat.add_right_comm x 1 n]
        cases n <;> rfl

theorem glyphRows_eq (f : Font) (fgC bgC : List UInt8) (step pitch ch : Nat) (hsz : f.data.size < 4294967296)
    (hgw : 1 ≤ f.gw) (hbpr : (f.gw - 1) / 8 + 1 = f.bpr) :
    ∀ (n : Nat) (fb : Array UInt8) (fbRowOff py rowBase : Nat), rowBase = ch * f.bpr * f.gh + py * f.bpr →
      rowBase + n * f.bpr ≤ f.data.size →
      glyphRows f fgC bgC step pitch n fb fbRowOff rowBase =
        rowLoop (fun fb off py => pixRowF (fun x => if glyphBit f ch x py then fgC else bgC) step f.gw fb off 0)
          pitch n fb fbRowOff py := by
  intro n
  induction n with
  | zero => intros; rfl
  | succ n ih =>
    intro fb fbRowOff py rowBase hrb hb
    -- the walk of a row ends on its byte `(gw-1)/8`; one more is the first byte of the next row
    have hend : rowBase + (f.gw - 1) / 8 + 1 ≤ f.data.size := by
      rw [Nat.add_assoc, hbpr]
      exact Nat.le_trans (Nat.add_le_add_left (Nat.le_add_left ..) _) (Nat.add_one_mul .. ▸ hb)
    have hget : f.data[rowBase]? = some f.data[rowBase] :=
      Array.getElem?_eq_getElem (Nat.lt_of_le_of_lt (Nat.le_add_right ..) (Nat.lt_of_succ_le hend))
    have hrow := glyphRow_eq f fgC bgC step ch py rowBase hsz hrb f.gw fb fbRowOff rowBase (f.data[rowBase]).toNat 128 0
      ⟨0, Nat.zero_le _, rfl, rfl, fun _ => by rw [Array.getD_eq_getD_getElem?, hget]; rfl⟩
      (fun _ => by rw [Nat.zero_add]; exact hend)
    simp only [glyphRows, rowLoop, hget, hrow]
    show (match Option.map _ (pixRowF (fun x => if glyphBit f ch x py then fgC else bgC) step f.gw fb fbRowOff 0) with
      | none => none
      | some (fb', fo) => glyphRows f fgC bgC step pitch n fb' (add32 fbRowOff pitch) (add32 fo 1)) = _
    cases pixRowF (fun x => if glyphBit f ch x py then fgC else bgC) step f.gw fb fbRowOff 0 with
    | none => rfl
    | some fb' =>
      simp only [Option.map_some]
      rw [if_neg (Nat.ne_of_gt hgw), Nat.zero_add, add32_of_lt (Nat.lt_of_le_of_lt hend hsz), Nat.add_assoc, hbpr]
      exact ih fb' _ (py + 1) _ (by rw [hrb, Nat.add_one_mul, Nat.add_assoc])
        (by rw [Nat.add_assoc, Nat.add_comm f.bpr, ← Nat.add_one_mul]; exact hb)

end Glyph

end Firefly.ConsoleProof
