import Firefly.Proof.AmlFragRows

/-!
C11, the data object of a `Name` declaration (`DVal`): an integer (`AmlConstDecl`) or a string written at definition level.
`data_decl_first_pass` is what the first pass makes of it: one new childless object, last child of the innermost scope block,
holding the value (`DataAt`).
-/
namespace Firefly.AmlParser.F
open Firefly.AmlLex Firefly.AmlTree Firefly.C13 Firefly.AmlParser Firefly.AmlParser.G Firefly.AmlParser.S
open Firefly.Gen.C12 Firefly.AmlProg

theorem args_str {d : Bytes} (f : Nat) {s5 : PState} (h5 : FP d s5) {x : Nat} (hl : live s5.tree x = true)
    (hop : (slot s5.tree x).opcode = opStringPrefix) {a : Slice} {r' : Reader} (hx : Runs d (parseString d) s5.r (a, PRes.ok) r') :
    ∃ s6, parseObjectArgs d (f + 1) x s5 = .ok (PRes.ok, s6) ∧ FP d s6 ∧ PayOnly x s5 s6 ∧
      slot s6.tree x = { slot s5.tree x with value := sliceVal a } ∧ s6.r = r' := by
  obtain ⟨s6, e, h6, hp6, hr6, hsl6⟩ := setVal_run sliceVal h5 hl hx
  have e' : setStringValue d x s5 = .ok (PRes.ok, s6) := e
  refine ⟨s6, ?_, h6, hp6, hsl6, hr6⟩
  rw [parseObjectArgs, bind_run (getObj_live hl), hop, if_neg (by decide), if_neg (by decide), if_neg (by decide),
    if_neg (by decide), if_pos rfl]
  exact bind_ex' e' rfl

/-- the data of a `Name` declaration of the fragment -/
inductive DVal where
  | int (w v : Nat)
  | str (s : List UInt8)

def DVal.op : DVal → Nat
  | .int w v => constOp w v
  | .str _ => 0x0d

def DVal.enc : DVal → List UInt8
  | .int w v => encInt w v
  | .str s => 0x0d :: encString s

def DVal.OK : DVal → Prop
  | .int w _ => IntW w
  | .str s => ∀ b ∈ s, 1 ≤ b ∧ b ≤ 0x7f

/-- the namespace entry of the data (`AmlProg.dataDesc`) -/
def DVal.desc : DVal → String
  | .int w v => s!"i{intVal w v}"
  | .str s => s!"s{hexOf s}"

/-- the data object `k` holds the value: the integer, or a `[]byte` that covers exactly the string in the table -/
def DataAt (d : Bytes) (t : ObjectTree) (k : Nat) : DVal → Prop
  | .int w v => IntObj t k (intVal w v)
  | .str s => ∃ off, (slot t k).value = .bytes off s.length ∧ BytesAt d off s

theorem DataAt.of_pay {d : Bytes} {t t' : ObjectTree} {k : Nat} {dv : DVal} (h : DataAt d t k dv)
    (hp : Pay (slot t' k) = Pay (slot t k)) : DataAt d t' k dv := by
  cases dv with
  | int w v => exact IntObj.of_pay h hp
  | str s =>
    obtain ⟨off, hv, hb⟩ := h
    exact ⟨off, by rw [pay_value hp]; exact hv, hb⟩

/-- the table row of a string, as `nextOpcode` and as the passes read it -/
theorem str_row : pOpcodeTableIndex 13 false ≠ badOpcode ∧ rowSummary 13 = some (false, false, false, 1, [4]) := by
  decide +kernel

/-- **the first pass on a string written at definition level** (the data object of `Name(X, "abc")`): on the bytes
`0d <ASCII> 00`, `parseNextObject` creates ONE new object as the last child of the innermost scope block whose value is the
`[]byte` that covers exactly the string, and stops right behind the terminator -/
theorem str_decl_first_pass {d : Bytes} (f : Nat) {s : PState} (h : FP d s) (hne : s.scopeStack.size ≠ 0)
    (hsz : s.tree.pool.size + 1 < INV) (str : List UInt8) (hascii : ∀ b ∈ str, 1 ≤ b ∧ b ≤ 0x7f)
    (ha : At d s ([0x0d] ++ encString str)) :
    ∃ s' k, parseNextObject d (f + 3) s = .ok (PRes.ok, s') ∧
      Opened d s s' k 0x0d ⟨s.r.offset + ([0x0d] ++ encString str).length, s.r.pkgEnd⟩ ∧ DataAt d s'.tree k (.str str) := by
  obtain ⟨x, s5, o, hk⟩ := nextObject_open (f + 2) h hne hsz
    (h.runsAt (nextOpcode_one_reads (b := 0x0d) (by decide) str_row.1) ha.left)
    (rowSummary_info str_row.2) (by decide)
  have ha5 := ha.adv rfl o.r
  obtain ⟨s6, e6, h6, hp6, hsl6, hr6⟩ := args_str (f + 1) o.fp o.lx o.opx (o.fp.runsAt (parseString_reads o.fp.inv.2 hascii _) ha5)
  exact ⟨s6, x, hk _ _ e6, o.thenPay h6 hp6 hsl6 (by rw [hr6, o.r, List.length_append, Nat.add_assoc]),
    s.r.offset + 1, by rw [hsl6, o.r]; rfl, BytesAt.left (b := [0]) (BytesAt.right (a := [0x0d]) ha.bytes)⟩

theorem DVal.enc_pos (dv : DVal) : 1 ≤ dv.enc.length := by
  cases dv with
  | int w v => exact encInt_pos w v
  | str s => simp [DVal.enc]

theorem data_decl_first_pass {d : Bytes} (f : Nat) {s : PState} (h : FP d s) (hne : s.scopeStack.size ≠ 0)
    (hsz : s.tree.pool.size + 1 < INV) (dv : DVal) (hok : dv.OK) (ha : At d s dv.enc) :
    ∃ s' k, parseNextObject d (f + 3) s = .ok (PRes.ok, s') ∧ Opened d s s' k dv.op ⟨s.r.offset + dv.enc.length, s.r.pkgEnd⟩ ∧
      DataAt d s'.tree k dv := by
  cases dv with
  | int w v => exact const_decl_first_pass f h hne hsz w v hok ha
  | str str => exact str_decl_first_pass f h hne hsz str hok ha

theorem dval_row (dv : DVal) : PlainRow dv.op := by
  cases dv with
  | int w v => exact const_row w v
  | str s => exact plain_of_row str_row.2 (one_arg 4 (by decide) (by decide))

theorem DVal.op_ne (dv : DVal) : dv.op ≠ opScope ∧ dv.op ≠ opIntNamePathOrMethodCall := by
  cases dv with
  | int w v => exact constOp_ne w v
  | str s => exact ⟨show (13 : Nat) ≠ opScope by decide, show (13 : Nat) ≠ opIntNamePathOrMethodCall by decide⟩

end Firefly.AmlParser.F
