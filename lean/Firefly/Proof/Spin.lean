import Firefly.Model.Spin
/-!
Lemmas for C08: the per-thread part (`Local`) of the inductive invariant of the spin-lock machine (the global
invariant is in `Proof/SpinInv.lean`), indexed by program counter of
the *generated* programs (`Firefly.Gen.C08`). A changed instruction changes what the kernel computes
for that pc and the corresponding case of `asm_effect` (of `go_local` for the Go bodies) stops checking.
-/
namespace Firefly.Spin
open Firefly.Gen.C08

/-- inside `archAcquireSpinlock`: the exchange has read 0 and the function has not returned yet -/
def asmWon (pc : Nat) (t : Thread) : Prop :=
  match pc with
  | 4 => t.bx = 0
  | 5 => t.zf = true
  | 6 => True
  | _ => False

/-- The thread owns the lock: it is a holder (client view), or it has won the exchange inside
Acquire / TryToAcquire and has not returned yet, or it has called Release and has not stored yet. -/
def Owner (t : Thread) : Prop :=
  t.held = true ∨
  match t.ph with
  | .go .acquire 1 => True
  | .go .try_ 1 => t.tmp = 0
  | .go .release 0 => True
  | .asm _ _ pc => asmWon pc t
  | _ => False

/-- what is known about the registers at each instruction of the generated `acquireAsm` -/
def AsmLocal (cfg : Config) (pc : Nat) (t : Thread) : Prop :=
  match pc with
  | 0 => True
  | 1 => t.ax = cfg.lockAddr
  | 2 => t.ax = cfg.lockAddr
  | 3 => t.ax = cfg.lockAddr ∧ t.bx = 1
  | 4 => t.ax = cfg.lockAddr ∧ (t.bx = 0 ∨ t.bx = 1)
  | 5 => t.ax = cfg.lockAddr
  | 6 => True
  | 7 => t.ax = cfg.lockAddr
  | 8 => t.ax = cfg.lockAddr
  | 9 => t.ax = cfg.lockAddr
  | 10 => t.ax = cfg.lockAddr
  | 11 => t.ax = cfg.lockAddr
  | 12 => t.ax = cfg.lockAddr
  | 13 => True
  | 14 => t.ax = cfg.yieldFn
  | 15 => t.ax = cfg.yieldFn ∧ (t.zf = true ↔ cfg.yieldFn = 0)
  | 16 => t.ax = cfg.yieldFn ∧ cfg.yieldFn ≠ 0
  | 17 => True
  | 18 => t.ax = cfg.lockAddr
  | 19 => t.ax = cfg.lockAddr
  | _ => False

/-- per-thread part of the invariant -/
def Local (cfg : Config) (t : Thread) : Prop :=
  match t.ph with
  | .idle => True
  | .go .acquire pc => pc ≤ 1 ∧ t.held = false
  | .go .try_ pc => pc ≤ 1
  | .go .release pc => pc ≤ 1 ∧ t.held = false
  | .asm m rpc pc => m = .acquire ∧ rpc = 0 ∧ t.held = false ∧ AsmLocal cfg pc t
  | .fault => False

def LockEffect (sh sh' : Shared) (t t' : Thread) : Prop :=
  (sh'.lock = sh.lock ∧ (Owner t' ↔ Owner t))
  ∨ (sh.lock = 0 ∧ sh'.lock = 1 ∧ ¬ Owner t ∧ Owner t')
  ∨ (sh'.lock = 0 ∧ Owner t ∧ ¬ Owner t')

def CtrEffect (sh sh' : Shared) (t t' : Thread) : Prop :=
  (sh'.ctr = sh.ctr ∧ sh'.incs = sh.incs ∧ ∀ v, t'.loc = some v → v = sh.ctr ∧ t'.held = true)
  ∨ (t.held = true ∧ sh'.ctr = sh.ctr + 1 ∧ sh'.incs = sh.incs + 1 ∧ t'.loc = none ∧ sh'.lock = sh.lock)

section
variable {cfg : Config} {sh : Shared} {t : Thread} {ch : Choice} {r : Shared × Thread}

theorem tstep_go {m : Method} {pc : Nat} (hph : t.ph = .go m pc) (h : tstep cfg sh t ch = some r) :
    r = goStep sh t m pc := by
  unfold tstep at h
  rw [hph] at h
  cases ch <;> first | exact (Option.some.inj h).symm | cases h

theorem tstep_asm {m : Method} {rpc pc : Nat} (hph : t.ph = .asm m rpc pc) (h : tstep cfg sh t ch = some r) :
    ∃ hv, r = asmStep cfg sh t m rpc pc hv := by
  unfold tstep at h
  rw [hph] at h
  cases ch <;> first | exact ⟨_, (Option.some.inj h).symm⟩ | cases h

theorem tstep_callAcquire (h : tstep cfg sh t .callAcquire = some r) :
    t.ph = .idle ∧ t.held = false ∧ r = (sh, { t with ph := .go .acquire 0 }) := by
  unfold tstep at h
  cases hp : t.ph <;> rw [hp] at h <;> try cases h
  cases hh : t.held <;> rw [hh] at h <;> cases h
  exact ⟨rfl, rfl, rfl⟩

theorem tstep_callRelease (h : tstep cfg sh t .callRelease = some r) :
    t.ph = .idle ∧ t.held = true ∧ r = (sh, { t with ph := .go .release 0, held := false, loc := none }) := by
  unfold tstep at h
  cases hp : t.ph <;> rw [hp] at h <;> try cases h
  cases hh : t.held <;> rw [hh] at h <;> cases h
  exact ⟨rfl, rfl, rfl⟩

end

section
variable (sh : Shared) (t : Thread)

theorem goStep_acquire_0 : goStep sh t .acquire 0 = (sh, { t with att := 1, ph := .asm .acquire 0 0 }) := rfl
theorem goStep_acquire_1 : goStep sh t .acquire 1 = (sh, { t with ph := .idle, held := true }) := rfl
theorem goStep_try_0 :
    goStep sh t .try_ 0 = ({ sh with lock := 1 }, { t with tmp := sh.lock, ph := .go .try_ 1 }) := rfl
theorem goStep_try_1 :
    goStep sh t .try_ 1 =
      (sh, { t with ph := .idle, held := t.held || t.tmp == 0, ret := some (t.tmp == 0) }) := rfl
theorem goStep_release_0 : goStep sh t .release 0 = ({ sh with lock := 0 }, { t with ph := .go .release 1 }) := rfl
theorem goStep_release_1 : goStep sh t .release 1 = (sh, { t with ph := .idle }) := rfl

end

section
variable {cfg : Config} {sh : Shared} {t : Thread} {m : Method} {rpc : Nat}
  {hv : Option (Nat × Nat × Nat × Nat × Bool)}

theorem owner_asm {pc : Nat} (hph : t.ph = .asm m rpc pc) (hh : t.held = false) : Owner t ↔ asmWon pc t := by
  simp only [Owner, hph, hh, Bool.false_eq_true, false_or]

/- The instructions whose operand is a memory reference through `AX` (`asmStep_xchg`, `asmStep_load`,
`asmStep_call`) do not fault because `AX` holds the address the operand semantics expects. -/

theorem asmStep_xchg (hax : t.ax = cfg.lockAddr) (hbx : t.bx = 1) :
    asmStep cfg sh t m rpc 3 hv = ({ sh with lock := 1 }, { t with bx := sh.lock, ph := .asm m rpc 4 }) := by
  simp only [asmStep, show acquireAsm[3]? = some (.xchgl (.mem .AX 0) (.reg .BX)) from rfl, load32, store32,
    getReg, setReg, Nat.add_zero, hax, hbx, if_true]
  rfl

/-- `TESTL BX, BX` after a winning exchange -/
theorem asmStep_test (hbx : t.bx = 0) :
    asmStep cfg sh t m rpc 4 hv = (sh, { t with zf := true, ph := .asm m rpc 5 }) := by
  simp only [asmStep, show acquireAsm[4]? = some (.testl (.reg .BX) (.reg .BX)) from rfl, load32, getReg, hbx]
  rfl

private theorem asmStep_load (hax : t.ax = cfg.lockAddr) :
    asmStep cfg sh t m rpc 8 hv = (sh, { t with bx := sh.lock, ph := .asm m rpc 9 }) := by
  simp only [asmStep, show acquireAsm[8]? = some (.movl (.mem .AX 0) (.reg .BX)) from rfl, load32, store32,
    getReg, setReg, Nat.add_zero, hax, if_true]

private theorem asmStep_call (hax : t.ax = cfg.yieldFn) (hy : cfg.yieldFn ≠ 0) :
    asmStep cfg sh t m rpc 16 hv = (sh, match hv with
      | some (a, b, c, d, z) => { t with ax := a, bx := b, cx := c, dx := d, zf := z, ph := .asm m rpc 17 }
      | none => { t with ph := .asm m rpc 17 }) := by
  simp only [asmStep, show acquireAsm[16]? = some (.call (.mem .AX 0)) from rfl, getReg, Nat.add_zero, hax, hy,
    ne_eq, not_false_eq_true, and_self, if_true]
  cases hv <;> rfl

end

theorem ret_at {pc : Nat} (h : acquireAsm[pc]? = some .ret) : pc = 6 := by
  have : ∀ pc < acquireAsm.length, acquireAsm[pc]? = some .ret → pc = 6 := by decide
  exact this pc (List.getElem?_eq_some_iff.1 h).1 h

/-- What one instruction of `acquireAsm` at `pc` may do to the registers `AsmLocal` describes.  It touches
neither the client's view (`held`, `loc`) nor the protected counter.  Either it is the `RET` at 6, which
leaves the lock word alone; or it stays inside the function at a `pc'` where `AsmLocal` holds again, and
then the lock word and `asmWon` are unchanged — except for the exchange at 3 reading 0, which writes 1 and
wins. -/
def AsmEffect (cfg : Config) (sh : Shared) (t : Thread) (m : Method) (rpc pc : Nat) (r : Shared × Thread) : Prop :=
  r.2.held = t.held ∧ r.2.loc = t.loc ∧ r.1.ctr = sh.ctr ∧ r.1.incs = sh.incs ∧
  ((∃ pc', r.2.ph = .asm m rpc pc' ∧ AsmLocal cfg pc' r.2 ∧
      (r.1.lock = sh.lock ∧ (asmWon pc' r.2 ↔ asmWon pc t) ∨
       pc = 3 ∧ sh.lock = 0 ∧ r.1.lock = 1 ∧ asmWon pc' r.2)) ∨
   (pc = 6 ∧ r.2.ph = .go m (rpc + 1) ∧ r.1.lock = sh.lock))

/-- an instruction that works on registers and flags only -/
private theorem AsmEffect.reg {cfg : Config} {sh : Shared} {t t' : Thread} {m : Method} {rpc pc : Nat} (pc' : Nat)
    (hh : t'.held = t.held) (hl : t'.loc = t.loc) (hp : t'.ph = .asm m rpc pc') (hA : AsmLocal cfg pc' t')
    (hw : asmWon pc' t' ↔ asmWon pc t) : AsmEffect cfg sh t m rpc pc (sh, t') :=
  ⟨hh, hl, rfl, rfl, .inl ⟨pc', hp, hA, .inl ⟨rfl, hw⟩⟩⟩

/-- **One instruction of the generated `acquireAsm`**, executed from registers as `AsmLocal` describes them
(the thread that steps is arbitrary, no other thread appears). -/
theorem asm_effect (cfg : Config) (sh : Shared) (t : Thread) (m : Method) (rpc pc : Nat) hv
    (hA : AsmLocal cfg pc t) (hw : sh.lock = 0 ∨ sh.lock = 1) :
    AsmEffect cfg sh t m rpc pc (asmStep cfg sh t m rpc pc hv) := by
  -- fail fast when the program no longer has the shape the pc-indexed invariant was written for
  first
    | (have _hshape : acquireAsm.length = 20 := by decide)
    | fail "acquireAsm no longer has the 20 instructions the pc-indexed invariant (AsmLocal, asmWon) was written for"
  -- With `t` a constructor application every `rfl` below is evaluation of `asmStep` at a literal pc.
  -- (Against a variable `t` the kernel first tries `r.2 = t` field by field, and at `DECL` that
  -- compares `(t.cx + (2^32 - 1)) % 2^32` with `t.cx` by unary arithmetic.)
  obtain ⟨ph, held, ax, bx, cx, dx, zf, tmp, att, ret, mid, loc⟩ := t
  rcases pc with _|_|_|_|_|_|_|_|_|_|_|_|_|_|_|_|_|_|_|_|pc
  · exact .reg 1 rfl rfl rfl rfl Iff.rfl
  · exact .reg 2 rfl rfl rfl hA Iff.rfl
  · exact .reg 3 rfl rfl rfl ⟨hA, rfl⟩ Iff.rfl
  · -- XCHGL 0(AX), BX: the only write to the lock word
    rw [asmStep_xchg hA.1 hA.2]
    refine ⟨rfl, rfl, rfl, rfl, .inl ⟨4, rfl, ⟨hA.1, hw⟩, ?_⟩⟩
    rcases hw with h0 | h1
    · exact .inr ⟨rfl, h0, rfl, h0⟩
    · exact .inl ⟨h1.symm, fun h : sh.lock = 0 => by omega, False.elim⟩
  · -- TESTL BX, BX
    refine .reg 5 rfl rfl rfl hA.1 ?_
    show (((bx % two32) &&& (bx % two32)) == 0) = true ↔ bx = 0
    obtain rfl | rfl : bx = 0 ∨ bx = 1 := hA.2 <;> decide
  · -- JNZ 7
    cases zf
    · exact .reg 7 rfl rfl rfl hA (iff_of_false id nofun)
    · exact .reg 6 rfl rfl rfl trivial (iff_of_true trivial rfl)
  · exact ⟨rfl, rfl, rfl, rfl, .inr ⟨rfl, rfl, rfl⟩⟩
  · exact .reg 8 rfl rfl rfl hA Iff.rfl
  · -- MOVL 0(AX), BX
    rw [asmStep_load hA]
    exact .reg 9 rfl rfl rfl hA Iff.rfl
  · exact .reg 10 rfl rfl rfl hA Iff.rfl
  · -- JZ 2
    cases zf
    · exact .reg 11 rfl rfl rfl hA Iff.rfl
    · exact .reg 2 rfl rfl rfl hA Iff.rfl
  · exact .reg 12 rfl rfl rfl hA Iff.rfl
  · -- JNZ 7
    cases zf
    · exact .reg 7 rfl rfl rfl hA Iff.rfl
    · exact .reg 13 rfl rfl rfl trivial Iff.rfl
  · exact .reg 14 rfl rfl rfl rfl Iff.rfl
  · -- TESTQ AX, AX
    refine .reg 15 rfl rfl rfl ⟨hA, ?_⟩ Iff.rfl
    show ((ax &&& ax) == 0) = true ↔ cfg.yieldFn = 0
    rw [Nat.and_self, beq_iff_eq, show ax = cfg.yieldFn from hA]
  · -- JZ 17: CALL is reached only with a non-nil `yieldFn`
    cases zf
    · exact .reg 16 rfl rfl rfl ⟨hA.1, fun h => nomatch hA.2.2 h⟩ Iff.rfl
    · exact .reg 17 rfl rfl rfl trivial Iff.rfl
  · -- CALL 0(AX): the callee's register values are arbitrary
    rw [asmStep_call hA.1 hA.2]
    rcases hv with _ | ⟨a, b, c, d, z⟩ <;>
      exact .reg 17 rfl rfl rfl trivial Iff.rfl
  · exact .reg 18 rfl rfl rfl rfl Iff.rfl
  · exact .reg 19 rfl rfl rfl hA Iff.rfl
  · exact .reg 7 rfl rfl rfl hA Iff.rfl
  · exact hA.elim

/-- The same in terms of the invariant: `Local` is preserved; ownership is kept, and is gained only by
the exchange at 3 reading 0; the function is left only by the `RET` at 6, executed by an owner. -/
theorem asm_step (cfg : Config) (sh : Shared) (t : Thread) (rpc pc : Nat) (m : Method) hv
    (hph : t.ph = .asm m rpc pc) (hL : Local cfg t) (hw : sh.lock = 0 ∨ sh.lock = 1) :
    let r := asmStep cfg sh t m rpc pc hv
    Local cfg r.2 ∧ r.2.held = t.held ∧ r.2.loc = t.loc ∧ r.1.ctr = sh.ctr ∧ r.1.incs = sh.incs ∧
    ((∃ pc', r.2.ph = .asm m rpc pc' ∧
        (r.1.lock = sh.lock ∧ (Owner r.2 ↔ Owner t) ∨ pc = 3 ∧ sh.lock = 0 ∧ r.1.lock = 1 ∧ Owner r.2)) ∨
     (pc = 6 ∧ r.2.ph = .go m (rpc + 1) ∧ r.1.lock = sh.lock ∧ Owner t ∧ Owner r.2)) := by
  simp only [Local, hph] at hL
  obtain ⟨rfl, rfl, hheld, hA⟩ := hL
  have hO := owner_asm hph hheld
  obtain ⟨hh, hl, hc, hi, hn⟩ := asm_effect cfg sh t .acquire 0 pc hv hA hw
  have hh' := hh.trans hheld
  rcases hn with ⟨pc', hp', hA', hlk⟩ | ⟨rfl, hp', hlk⟩
  · have hO' := owner_asm hp' hh'
    refine ⟨by simp only [Local, hp', true_and]; exact ⟨hh', hA'⟩, hh, hl, hc, hi, .inl ⟨pc', hp', ?_⟩⟩
    rcases hlk with ⟨hk, hwon⟩ | ⟨h3, h0, h1, hwon⟩
    · exact .inl ⟨hk, hO'.trans (hwon.trans hO.symm)⟩
    · exact .inr ⟨h3, h0, h1, hO'.2 hwon⟩
  · exact ⟨by simp only [Local, hp']; exact ⟨Nat.le_refl 1, hh'⟩, hh, hl, hc, hi,
      .inr ⟨rfl, hp', hlk, hO.2 trivial, .inr (by simp only [hp'])⟩⟩

theorem owner_at_ret {cfg : Config} {t : Thread} {m : Method} {rpc pc : Nat} (hph : t.ph = .asm m rpc pc)
    (hL : Local cfg t) (h : acquireAsm[pc]? = some .ret) : Owner t := by
  cases ret_at h
  simp only [Local, hph] at hL
  exact (owner_asm hph hL.2.2.1).2 trivial

/-- one atomic operation of the generated Go bodies: the counterpart of `asm_step` -/
theorem go_local (cfg : Config) (sh : Shared) (t : Thread) (m : Method) (pc : Nat)
    (hph : t.ph = .go m pc) (hL : Local cfg t)
    (hw : sh.lock = 0 ∨ sh.lock = 1) (ho : Owner t → sh.lock = 1)
    (hloc : ∀ v, t.loc = some v → v = sh.ctr ∧ t.held = true) :
    let r := goStep sh t m pc
    Local cfg r.2 ∧ LockEffect sh r.1 t r.2 ∧ CtrEffect sh r.1 t r.2 := by
  -- with the phase a constructor, `Local`, `Owner` and `goStep` at a literal index evaluate
  obtain ⟨ph, held, ax, bx, cx, dx, zf, tmp, att, ret, mid, loc⟩ := t
  cases hph
  cases m <;> simp only [Local] at hL <;> obtain rfl | rfl : pc = 0 ∨ pc = 1 := by omega
  · -- Acquire 0: the call of `archAcquireSpinlock`
    obtain ⟨-, rfl⟩ := hL
    exact ⟨⟨rfl, rfl, rfl, trivial⟩, .inl ⟨rfl, Iff.rfl⟩, .inl ⟨rfl, rfl, hloc⟩⟩
  · -- Acquire 1: the return; the winner becomes a holder
    exact ⟨trivial, .inl ⟨rfl, iff_of_true (.inl rfl) (.inr trivial)⟩,
      .inl ⟨rfl, rfl, fun v h => ⟨(hloc v h).1, rfl⟩⟩⟩
  · -- TryToAcquire 0: the swap wins iff it reads 0
    refine ⟨Nat.le_refl 1, ?_, .inl ⟨rfl, rfl, hloc⟩⟩
    rcases hw with h0 | h1
    · exact .inr (.inl ⟨h0, rfl, fun h => by have := ho h; omega, .inr h0⟩)
    · exact .inl ⟨h1.symm, or_congr_right (iff_of_false (fun h : sh.lock = 0 => by omega) id)⟩
  · -- TryToAcquire 1: the return of `tmp == 0`
    refine ⟨trivial, .inl ⟨rfl, ?_⟩, .inl ⟨rfl, rfl, fun v h => ⟨(hloc v h).1, ?_⟩⟩⟩
    · show (held || tmp == 0) = true ∨ False ↔ held = true ∨ tmp = 0
      rw [or_false, Bool.or_eq_true, beq_iff_eq]
    · show (held || tmp == 0) = true
      rw [show held = true from (hloc v h).2, Bool.true_or]
  · -- Release 0: the store; the caller stops being an owner
    obtain ⟨-, rfl⟩ := hL
    exact ⟨⟨Nat.le_refl 1, rfl⟩, .inr (.inr ⟨rfl, .inr trivial, fun h => h.elim nofun id⟩), .inl ⟨rfl, rfl, hloc⟩⟩
  · -- Release 1: the return
    obtain ⟨-, rfl⟩ := hL
    exact ⟨trivial, .inl ⟨rfl, Iff.rfl⟩, .inl ⟨rfl, rfl, hloc⟩⟩

/-- The thread-local step preserves the per-thread invariant and changes the lock word only
together with ownership. -/
theorem tstep_local (cfg : Config) (sh sh' : Shared) (t t' : Thread) (ch : Choice)
    (hL : Local cfg t) (hw : sh.lock = 0 ∨ sh.lock = 1) (ho : Owner t → sh.lock = 1)
    (hloc : ∀ v, t.loc = some v → v = sh.ctr ∧ t.held = true)
    (h : tstep cfg sh t ch = some (sh', t')) :
    Local cfg t' ∧ LockEffect sh sh' t t' ∧ CtrEffect sh sh' t t' := by
  cases hph : t.ph with
  | go m pc =>
    have := go_local cfg sh t m pc hph hL hw ho hloc
    rwa [← tstep_go hph h] at this
  | asm m rpc pc =>
    obtain ⟨hv, e⟩ := tstep_asm hph h
    obtain ⟨hL', hh, hl, hc, hi, hn⟩ := asm_step cfg sh t rpc pc m hv hph hL hw
    rw [← e] at hL' hh hl hc hi hn
    refine ⟨hL', ?_, .inl ⟨hc, hi, fun v h => by rw [hh]; exact hloc v (hl ▸ h)⟩⟩
    rcases hn with ⟨_, _, ⟨hk, hO⟩ | ⟨_, h0, h1, hO⟩⟩ | ⟨_, _, hk, hO, hO'⟩
    · exact .inl ⟨hk, hO⟩
    · exact .inr (.inl ⟨h0, h1, fun h => by have := ho h; omega, hO⟩)
    · exact .inl ⟨hk, iff_of_true hO' hO⟩
  | fault => simp only [Local, hph] at hL
  | idle =>
    -- the client's moves; with the phase and `held` constructors, `tstep`, `Local`, `Owner` evaluate
    obtain ⟨ph, held, ax, bx, cx, dx, zf, tmp, att, ret, mid, loc⟩ := t
    cases hph
    cases ch with
    | run | havoc => cases h
    | callTry =>
      cases h
      exact ⟨Nat.zero_le 1, .inl ⟨rfl, Iff.rfl⟩, .inl ⟨rfl, rfl, hloc⟩⟩
    | callAcquire =>
      cases held <;> cases h
      exact ⟨⟨Nat.zero_le 1, rfl⟩, .inl ⟨rfl, Iff.rfl⟩, .inl ⟨rfl, rfl, hloc⟩⟩
    | callRelease =>
      cases held <;> cases h
      exact ⟨⟨Nat.zero_le 1, rfl⟩, .inl ⟨rfl, iff_of_true (.inr trivial) (.inl rfl)⟩, .inl ⟨rfl, rfl, nofun⟩⟩
    | csRead =>
      cases held <;> cases h
      exact ⟨trivial, .inl ⟨rfl, Iff.rfl⟩, .inl ⟨rfl, rfl, fun v h => ⟨(Option.some.inj h).symm, rfl⟩⟩⟩
    | csWrite =>
      cases held <;> cases loc <;> cases h
      exact ⟨trivial, .inl ⟨rfl, Iff.rfl⟩, .inr ⟨rfl, (hloc _ rfl).1 ▸ rfl, rfl, rfl, rfl⟩⟩

end Firefly.Spin
