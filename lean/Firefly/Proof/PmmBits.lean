import Firefly.Model.Pmm
import Firefly.Proof.Bits
/-! Bit-level lemmas for the bitmap allocator proofs (core Lean only). -/
namespace Firefly.Pmm

/-- bit `i` of a bitmap in the allocator's order: word `i/64`, bit `63 - i%64` -/
def bitAt (ws : List Word) (i : Nat) : Bool := (ws.getD (i / 64) 0).getLsbD (63 - i % 64)

/-- the mask of a frame is one bit, so core's `twoPow` lemmas apply -/
theorem bitMask_eq (rel : Nat) : bitMask rel = BitVec.twoPow 64 (63 - rel % 64) := (BitVec.twoPow_eq ..).symm

theorem bitMask_getLsbD (rel j : Nat) : (bitMask rel).getLsbD j = decide (j = 63 - rel % 64) := by
  rw [bitMask_eq, BitVec.getLsbD_twoPow, decide_eq_true (by omega : 63 - rel % 64 < 64), Bool.true_and,
    decide_eq_decide]
  exact eq_comm

theorem findClear_some {w : Word} {off : Nat} (h : findClear w = some off) :
    off < 64 ∧ w.getLsbD (63 - off) = false ∧ ∀ j, j < off → w.getLsbD (63 - j) = true := by
  unfold findClear at h
  have h1 := List.find?_some h
  have hm := List.mem_of_find?_eq_some h
  simp only [List.mem_range] at hm
  refine ⟨hm, by simpa using h1, ?_⟩
  intro j hj
  have := List.find?_eq_some_iff_getElem.1 h
  obtain ⟨_, i, hi, hget, hbefore⟩ := this
  simp only [List.getElem_range] at hget
  subst hget
  have := hbefore j hj
  simpa [List.getElem_range] using this

theorem findClear_none {w : Word} (h : findClear w = none) : w = BitVec.allOnes 64 := by
  unfold findClear at h
  rw [List.find?_eq_none] at h
  apply BitVec.eq_of_getLsbD_eq
  intro i hi
  have := h (63 - i) (by simp; omega)
  have e : 63 - (63 - i) = i := by omega
  simp only [e, Bool.not_eq_true, Bool.not_eq_false'] at this
  rw [BitVec.getLsbD_allOnes, this]; simp [hi]

theorem allOnes_getLsbD (j : Nat) (hj : j < 64) : (BitVec.allOnes 64).getLsbD j = true := by
  rw [BitVec.getLsbD_allOnes]; simp [hj]

theorem bitAt_cons_lt (w : Word) (ws : List Word) (i : Nat) (h : i < 64) :
    bitAt (w :: ws) i = w.getLsbD (63 - i) := by
  rw [bitAt, Nat.div_eq_of_lt h, Nat.mod_eq_of_lt h, List.getD_cons_zero]

theorem bitAt_cons_add (w : Word) (ws : List Word) (i : Nat) : bitAt (w :: ws) (i + 64) = bitAt ws i := by
  rw [bitAt, Nat.add_div_right _ (by decide), Nat.add_mod_right, List.getD_cons_succ, bitAt]

theorem bitAt_cons_allOnes {ws : List Word} {n : Nat} (h : ∀ i, i < n → bitAt ws i = true) (i : Nat)
    (hi : i < n + 64) : bitAt (BitVec.allOnes 64 :: ws) i = true := by
  by_cases h64 : i < 64
  · rw [bitAt_cons_lt _ _ _ h64]; exact allOnes_getLsbD _ (by omega)
  · rw [show i = i - 64 + 64 by omega, bitAt_cons_add]; exact h _ (by omega)

theorem scanWords_some {ws : List Word} {k blk off : Nat} (h : scanWords ws k = some (blk, off)) :
    ∃ j, blk = k + j ∧ j < ws.length ∧ off < 64 ∧ bitAt ws (j * 64 + off) = false ∧
      ∀ i, i < j * 64 + off → bitAt ws i = true := by
  induction ws generalizing k with
  | nil => cases h
  | cons w ws ih =>
    rw [scanWords] at h
    split at h
    · next hw =>
      obtain ⟨j, rfl, h2, h3, h4, h5⟩ := ih h
      have e : (j + 1) * 64 + off = j * 64 + off + 64 := by omega
      refine ⟨j + 1, Nat.add_right_comm k 1 j, Nat.succ_lt_succ h2, h3, ?_, ?_⟩
      · rw [e, bitAt_cons_add]; exact h4
      · rw [e, hw]; exact bitAt_cons_allOnes h5
    · next hw =>
      split at h
      · next o hf =>
        cases h
        obtain ⟨f1, f2, f3⟩ := findClear_some hf
        refine ⟨0, rfl, Nat.zero_lt_succ _, f1, ?_, fun i hi => ?_⟩
        · rw [Nat.zero_mul, Nat.zero_add, bitAt_cons_lt _ _ _ f1]; exact f2
        · rw [Nat.zero_mul, Nat.zero_add] at hi
          rw [bitAt_cons_lt _ _ _ (Nat.lt_trans hi f1)]; exact f3 i hi
      · next hf => exact absurd (findClear_none hf) hw

theorem scanWords_none {ws : List Word} {k : Nat} (h : scanWords ws k = none) :
    ∀ i, i < ws.length * 64 → bitAt ws i = true := by
  induction ws generalizing k with
  | nil => intro i hi; simp at hi
  | cons w ws ih =>
    rw [scanWords] at h
    split at h
    · next hw =>
      rw [hw, List.length_cons, Nat.succ_mul]
      exact bitAt_cons_allOnes (ih h)
    · next hw =>
      split at h
      · cases h
      · next hf => exact absurd (findClear_none hf) hw

theorem bitAt_set (ws : List Word) (k : Nat) (hk : k / 64 < ws.length) (w : Word) (i : Nat) :
    bitAt (ws.set (k / 64) w) i = if i / 64 = k / 64 then w.getLsbD (63 - i % 64) else bitAt ws i := by
  unfold bitAt
  rw [List.getD_eq_getElem?_getD, List.getD_eq_getElem?_getD]
  split
  · next h => rw [h, List.getElem?_set_self hk]; rfl
  · next h => rw [List.getElem?_set_ne (Ne.symm h)]

theorem bitPos_eq_iff {i k : Nat} (h : i / 64 = k / 64) : 63 - i % 64 = 63 - k % 64 ↔ i = k := by omega

theorem bitAt_set_or (ws : List Word) (k : Nat) (hk : k / 64 < ws.length) (i : Nat) :
    bitAt (ws.set (k / 64) (ws.getD (k / 64) 0 ||| bitMask k)) i = (bitAt ws i || decide (i = k)) := by
  rw [bitAt_set ws k hk]
  split
  · next h =>
    rw [BitVec.getLsbD_or, bitMask_getLsbD, bitAt, h, decide_eq_decide.2 (bitPos_eq_iff h)]
  · next h => rw [decide_eq_false (fun e => h (by rw [e])), Bool.or_false]

theorem bitAt_set_andNot (ws : List Word) (k : Nat) (hk : k / 64 < ws.length) (i : Nat) :
    bitAt (ws.set (k / 64) (ws.getD (k / 64) 0 &&& ~~~(bitMask k))) i = (bitAt ws i && !decide (i = k)) := by
  rw [bitAt_set ws k hk]
  split
  · next h =>
    have h63 : 63 - i % 64 < 64 := by omega
    rw [BitVec.getLsbD_and, BitVec.getLsbD_not, bitMask_getLsbD, bitAt, h]
    simp only [h63, decide_true, Bool.true_and, decide_eq_decide.2 (bitPos_eq_iff h)]
  · next h => rw [decide_eq_false (fun e => h (by rw [e])), Bool.not_false, Bool.and_true]

/-- the `w &&& mask = 0` test of `FreeFrame` reads exactly the frame's bit -/
theorem bitAt_eq_false_iff (ws : List Word) (k : Nat) (hk : k / 64 < ws.length) :
    bitAt ws k = false ↔ ws[k / 64] &&& bitMask k = 0 := by
  rw [bitAt, List.getD_eq_getElem?_getD, List.getElem?_eq_getElem hk, Option.getD_some, bitMask_eq]
  exact (Bits.and_twoPow_eq_zero _ (by omega)).symm

def countClear (ws : List Word) (n : Nat) : Nat := (List.range n).countP fun i => !bitAt ws i

theorem countP_range_update (p q : Nat → Bool) (n k : Nat) (hk : k < n)
    (hne : ∀ i, i ≠ k → q i = p i) (hp : p k = true) (hq : q k = false) :
    (List.range n).countP q + 1 = (List.range n).countP p := by
  induction n with
  | zero => omega
  | succ n ih =>
    rw [List.range_succ, List.countP_append, List.countP_append]
    simp only [List.countP_singleton]
    by_cases hkn : k = n
    · subst hkn
      have : (List.range k).countP q = (List.range k).countP p := by
        apply List.countP_congr
        intro i hi
        simp only [List.mem_range] at hi
        rw [hne i (by omega)]
      simp [hp, hq, this]
    · have := ih (by omega)
      rw [hne n (fun h => hkn h.symm)]
      omega

theorem countClear_flip {ws ws' : List Word} {n k : Nat} (hk : k < n)
    (hne : ∀ i, i ≠ k → bitAt ws' i = bitAt ws i) (h : bitAt ws k = false) (h' : bitAt ws' k = true) :
    countClear ws' n + 1 = countClear ws n :=
  countP_range_update _ _ n k hk (fun i hi => by rw [hne i hi]) (by rw [h]; rfl) (by rw [h']; rfl)

theorem countClear_pos_iff (ws : List Word) (n : Nat) :
    0 < countClear ws n ↔ ∃ i, i < n ∧ bitAt ws i = false := by
  simp only [countClear, List.countP_pos_iff, List.mem_range, Bool.not_eq_true']

theorem countClear_le (ws : List Word) (n : Nat) : countClear ws n ≤ n := by
  simpa [countClear] using List.countP_le_length (p := fun i => !bitAt ws i) (l := List.range n)

end Firefly.Pmm
