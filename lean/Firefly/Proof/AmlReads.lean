import Firefly.Proof.AmlLex
/-!
Decoders on known bytes.  `Reads d pe x o l a`: with the bytes `l` in the table at `o`, below `pe`, the decoder `x`
returns `a` and consumes exactly `l`.  Sequencing two decoders appends what they read (`Reads.bind`), so the round trip
of a composite decoder follows its `do` block, and the table is indexed only at the leaves (`Reads.readByte`).
-/
namespace Firefly.AmlParser.F
open Firefly.AmlLex

/-- the table holds the bytes `l` from `base` on -/
def BytesAt (d : Bytes) (base : Nat) (l : List UInt8) : Prop := ∀ i, i < l.length → d[base + i]? = l[i]?

theorem BytesAt.left {d : Bytes} {base : Nat} {a b : List UInt8} (h : BytesAt d base (a ++ b)) : BytesAt d base a := by
  intro i hi
  have := h i (by rw [List.length_append]; omega)
  rw [List.getElem?_append_left hi] at this
  exact this

theorem BytesAt.right {d : Bytes} {base : Nat} {a b : List UInt8} (h : BytesAt d base (a ++ b)) :
    BytesAt d (base + a.length) b := by
  intro i hi
  have := h (a.length + i) (by rw [List.length_append]; omega)
  rw [List.getElem?_append_right (by omega)] at this
  have e1 : a.length + i - a.length = i := by omega
  have e2 : base + (a.length + i) = base + a.length + i := by omega
  rw [e1, e2] at this
  exact this

theorem BytesAt.split {d : Bytes} {base n : Nat} {a b : List UInt8} (h : BytesAt d base (a ++ b)) (hn : a.length = n) :
    BytesAt d base a ∧ BytesAt d (base + n) b := hn ▸ ⟨h.left, h.right⟩

theorem BytesAt.tail {d : Bytes} {base : Nat} {x : UInt8} {l : List UInt8} (h : BytesAt d base (x :: l)) :
    d[base]? = some x ∧ BytesAt d (base + 1) l := by
  constructor
  · have := h 0 (by simp)
    simpa using this
  · have : BytesAt d (base + [x].length) l := BytesAt.right (a := [x]) (by simpa using h)
    simpa using this

theorem BytesAt.cons {d : Bytes} {base : Nat} {x : UInt8} {l : List UInt8} (h0 : d[base]? = some x) (h : BytesAt d (base + 1) l) :
    BytesAt d base (x :: l)
  | 0, _ => h0
  | i + 1, hi => by rw [← Nat.add_assoc, Nat.add_right_comm]; exact h i (Nat.lt_of_succ_lt_succ hi)

end Firefly.AmlParser.F

namespace Firefly.AmlLex
open Firefly.AmlParser.F

def Reads {α : Type} (d : Bytes) (pe : Nat) (x : LexM α) (o : Nat) (l : List UInt8) (a : α) : Prop :=
  BytesAt d o l → o + l.length ≤ pe →
    x { offset := o, pkgEnd := pe } = .ok (a, { offset := o + l.length, pkgEnd := pe })

section
variable {α β : Type} {d : Bytes} {pe o : Nat}

theorem Reads.runs {x : LexM α} {l : List UInt8} {a : α} (hx : Reads d pe x o l a) (hb : BytesAt d o l) (hfit : o + l.length ≤ pe)
    (hpe : pe ≤ d.size) : Runs d x { offset := o, pkgEnd := pe } a { offset := o + l.length, pkgEnd := pe } :=
  ⟨hx hb hfit, ⟨Nat.le_trans hfit hpe, hpe⟩, rfl, Nat.le_add_right _ _⟩

theorem Reads.pure {a : α} : Reads d pe (pure a) o [] a := fun _ _ => rfl

theorem Reads.bind {x : LexM α} {f : α → LexM β} {l m : List UInt8} {a : α} {b : β} (hx : Reads d pe x o l a)
    (hf : Reads d pe (f a) (o + l.length) m b) : Reads d pe (x >>= f) o (l ++ m) b := by
  intro hb hfit
  rw [List.length_append] at hfit
  rw [List.length_append, ← Nat.add_assoc]
  exact (bind_run (hx hb.left (by omega))).trans (hf hb.right (by omega))

theorem Reads.bind0 {x : LexM α} {f : α → LexM β} {m : List UInt8} {a : α} {b : β} (hx : Reads d pe x o [] a)
    (hf : Reads d pe (f a) o m b) : Reads d pe (x >>= f) o m b :=
  Reads.bind (l := []) hx hf

theorem Reads.bindR {x : LexM α} {f : α → LexM β} {l : List UInt8} {a : α} {b : β} (hx : Reads d pe x o l a)
    (hf : Reads d pe (f a) (o + l.length) [] b) : Reads d pe (x >>= f) o l b :=
  List.append_nil l ▸ Reads.bind hx hf

theorem Reads.readByte {b : UInt8} : Reads d pe (AmlLex.readByte d) o [b] (some b) :=
  fun hb hfit => readByte_at (r := { offset := o, pkgEnd := pe }) (Nat.lt_of_succ_le hfit) hb.tail.1

theorem Reads.offset : Reads d pe AmlLex.offset o [] o := fun _ _ => rfl
theorem Reads.pkgEnd : Reads d pe AmlLex.pkgEnd o [] pe := fun _ _ => rfl

theorem Reads.peekByte {b : UInt8} (hb : d[o]? = some b) (hlt : o < pe) : Reads d pe (AmlLex.peekByte d) o [] (some b) := by
  intro _ _
  exact read_at (g := id) (r := { offset := o, pkgEnd := pe }) hlt hb

theorem Reads.dataPtr (hlt : o < pe) (hpe : pe ≤ d.size) : Reads d pe (AmlLex.dataPtr d) o [] (some o) := by
  intro _ _
  simp only [AmlLex.dataPtr, Reader.not_eof (r := { offset := o, pkgEnd := pe }) hlt]
  rw [if_pos (show o < d.size by omega)]
  rfl

/-- `SetOffset(Offset() + k)` over `k` bytes that are in the table -/
theorem Reads.setOffset {l : List UInt8} {off : Nat} (ho : off = o + l.length) (hpe : pe ≤ d.size) :
    Reads d pe (AmlLex.setOffset d off) o l () := by
  intro _ hfit
  subst ho
  simp only [AmlLex.setOffset]
  rw [if_neg (by omega)]
  rfl

theorem Reads.ite_pos {c : Prop} [Decidable c] {x y : LexM α} {l : List UInt8} {a : α} (hc : c)
    (h : Reads d pe x o l a) : Reads d pe (if c then x else y) o l a := by rw [if_pos hc]; exact h

theorem Reads.ite_neg {c : Prop} [Decidable c] {x y : LexM α} {l : List UInt8} {a : α} (hc : ¬ c)
    (h : Reads d pe y o l a) : Reads d pe (if c then x else y) o l a := by rw [if_neg hc]; exact h

theorem Reads.pure' {a a' : α} (h : a = a') : Reads d pe (Pure.pure a : LexM α) o [] a' := h ▸ Reads.pure

theorem or_shift (a b k : Nat) (h : b < 2 ^ k) : a <<< k ||| b = a * 2 ^ k + b := by
  rw [← Nat.shiftLeft_add_eq_or_of_lt h, Nat.shiftLeft_eq]

theorem toNat_ofNat_mod (x : Nat) : (UInt8.ofNat (x % 256)).toNat = x % 256 :=
  UInt8.toNat_ofNat_of_lt' (Nat.mod_lt x (by decide))

/-- the lead byte `64 * k + x` of a PkgLength with `k` following bytes and low nibble `x` -/
theorem lead_decode (k x : Nat) (hk : k < 4) (hx : x < 16) :
    (UInt8.ofNat (64 * k + x)).toNat >>> 6 = k ∧ (UInt8.ofNat (64 * k + x)).toNat &&& 0xf = x := by
  have ht : (UInt8.ofNat (64 * k + x)).toNat = 64 * k + x := UInt8.toNat_ofNat_of_lt' (show _ < 256 by omega)
  rw [ht, Nat.shiftRight_eq_div_pow]
  refine ⟨by omega, ?_⟩
  have := Nat.and_two_pow_sub_one_eq_mod (64 * k + x) 4
  simp at this; rw [this]; omega

theorem or_bytes (a b k : Nat) (hb : b < 256) : a <<< (k + 8) ||| b <<< k = (a * 256 + b) <<< k := by
  rw [Nat.add_comm, Nat.shiftLeft_add, ← Nat.shiftLeft_or_distrib, ← Nat.shiftLeft_add_eq_or_of_lt hb,
    Nat.shiftLeft_eq a 8]

theorem pkglen_reads (v w o : Nat) (hw : 1 ≤ w ∧ w ≤ 4) (hv : v < if w ≤ 1 then 64 else 2 ^ (4 + 8 * (w - 1))) :
    Reads d pe (parsePkgLength d) o (encPkgLength v w) (v, .ok) := by
  have hl (k : Nat) (hk : k < 4) := lead_decode k (v % 16) hk (Nat.mod_lt _ (by decide))
  obtain rfl | rfl | rfl | rfl : w = 1 ∨ w = 2 ∨ w = 3 ∨ w = 4 := by omega
  · have hv : v < 64 := hv
    have ht : (UInt8.ofNat (v % 64)).toNat = v := by
      rw [Nat.mod_eq_of_lt hv]; exact UInt8.toNat_ofNat_of_lt' (show v < 256 by omega)
    have hs : v >>> 6 = 0 := by rw [Nat.shiftRight_eq_div_pow]; omega
    unfold parsePkgLength
    refine .bind0 .offset <| .bindR (l := [_]) .readByte ?_
    dsimp only
    rw [ht, hs]
    exact .pure
  · have hv : v < 4096 := hv
    unfold parsePkgLength
    refine .bind0 .offset <| .bind (l := [_]) .readByte ?_
    dsimp only
    rw [(hl 1 (by decide)).1, (hl 1 (by decide)).2]
    refine .bindR (l := [_]) .readByte (.pure' (congrArg (·, PRes.ok) ?_))
    rw [Nat.pow_zero, Nat.div_one, toNat_ofNat_mod, or_shift _ _ 4 (by omega)]
    omega
  · have hv : v < 1048576 := hv
    unfold parsePkgLength
    refine .bind0 .offset <| .bind (l := [_]) .readByte ?_
    dsimp only
    rw [(hl 2 (by decide)).1, (hl 2 (by decide)).2]
    refine .bind (l := [_]) .readByte <| .bindR (l := [_]) .readByte (.pure' (congrArg (·, PRes.ok) ?_))
    simp only [Nat.pow_zero, Nat.div_one, Nat.pow_one]
    rw [toNat_ofNat_mod, toNat_ofNat_mod, or_bytes _ _ 4 (by omega),
      or_shift _ _ 4 (by omega)]
    omega
  · have hv : v < 268435456 := hv
    unfold parsePkgLength
    refine .bind0 .offset <| .bind (l := [_]) .readByte ?_
    dsimp only
    rw [(hl 3 (by decide)).1, (hl 3 (by decide)).2]
    refine .bind (l := [_]) .readByte <| .bind (l := [_]) .readByte <|
      .bindR (l := [_]) .readByte (.pure' (congrArg (·, PRes.ok) ?_))
    simp only [Nat.pow_zero, Nat.div_one, Nat.pow_one, Nat.reducePow]
    rw [toNat_ofNat_mod, toNat_ofNat_mod, toNat_ofNat_mod, or_bytes _ _ 12 (by omega),
      or_bytes _ _ 4 (by omega), or_shift _ _ 4 (by omega)]
    omega

theorem parseNumLoop_reads (v : Nat) : ∀ (m c o : Nat), Reads d pe (parseNumLoop d m c (v % 256 ^ c)) o
    ((List.range' c m).map fun i => UInt8.ofNat ((v / 256 ^ i) % 256)) (v % 256 ^ (c + m), .ok) := by
  intro m
  induction m with
  | zero => intro c o; unfold parseNumLoop; exact .pure
  | succ m ih =>
    intro c o
    have hval : (v % 256 ^ c ||| (UInt8.ofNat ((v / 256 ^ c) % 256)).toNat <<< (8 * c)) = v % 256 ^ (c + 1) := by
      have hlt : v % 256 ^ c < 2 ^ (8 * c) := by
        rw [Nat.pow_mul]; exact Nat.mod_lt _ (Nat.pow_pos (by decide))
      rw [toNat_ofNat_mod, Nat.or_comm, ← Nat.shiftLeft_add_eq_or_of_lt hlt, Nat.shiftLeft_eq, Nat.mod_pow_succ, Nat.pow_mul,
        Nat.mul_comm, Nat.add_comm]
    unfold parseNumLoop
    have := ih (c + 1) (o + 1)
    rw [← hval, Nat.add_right_comm, Nat.add_assoc] at this
    exact Reads.bind (l := [_]) .readByte this

theorem encConst_length (v n : Nat) : (encConst v n).length = n := by simp [encConst]

theorem parseNumConstant_reads (v n : Nat) : Reads d pe (parseNumConstant d n) o (encConst v n) (v % 256 ^ n, .ok) := by
  have := parseNumLoop_reads (d := d) (pe := pe) v n 0 o
  rwa [Nat.pow_zero, Nat.mod_one, Nat.zero_add, ← List.range_eq_range'] at this

theorem const_rt (d : Bytes) (v n base pe : Nat)
    (henc : ∀ i, i < n → d[base + i]? = (encConst v n)[i]?) (hfit : base + n ≤ pe) :
    parseNumConstant d n { offset := base, pkgEnd := pe } =
      .ok ((v % 256 ^ n, PRes.ok), { offset := base + n, pkgEnd := pe }) := by
  have := parseNumConstant_reads (d := d) (pe := pe) (o := base) v n
  rw [Reads, encConst_length] at this
  exact this (fun i hi => henc i (encConst_length v n ▸ hi)) hfit

open Firefly.Gen.C12 in
theorem checkOpcode_reads {op n o : Nat} (hok : pOpcodeTableIndex op false ≠ badOpcode) :
    Reads d pe (checkOpcode d op n) o [] (op, .ok) := by
  unfold checkOpcode; exact .ite_neg hok .pure

open Firefly.Gen.C12 in
theorem nextOpcode_one_reads {o : Nat} {b : UInt8} (hne : b.toNat ≠ extOpPrefix) (hok : pOpcodeTableIndex b.toNat false ≠ badOpcode) :
    Reads d pe (nextOpcode d) o [b] (b.toNat, .ok) := by
  unfold nextOpcode; exact .bindR .readByte (.ite_neg hne (checkOpcode_reads hok))

open Firefly.Gen.C12 in
theorem nextOpcode_ext_reads {o : Nat} {b : UInt8} (hok : pOpcodeTableIndex (0xff + b.toNat) false ≠ badOpcode) :
    Reads d pe (nextOpcode d) o [0x5b, b] (0xff + b.toNat, .ok) := by
  unfold nextOpcode
  exact .bind (l := [_]) .readByte (.ite_pos (by decide) (.bindR (l := [_]) .readByte (checkOpcode_reads hok)))

end
end Firefly.AmlLex
