import Firefly.Proof.PmmInv
/-! `AllocFrame` / `FreeFrame` refine "remove a free frame" / "add a held frame". -/
namespace Firefly.Pmm

theorem allocScan_some {ps : List Pool} {k i blk off : Nat} (h : allocScan ps k = some (i, blk, off)) :
    ∃ j p, i = k + j ∧ ps[j]? = some p ∧ p.freeCount ≠ 0 ∧ scanWords p.words 0 = some (blk, off) := by
  induction ps generalizing k with
  | nil => cases h
  | cons p ps ih =>
    rw [allocScan] at h
    split at h
    · obtain ⟨j, q, rfl, hq⟩ := ih h
      exact ⟨j + 1, q, Nat.add_right_comm k 1 j, hq⟩
    · next hf =>
      split at h
      · next hs => cases h; exact ⟨0, p, rfl, rfl, hf, hs⟩
      · obtain ⟨j, q, rfl, hq⟩ := ih h
        exact ⟨j + 1, q, Nat.add_right_comm k 1 j, hq⟩

theorem allocScan_none {ps : List Pool} {k : Nat} (h : allocScan ps k = none) :
    ∀ p ∈ ps, p.freeCount = 0 ∨ scanWords p.words 0 = none := by
  induction ps generalizing k with
  | nil => nofun
  | cons p ps ih =>
    rw [allocScan] at h
    rw [List.forall_mem_cons]
    split at h
    · next hf => exact ⟨Or.inl hf, ih h⟩
    · split at h
      · cases h
      · next hs => exact ⟨Or.inr hs, ih h⟩

theorem dec32_eq (n : Nat) (h : 0 < n) : dec32 n = n - 1 := by
  unfold dec32; rw [if_neg (by omega)]

theorem inc32_eq (n : Nat) (h : n + 1 < 4294967296) : inc32 n = n + 1 := by
  unfold inc32; rw [if_neg (by omega)]

theorem scan_in_pool {p : Pool} (hp : PoolInv p) (hfc : p.freeCount ≠ 0) {blk off : Nat}
    (hs : scanWords p.words 0 = some (blk, off)) :
    off < 64 ∧ p.freeAt (p.start + (blk * 64 + off)) = true := by
  obtain ⟨j, e, _, h3, h4, h5⟩ := scanWords_some hs
  rw [Nat.zero_add] at e; subst e
  obtain ⟨i, hin, hi⟩ := (countClear_pos_iff p.words p.n).1 (by rw [← hp.cnt]; omega)
  have : ¬ i < blk * 64 + off := fun hlt => by rw [h5 i hlt] at hi; cases hi
  have := hp.le
  rw [Pool.n_eq] at hin
  refine ⟨h3, freeAt_iff.2 ⟨by omega, ?_⟩⟩
  rw [Nat.add_sub_cancel_left]; exact h4

theorem scan_skips_pool {p : Pool} (hp : PoolInv p) (h : p.freeCount = 0 ∨ scanWords p.words 0 = none) {g : Nat} :
    ¬ p.freeAt g = true := by
  intro hpf
  obtain ⟨hin, hb⟩ := freeAt_iff.1 hpf
  have hk : g - p.start < p.n := by rw [Pool.n_eq]; omega
  rcases h with h0 | hn
  · have := (countClear_pos_iff _ _).2 ⟨_, hk, hb⟩
    rw [hp.cnt] at h0; omega
  · have hw := hp.word_lt hk
    rw [scanWords_none hn _ (by omega)] at hb; cases hb

/-- `AllocFrame` addresses the bit by word and offset, `markFrame` by relative frame -/
theorem take_eq (p : Pool) (blk off : Nat) (h : off < 64) :
    p.take blk off = p.take ((blk * 64 + off) / 64) (blk * 64 + off) := by
  have h1 : (blk * 64 + off) / 64 = blk := by omega
  have h2 : bitMask (blk * 64 + off) = bitMask off := by
    unfold bitMask; rw [show (blk * 64 + off) % 64 = off % 64 by omega]
  unfold Pool.take; rw [h1, h2]

@[simp] theorem take_start (p : Pool) (a b : Nat) : (p.take a b).start = p.start := rfl
@[simp] theorem take_end (p : Pool) (a b : Nat) : (p.take a b).end_ = p.end_ := rfl
@[simp] theorem give_start (p : Pool) (a : Nat) : (p.give a).start = p.start := rfl
@[simp] theorem give_end (p : Pool) (a : Nat) : (p.give a).end_ = p.end_ := rfl

theorem sub_left_inj {s g f : Nat} (hg : s ≤ g) (hf : s ≤ f) (e : g - s = f - s) : g = f := by omega

theorem pool_take {p : Pool} (hp : PoolInv p) {f : Nat} (hf : p.freeAt f = true) :
    PoolInv (p.take ((f - p.start) / 64) (f - p.start)) ∧
    (p.take ((f - p.start) / 64) (f - p.start)).freeCount + 1 = p.freeCount ∧
    ∀ g, (p.take ((f - p.start) / 64) (f - p.start)).freeAt g = true ↔ (p.freeAt g = true ∧ g ≠ f) := by
  obtain ⟨hin, hclear⟩ := freeAt_iff.1 hf
  have hk : f - p.start < p.n := by rw [Pool.n_eq]; omega
  have hbit : ∀ i, bitAt (p.take ((f - p.start) / 64) (f - p.start)).words i =
      (bitAt p.words i || decide (i = f - p.start)) := bitAt_set_or p.words _ (hp.word_lt hk)
  have hcount := countClear_flip hk (fun i hi => by rw [hbit, decide_eq_false hi, Bool.or_false]) hclear
    (by rw [hbit, decide_eq_true rfl, Bool.or_true])
  have hle := countClear_le p.words p.n
  have hfc : (p.take ((f - p.start) / 64) (f - p.start)).freeCount =
      countClear (p.take ((f - p.start) / 64) (f - p.start)).words p.n := by
    show dec32 p.freeCount = _
    rw [hp.cnt, dec32_eq _ (by omega)]; omega
  refine ⟨⟨hp.le, hp.small, (List.length_set ..).trans hp.len, hfc⟩, by rw [hfc, hp.cnt]; exact hcount,
    fun g => ?_⟩
  rw [freeAt_iff, freeAt_iff, take_start, take_end, hbit, Bool.or_eq_false_iff, decide_eq_false_iff_not]
  exact ⟨fun ⟨h1, h2, h3⟩ => ⟨⟨h1, h2⟩, fun e => h3 (e ▸ rfl)⟩,
    fun ⟨⟨h1, h2⟩, h3⟩ => ⟨h1, h2, fun e => h3 (sub_left_inj h1.1 hin.1 e)⟩⟩

theorem pool_give {p : Pool} (hp : PoolInv p) {f : Nat} (hin : p.start ≤ f ∧ f ≤ p.end_)
    (hset : bitAt p.words (f - p.start) = true) :
    PoolInv (p.give (f - p.start)) ∧ (p.give (f - p.start)).freeCount = p.freeCount + 1 ∧
    ∀ g, (p.give (f - p.start)).freeAt g = true ↔ (p.freeAt g = true ∨ g = f) := by
  have hk : f - p.start < p.n := by rw [Pool.n_eq]; omega
  have hbit : ∀ i, bitAt (p.give (f - p.start)).words i =
      (bitAt p.words i && !decide (i = f - p.start)) := bitAt_set_andNot p.words _ (hp.word_lt hk)
  have hcount := countClear_flip hk
    (fun i hi => by rw [hbit, decide_eq_false hi, Bool.not_false, Bool.and_true])
    (by rw [hbit, decide_eq_true rfl, Bool.not_true, Bool.and_false]) hset
  have hle := countClear_le (p.give (f - p.start)).words p.n
  have hsm := hp.small
  have hfc : (p.give (f - p.start)).freeCount = countClear (p.give (f - p.start)).words p.n := by
    show inc32 p.freeCount = _
    rw [hp.cnt, inc32_eq _ (by omega)]; omega
  refine ⟨⟨hp.le, hp.small, (List.length_set ..).trans hp.len, hfc⟩, by rw [hfc, hp.cnt]; omega,
    fun g => ?_⟩
  rw [freeAt_iff, freeAt_iff, give_start, give_end, hbit, Bool.and_eq_false_iff, Bool.not_eq_false',
    decide_eq_true_eq]
  constructor
  · rintro ⟨h1, h2 | h2⟩
    · exact Or.inl ⟨h1, h2⟩
    · exact Or.inr (sub_left_inj h1.1 hin.1 h2)
  · rintro (⟨h1, h2⟩ | rfl)
    · exact ⟨h1, Or.inl h2⟩
    · exact ⟨hin, Or.inr rfl⟩

theorem Inv.reserve {bm bm' : Bitmap} (hI : Inv bm) {i : Nat} {p : Pool} (hp : bm.pools[i]? = some p)
    {f : Nat} (hf : p.freeAt f = true)
    (hps : bm'.pools = bm.pools.set i (p.take ((f - p.start) / 64) (f - p.start)))
    (ht : bm'.total = bm.total) (hr : bm'.reserved = inc32 bm.reserved) :
    Inv bm' ∧ ranges bm'.pools = ranges bm.pools ∧ bm'.total = bm.total ∧
    bm'.reserved = bm.reserved + 1 ∧ ∀ g, isFree bm' g ↔ (isFree bm g ∧ g ≠ f) := by
  obtain ⟨hp'inv, hp'fc, hp'free⟩ := pool_take (hI.pools p (List.mem_of_getElem? hp)) hf
  have hle := hI.reserved_add_le hp
  have hsm := hI.small
  rw [inc32_eq _ (by omega)] at hr
  refine ⟨hI.set hp hps hp'inv rfl rfl ht (by omega), by rw [hps]; exact ranges_set hp rfl rfl, ht, hr,
    fun g => ?_⟩
  rw [isFree_set hI.sorted hp hps rfl rfl]
  split
  · next hg => rw [hp'free, isFree_iff_freeAt hI.sorted hp hg]
  · next hg => exact ⟨fun h => ⟨h, fun e => hg (e ▸ freeAt_range hf)⟩, fun h => h.1⟩

theorem Inv.release {bm bm' : Bitmap} (hI : Inv bm) {i : Nat} {p : Pool} (hp : bm.pools[i]? = some p)
    {f : Nat} (hin : p.start ≤ f ∧ f ≤ p.end_) (hset : bitAt p.words (f - p.start) = true)
    (hps : bm'.pools = bm.pools.set i (p.give (f - p.start)))
    (ht : bm'.total = bm.total) (hr : bm'.reserved = dec32 bm.reserved) :
    Inv bm' ∧ ranges bm'.pools = ranges bm.pools ∧ bm'.total = bm.total ∧
    bm'.reserved + 1 = bm.reserved ∧ ∀ g, isFree bm' g ↔ (isFree bm g ∨ g = f) := by
  obtain ⟨hp'inv, hp'fc, hp'free⟩ := pool_give (hI.pools p (List.mem_of_getElem? hp)) hin hset
  have hpos := hI.reserved_pos hp (by have := hp'inv.freeCount_le; rw [hp'fc] at this; exact this)
  rw [dec32_eq _ hpos] at hr
  refine ⟨hI.set hp hps hp'inv rfl rfl ht (by omega), by rw [hps]; exact ranges_set hp rfl rfl, ht,
    by omega, fun g => ?_⟩
  rw [isFree_set hI.sorted hp hps rfl rfl]
  split
  · next hg => rw [hp'free, isFree_iff_freeAt hI.sorted hp hg]
  · next hg => exact ⟨Or.inl, fun h => h.resolve_right fun e => hg (e ▸ hin)⟩

theorem alloc_spec {bm : Bitmap} (hI : Inv bm) :
    (alloc bm = (bm, none) ∧ ∀ g, ¬ isFree bm g) ∨
    ∃ bm' f, alloc bm = (bm', some f) ∧ isFree bm f ∧ Inv bm' ∧ ranges bm'.pools = ranges bm.pools ∧
      bm'.total = bm.total ∧ bm'.reserved = bm.reserved + 1 ∧ ∀ g, isFree bm' g ↔ (isFree bm g ∧ g ≠ f) := by
  unfold alloc
  cases hs : allocScan bm.pools 0 with
  | none =>
    exact .inl ⟨rfl, fun g ⟨p, hp, hpf⟩ => scan_skips_pool (hI.pools p hp) (allocScan_none hs p hp) hpf⟩
  | some r =>
    obtain ⟨i, blk, off⟩ := r
    obtain ⟨_, p, rfl, hp, hfc, hscan⟩ := allocScan_some hs
    simp only [Nat.zero_add, hp]
    have hpm := List.mem_of_getElem? hp
    obtain ⟨hoff, hf⟩ := scan_in_pool (hI.pools p hpm) hfc hscan
    exact .inr ⟨_, _, rfl, ⟨p, hpm, hf⟩, hI.reserve hp hf
      (by rw [Nat.add_sub_cancel_left, ← take_eq p blk off hoff]) rfl rfl⟩

theorem alloc_of_isFree {bm : Bitmap} (hI : Inv bm) {f : Nat} (hf : isFree bm f) : ∃ bm' g, alloc bm = (bm', some g) := by
  rcases alloc_spec hI with ⟨_, h⟩ | ⟨bm', g, e, _⟩
  · exact absurd hf (h f)
  · exact ⟨bm', g, e⟩

theorem free_managed {bm : Bitmap} (hI : Inv bm) {f i : Nat} (h : poolForFrame bm.pools f = some i) :
    ∃ p, bm.pools[i]? = some p ∧ (p.start ≤ f ∧ f ≤ p.end_) ∧
      free bm f = if bitAt p.words (f - p.start) = false then (bm, .doubleFree) else
        ({ bm with pools := bm.pools.set i (p.give (f - p.start)), reserved := dec32 bm.reserved }, .ok) := by
  obtain ⟨p, hp, hin⟩ := poolForFrame_some h
  have hlen := (hI.pools p (List.mem_of_getElem? hp)).word_lt (k := f - p.start) (by rw [Pool.n_eq]; omega)
  refine ⟨p, hp, hin, ?_⟩
  simp only [free, h, hp, List.getElem?_eq_getElem hlen, bitAt_eq_false_iff _ _ hlen]

theorem free_spec {bm : Bitmap} (hI : Inv bm) (f : Nat) :
    (¬ managed (ranges bm.pools) f ∧ free bm f = (bm, .notManaged)) ∨
    (isFree bm f ∧ free bm f = (bm, .doubleFree)) ∨
    (managed (ranges bm.pools) f ∧ ¬ isFree bm f ∧ ∃ bm', free bm f = (bm', .ok) ∧ Inv bm' ∧
      ranges bm'.pools = ranges bm.pools ∧ bm'.total = bm.total ∧ bm'.reserved + 1 = bm.reserved ∧
      ∀ g, isFree bm' g ↔ (isFree bm g ∨ g = f)) := by
  cases hpf : poolForFrame bm.pools f with
  | none => exact Or.inl ⟨poolForFrame_eq_none_iff.1 hpf, by simp only [free, hpf]⟩
  | some i =>
    obtain ⟨p, hp, hin, hfree⟩ := free_managed hI hpf
    have hfr := isFree_iff_freeAt hI.sorted hp hin
    rw [freeAt_iff] at hfr
    by_cases hb : bitAt p.words (f - p.start) = false
    · rw [if_pos hb] at hfree
      exact Or.inr (Or.inl ⟨hfr.2 ⟨hin, hb⟩, hfree⟩)
    · rw [if_neg hb] at hfree
      exact Or.inr (Or.inr ⟨managed_ranges.2 ⟨p, List.mem_of_getElem? hp, hin⟩, fun h => hb (hfr.1 h).2,
        _, hfree, hI.release hp hin (by simpa using hb) rfl rfl rfl⟩)

end Firefly.Pmm
