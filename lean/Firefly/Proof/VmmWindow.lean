import Firefly.Proof.VmmBits
/-! Paths of page tables in physical memory, the hardware walk `mmu` along them, and the recursive window: the entry
addresses computed by `walk` resolve, under `mmu`, to the page-table entries of the path of `va`. Last, the hardware walk
in two memories that agree on the word it reads at a level (`mmuWalk_cons_congr`, `mmuWalk_last_congr`): the steps of its frame
rule, `C04.other_pages_unchanged`. -/

namespace Firefly.Vmm
open Firefly.Gen.C04

@[simp] theorem rd_wr (m : Mem) (f i : Nat) (v : W) (f' i' : Nat) :
    (m.wr f i v).rd f' i' = if f = f' ∧ i = i' then v else m.rd f' i' := by
  simp [Mem.rd, Mem.wr, rdLog]

/-- the same, asking whether the word read is the word written -/
theorem rd_wr' (m : Mem) (f i : Nat) (v : W) (f' i' : Nat) :
    (m.wr f i v).rd f' i' = if f' = f ∧ i' = i then v else m.rd f' i' := by
  rw [rd_wr]
  by_cases h : f = f' ∧ i = i'
  · rw [if_pos h, if_pos ⟨h.1.symm, h.2.symm⟩]
  · rw [if_neg h, if_neg (fun h' => h ⟨h'.1.symm, h'.2.symm⟩)]

@[simp] theorem rd_setFrame (m : Mem) (f : Nat) (g : Nat → W) (f' i' : Nat) :
    (m.setFrame f g).rd f' i' = if f = f' then g i' else m.rd f' i' := by
  simp [Mem.rd, Mem.setFrame, rdLog]

@[simp] theorem backed_wr (m : Mem) (f i : Nat) (v : W) (f' : Nat) : (m.wr f i v).backed f' = m.backed f' := rfl
@[simp] theorem backed_setFrame (m : Mem) (f : Nat) (g : Nat → W) (f' : Nat) :
    (m.setFrame f g).backed f' = m.backed f' := rfl

/-- frame number of a physical address -/
def frameN (pa : W) : Nat := (pa >>> 12).toNat

structure Link (m : Mem) (T : W) (i : Nat) (T' : W) : Prop where
  backed : m.backed (frameN T) = true
  present : m.rd (frameN T) i &&& 1#64 ≠ 0#64
  nohuge : m.rd (frameN T) i &&& 128#64 = 0#64
  next : m.rd (frameN T) i &&& hwMask = T'

/-- a link is a fact about one word -/
theorem Link.congr {m m' : Mem} {T T' : W} {i : Nat} (h : Link m T i T') (hbk : m'.backed (frameN T) = m.backed (frameN T))
    (hrd : m'.rd (frameN T) i = m.rd (frameN T) i) : Link m' T i T' :=
  ⟨hbk ▸ h.backed, hrd ▸ h.present, hrd ▸ h.nohuge, hrd ▸ h.next⟩

theorem Link.wr {m : Mem} {T T' : W} {i : Nat} (h : Link m T i T') (F j : Nat) (v : W)
    (hne : ¬(F = frameN T ∧ j = i)) : Link (m.wr F j v) T i T' :=
  h.congr rfl (by rw [rd_wr, if_neg hne])

theorem Link.setFrame {m : Mem} {T T' : W} {i : Nat} (h : Link m T i T') (F : Nat) (g : Nat → W)
    (hne : F ≠ frameN T) : Link (m.setFrame F g) T i T' :=
  h.congr rfl (by rw [rd_setFrame, if_neg hne])

theorem hwMask_low (x : W) : (x &&& hwMask).toNat % 4096 = 0 := by rw [and_hwMask_toNat]; omega

theorem Link.low {m : Mem} {T T' : W} {i : Nat} (h : Link m T i T') : T'.toNat % 4096 = 0 := h.next ▸ hwMask_low _

/-- The recursive window of the active root shows the address space rooted at `R`: the active
root's last entry points to `R` and `R`'s last entry points to `R` itself.  For the active address
space `R` is the active root; inside `PageDirectoryTable.Map` on an inactive table it is that table. -/
structure Window (st : St) (R : W) : Prop where
  top : Link st.mem (st.cr3 &&& hwMask) 511 R
  self : Link st.mem R 511 R

/-- `T` is the level-`L` table on the path of `va` in the address space rooted at `R` -/
def Chain (m : Mem) (R : W) (va : W) : Nat → W → Prop
  | 0, T => T = R
  | L + 1, T => ∃ T', Chain m R va L T' ∧ Link m T' (kidx va L) T

theorem Chain.low {st : St} {R va : W} (hw : Window st R) : ∀ {L T}, Chain st.mem R va L T → T.toNat % 4096 = 0
  | 0, _, h => h ▸ hw.self.low
  | _ + 1, _, ⟨_, _, l⟩ => l.low

theorem Chain.map {m m' : Mem} {R va : W} :
    ∀ (L : Nat) (T : W), Chain m R va L T →
      (∀ k T' T'', k < L → Chain m R va k T' → Link m T' (kidx va k) T'' → Link m' T' (kidx va k) T'') →
      Chain m' R va L T := by
  intro L
  induction L with
  | zero => intro T h _; exact h
  | succ L ih =>
    intro T h hl
    obtain ⟨T', hc, l⟩ := h
    exact ⟨T', ih T' hc (fun k a b hk => hl k a b (by omega)), hl L T' T (by omega) hc l⟩

theorem Chain.unique {m : Mem} {R va : W} : ∀ (L : Nat) (T T' : W), Chain m R va L T → Chain m R va L T' → T = T' := by
  intro L
  induction L with
  | zero => intro T T' h h'; simp only [Chain] at h h'; rw [h, h']
  | succ L ih =>
    intro T T' h h'
    obtain ⟨A, ca, la⟩ := h
    obtain ⟨B, cb, lb⟩ := h'
    have := ih A B ca cb; subst this
    rw [← la.next, ← lb.next]

theorem Chain.idx_congr {m : Mem} {R va va' : W} :
    ∀ (L : Nat) (T : W), (∀ k, k < L → kidx va k = kidx va' k) → Chain m R va L T → Chain m R va' L T := by
  intro L
  induction L with
  | zero => intro T _ h; exact h
  | succ L ih =>
    intro T hk h
    obtain ⟨T0, hc, l⟩ := h
    refine ⟨T0, ih T0 (fun k hk' => hk k (by omega)) hc, ?_⟩
    rw [← hk L (by omega)]; exact l

/-- **Induction down the levels** (`induction hL using levels_down`): what holds at the leaf level and passes from
level `L + 1` to level `L` holds at every level.  The walks run from the root down, so their proofs go from the leaf up. -/
theorem levels_down {motive : (L : Nat) → L ≤ 3 → Prop} (leaf : motive 3 (Nat.le_refl 3))
    (step : ∀ L (h : L < 3), motive (L + 1) h → motive L (Nat.le_of_lt h)) {L : Nat} (hL : L ≤ 3) : motive L hL := by
  have m2 := step 2 (by decide) leaf
  have m1 := step 1 (by decide) m2
  have m0 := step 0 (by decide) m1
  match L, hL with
  | 0, _ => exact m0
  | 1, _ => exact m1
  | 2, _ => exact m2
  | 3, _ => exact leaf

/-- the same along the path of `va` in one memory: at a table of the path, the step may assume the claim for whatever
that table's entry for `va` links -/
theorem Chain.down {m : Mem} {R va : W} {P : Nat → W → Prop} (leaf : ∀ T, Chain m R va 3 T → P 3 T)
    (step : ∀ L T, L < 3 → Chain m R va L T → (∀ T', Link m T (kidx va L) T' → P (L + 1) T') → P L T)
    {L : Nat} {T : W} (hL : L ≤ 3) (hc : Chain m R va L T) : P L T := by
  induction hL using levels_down generalizing T with
  | leaf => exact leaf T hc
  | step L hL ih => exact step L T hL hc fun T' l => ih ⟨T, hc, l⟩

/-- the three upper levels of `va`'s path exist: `R -i0-> T1 -i1-> T2 -i2-> T3`, `T3` is RAM -/
structure Path (m : Mem) (R va T1 T2 T3 : W) : Prop where
  l0 : Link m R (kidx va 0) T1
  l1 : Link m T1 (kidx va 1) T2
  l2 : Link m T2 (kidx va 2) T3
  b3 : m.backed (frameN T3) = true

theorem Path.chain3 {m : Mem} {R va T1 T2 T3 : W} (p : Path m R va T1 T2 T3) : Chain m R va 3 T3 :=
  ⟨T2, ⟨T1, ⟨R, rfl, p.l0⟩, p.l1⟩, p.l2⟩

theorem Path.wr {m : Mem} {R va T1 T2 T3 : W} (p : Path m R va T1 T2 T3) {F : Nat} (j : Nat) (v : W)
    (h : F ≠ frameN R ∧ F ≠ frameN T1 ∧ F ≠ frameN T2) : Path (m.wr F j v) R va T1 T2 T3 :=
  ⟨p.l0.wr _ _ _ (fun hh => h.1 hh.1), p.l1.wr _ _ _ (fun hh => h.2.1 hh.1), p.l2.wr _ _ _ (fun hh => h.2.2 hh.1), p.b3⟩

theorem Path.setFrame {m : Mem} {R va T1 T2 T3 : W} (p : Path m R va T1 T2 T3) {F : Nat} (g : Nat → W)
    (h : F ≠ frameN R ∧ F ≠ frameN T1 ∧ F ≠ frameN T2) : Path (m.setFrame F g) R va T1 T2 T3 :=
  ⟨p.l0.setFrame _ _ h.1, p.l1.setFrame _ _ h.2.1, p.l2.setFrame _ _ h.2.2, p.b3⟩

/-- one level of the hardware walk, the frame of the table written `frameN T` -/
theorem mmuWalk_cons (m : Mem) (va : W) (s : Nat) (rest : List Nat) (T : W) :
    mmuWalk m va (s :: rest) T =
      let e := m.rd (frameN T) (hwIdx va s)
      if !m.backed (frameN T) then none else
      if (e &&& 1#64) == 0#64 then none else
      match rest with
      | [] => some ((e &&& hwMask) + (va &&& 0xfff#64))
      | _ :: _ =>
        if (s == 30 || s == 21) && (e &&& 128#64) != 0#64 then
          some (((e &&& hwMask) &&& ~~~(((1 : W) <<< s) - 1)) + (va &&& (((1 : W) <<< s) - 1)))
        else mmuWalk m va rest (e &&& hwMask) := by
  rw [mmuWalk]; rfl

theorem mmuWalk_link {m : Mem} {va : W} {s s' : Nat} {rest : List Nat} {T T' : W}
    (h : Link m T (hwIdx va s) T') :
    mmuWalk m va (s :: s' :: rest) T = mmuWalk m va (s' :: rest) T' := by
  simp [mmuWalk_cons m va s, h.backed, h.present, h.nohuge, h.next]

theorem mmuWalk_final {m : Mem} {va : W} {s : Nat} {T : W}
    (hb : m.backed (frameN T) = true) (hp : m.rd (frameN T) (hwIdx va s) &&& 1#64 ≠ 0#64) :
    mmuWalk m va [s] T = some ((m.rd (frameN T) (hwIdx va s) &&& hwMask) + (va &&& 0xfff#64)) := by
  simp [mmuWalk_cons, hb, hp]

theorem mmuWalk_absent {m : Mem} {va : W} {s : Nat} {rest : List Nat} {T : W}
    (hp : m.rd (frameN T) (hwIdx va s) &&& 1#64 = 0#64) :
    mmuWalk m va (s :: rest) T = none := by
  simp [mmuWalk_cons, hp]

/-- remaining levels from level `L` -/
def lv (L : Nat) : List Nat := List.range' L (4 - L)

theorem lv_cons (L : Nat) (h : L ≤ 3) : lv L = L :: lv (L + 1) := by
  have : L = 0 ∨ L = 1 ∨ L = 2 ∨ L = 3 := by omega
  rcases this with h | h | h | h <;> subst h <;> rfl

theorem lv_four : lv 4 = [] := rfl

/-- the shifts the hardware uses from level `L` on; `mmu` walks `sh 0` -/
def sh (L : Nat) : List Nat := (lv L).map (39 - 9 * ·)

theorem sh_cons {L : Nat} (h : L ≤ 3) : sh L = (39 - 9 * L) :: sh (L + 1) := by rw [sh, lv_cons L h]; rfl

theorem mmuWalk_chain {m : Mem} {R va : W} : ∀ (L : Nat) (T : W), L ≤ 3 → Chain m R va L T →
    mmuWalk m va [39, 30, 21, 12] R = mmuWalk m va (sh L) T := by
  intro L
  induction L with
  | zero => intro T _ h; cases h; rfl
  | succ L ih =>
    intro T hL ⟨T0, hc, l⟩
    rw [ih T0 (by omega) hc, sh_cons (by omega), sh_cons hL, mmuWalk_link (by rw [hwIdx_kidx]; exact l)]

theorem mmuWalk_absent_at {m : Mem} {R va : W} {L : Nat} {T : W} (hL : L ≤ 3) (hc : Chain m R va L T)
    (hp : m.rd (frameN T) (kidx va L) &&& 1#64 = 0#64) : mmuWalk m va [39, 30, 21, 12] R = none := by
  rw [mmuWalk_chain L T hL hc, sh_cons hL]; exact mmuWalk_absent (by rw [hwIdx_kidx]; exact hp)

theorem mmuWalk_leaf_at {m : Mem} {R va T : W} (hc : Chain m R va 3 T) (hb : m.backed (frameN T) = true)
    (hp : m.rd (frameN T) (kidx va 3) &&& 1#64 ≠ 0#64) :
    mmuWalk m va [39, 30, 21, 12] R = some ((m.rd (frameN T) (kidx va 3) &&& hwMask) + (va &&& 0xfff#64)) := by
  have h : hwIdx va 12 = kidx va 3 := hwIdx_kidx va 3
  rw [mmuWalk_chain 3 T (Nat.le_refl 3) hc]
  rw [← h] at hp ⊢; exact mmuWalk_final hb hp

theorem mmuWalk_links {m : Mem} {a T0 T1 T2 T3 T4 : W} {i0 i1 i2 i3 : Nat} (h39 : hwIdx a 39 = i0) (h30 : hwIdx a 30 = i1)
    (h21 : hwIdx a 21 = i2) (h12 : hwIdx a 12 = i3) (l0 : Link m T0 i0 T1) (l1 : Link m T1 i1 T2)
    (l2 : Link m T2 i2 T3) (l3 : Link m T3 i3 T4) :
    mmuWalk m a [39, 30, 21, 12] T0 = some (T4 + (a &&& 0xfff#64)) := by
  subst h39 h30 h21 h12
  rw [mmuWalk_link l0, mmuWalk_link l1, mmuWalk_link l2, mmuWalk_final l3.backed l3.present, l3.next]

theorem physLoc_table {st : St} {T off : W} {i : Nat} (hT : T.toNat % 4096 = 0) (hb : st.mem.backed (frameN T) = true)
    (hoff : off.toNat = 8 * i) (hi : i < 512) : physLoc st (T + off) = some (frameN T, i) := by
  have ho : off.toNat < 4096 := by omega
  have hfr : ((T + off) >>> 12).toNat = frameN T := by rw [ushr12_add_low hT ho]; rfl
  have hsum := toNat_add_low T off hT ho
  rw [hoff] at hsum
  obtain ⟨k2, k3⟩ : (T.toNat + 8 * i) % 8 = 0 ∧ (T.toNat + 8 * i) % 4096 / 8 = i := by omega
  have hal : (T + off) &&& 7#64 = 0#64 := BitVec.eq_of_toNat_eq (by rw [and_7, hsum]; exact k2)
  have hidx : (((T + off) &&& 0xfff#64) >>> 3).toNat = i := by
    rw [Firefly.Bits.toNat_shr, and_fff, hsum]; exact k3
  unfold physLoc
  rw [hfr, hal, hidx]
  simp [hb]

/-- An address in the window at level `L` of `va` resolves, through the hardware walk on the active
root, into the level-`L` table of `va`'s path: the walk passes the active root's last entry, stays in
`R` for the remaining 511 fields and then follows `va`'s links. -/
theorem mmu_window {st : St} {R va a T : W} {L : Nat} (hw : Window st R) (hL : L ≤ 3) (hc : Chain st.mem R va L T)
    (ha : InWin a va L) : mmu st.mem st.cr3 a = some (T + (a &&& 0xfff#64)) := by
  have h12 := ha 0 (by omega); have h21 := ha 1 (by omega); have h30 := ha 2 (by omega); have h39 := ha 3 (by omega)
  have h : L = 0 ∨ L = 1 ∨ L = 2 ∨ L = 3 := by omega
  rcases h with rfl | rfl | rfl | rfl
  · cases hc
    exact mmuWalk_links h39 h30 h21 h12 hw.top hw.self hw.self hw.self
  · obtain ⟨_, rfl, l0⟩ := hc
    exact mmuWalk_links h39 h30 h21 h12 hw.top hw.self hw.self l0
  · obtain ⟨_, ⟨_, rfl, l0⟩, l1⟩ := hc
    exact mmuWalk_links h39 h30 h21 h12 hw.top hw.self l0 l1
  · obtain ⟨_, ⟨_, ⟨_, rfl, l0⟩, l1⟩, l2⟩ := hc
    exact mmuWalk_links h39 h30 h21 h12 hw.top l0 l1 l2

/-- **The recursive-mapping trick.** If `T` is the level-`L` table of `va`'s path (and is RAM), the
entry address `walk` computes for level `L` dereferences, through the hardware walk on the active
root, to word `kidx va L` of exactly that table. -/
theorem ptePtr_E {st : St} {R : W} (hw : Window st R) (va : W) :
    ∀ (L : Nat) (T : W), L ≤ 3 → Chain st.mem R va L T → st.mem.backed (frameN T) = true →
      ptePtr st (E va L) = some (frameN T, kidx va L) := by
  intro L T hL hc hb
  obtain ⟨hin, hoff⟩ := E_inWin va L hL
  unfold ptePtr
  rw [mmu_window hw hL hc hin]
  exact physLoc_table (Chain.low hw hc) hb (by rw [and_fff]; exact hoff) (kidx_lt va L)

/-- **Memset of a new table goes to the new table.** The address `entryAddr << 9` that `Map` hands to
`Memset` after linking a new level resolves, through the window, to the base of the table the
level-`L` entry now points to. -/
theorem mmu_next {st : St} {R : W} (hw : Window st R) (va : W) (L : Nat) (hL : L < 3) (Tn : W)
    (hc : Chain st.mem R va (L + 1) Tn) : mmu st.mem st.cr3 (E va L <<< 9) = some Tn := by
  obtain ⟨hin, hoff⟩ := E_inWin va L (by omega)
  have hz : (E va L <<< 9) &&& 0xfff#64 = 0#64 := BitVec.eq_of_toNat_eq (by rw [and_fff]; exact off_shl9 hoff)
  rw [mmu_window hw (by omega) hc (hin.shl9 (off_field hoff)), hz, BitVec.add_zero]


theorem mmuWalk_cons_congr {m m' : Mem} (hbk : ∀ f, m'.backed f = m.backed f) (va : W) (s s' : Nat)
    (rest : List Nat) (T : W)
    (hr : m'.rd (frameN T) (hwIdx va s) = m.rd (frameN T) (hwIdx va s))
    (hrec : m.backed (frameN T) = true → m.rd (frameN T) (hwIdx va s) &&& 1#64 ≠ 0#64 →
      ((s = 30 ∨ s = 21) → m.rd (frameN T) (hwIdx va s) &&& 128#64 = 0#64) →
      mmuWalk m' va (s' :: rest) (m.rd (frameN T) (hwIdx va s) &&& hwMask) =
        mmuWalk m va (s' :: rest) (m.rd (frameN T) (hwIdx va s) &&& hwMask)) :
    mmuWalk m' va (s :: s' :: rest) T = mmuWalk m va (s :: s' :: rest) T := by
  rw [mmuWalk_cons m' va s, mmuWalk_cons m va s, hbk, hr]
  by_cases hb : m.backed (frameN T) = true
  · by_cases hp : m.rd (frameN T) (hwIdx va s) &&& 1#64 = 0#64
    · simp [hp]
    · by_cases hh : (s = 30 ∨ s = 21) ∧ m.rd (frameN T) (hwIdx va s) &&& 128#64 ≠ 0#64
      · simp [hb, hp, hh]
      · have hrec' := hrec hb hp (fun hs => Decidable.byContradiction fun h128 => hh ⟨hs, h128⟩)
        have hh' : ¬((s = 30 ∨ s = 21) ∧ ¬m.rd (frameN T) (hwIdx va s) &&& 128#64 = 0#64) := hh
        simp [hb, hp, hh', hrec']
  · simp [hb]

theorem mmuWalk_last_congr {m m' : Mem} (hbk : ∀ f, m'.backed f = m.backed f) (va : W) (s : Nat) (T : W)
    (hr : m'.rd (frameN T) (hwIdx va s) = m.rd (frameN T) (hwIdx va s)) :
    mmuWalk m' va [s] T = mmuWalk m va [s] T := by
  rw [mmuWalk_cons m' va s, mmuWalk_cons m va s, hbk, hr]

theorem mmuWalk_leaf_written {m : Mem} {R va T1 T2 T3 : W} (p : Path m R va T1 T2 T3) (v : W)
    (hd : frameN T3 ≠ frameN R ∧ frameN T3 ≠ frameN T1 ∧ frameN T3 ≠ frameN T2) :
    mmuWalk (m.wr (frameN T3) (kidx va 3) v) va [39, 30, 21, 12] R =
      if v &&& 1#64 = 0#64 then none else some ((v &&& hwMask) + (va &&& 0xfff#64)) := by
  have p' := p.wr (kidx va 3) v hd
  have hrd : (m.wr (frameN T3) (kidx va 3) v).rd (frameN T3) (kidx va 3) = v := by simp
  by_cases hv : v &&& 1#64 = 0#64
  · rw [if_pos hv, mmuWalk_absent_at (by omega) p'.chain3 (by rw [hrd]; exact hv)]
  · rw [if_neg hv, mmuWalk_leaf_at p'.chain3 p'.b3 (by rw [hrd]; exact hv), hrd]

end Firefly.Vmm
