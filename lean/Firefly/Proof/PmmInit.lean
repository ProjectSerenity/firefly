import Firefly.Proof.PmmBoot
import Firefly.Proof.PmmAlloc
/-! Initialisation of the bitmap allocator establishes the invariant, with the free set equal to
available RAM minus the kernel image minus the early allocations. -/
namespace Firefly.Pmm
open Firefly.Gen.Pmm

theorem bitAt_replicate (k i : Nat) : bitAt (List.replicate k (0 : Word)) i = false := by
  unfold bitAt
  rw [List.getD_eq_getElem?_getD]
  by_cases h : i / 64 < k <;> simp [h]

theorem countClear_replicate (k n : Nat) : countClear (List.replicate k (0 : Word)) n = n := by
  unfold countClear
  rw [List.countP_eq_length.2 fun i _ => by rw [bitAt_replicate]; rfl, List.length_range]

theorem mkPool_inv (s e : Nat) (h : s ≤ e) (hs : e - s + 1 < 4294967296) : PoolInv (mkPool s e) :=
  ⟨h, hs, List.length_replicate, (Nat.mod_eq_of_lt hs).trans (countClear_replicate _ _).symm⟩

theorem mkPool_freeAt (s e f : Nat) : (mkPool s e).freeAt f = decide (s ≤ f ∧ f ≤ e) := by
  show (decide (s ≤ f ∧ f ≤ e) && !bitAt (List.replicate _ (0 : Word)) (f - s)) = _
  rw [bitAt_replicate, Bool.not_false, Bool.and_true]

theorem poolsOf_eq_filterMap (m : List Region) :
    poolsOf m = m.filterMap fun r =>
      if r.typ = memAvailable ∧ regionStart r < regionEndExcl r
      then some (mkPool (regionStart r) (regionEndExcl r - 1)) else none := by
  induction m with
  | nil => rfl
  | cons r rs ih =>
    rw [poolsOf, List.filterMap_cons, ← ih, regionFrames]
    by_cases ht : r.typ = memAvailable
    · by_cases hf : regionEndExcl r ≤ regionStart r
      · rw [if_neg (not_not_intro ht), if_pos hf, if_neg (fun h => absurd hf (Nat.not_le.2 h.2))]
      · rw [if_neg (not_not_intro ht), if_neg hf, if_pos ⟨ht, Nat.not_le.1 hf⟩]
    · rw [if_pos ht, if_neg (fun h => ht h.1)]

theorem mem_poolsOf_iff {m : List Region} {p : Pool} :
    p ∈ poolsOf m ↔ ∃ r ∈ m, r.typ = memAvailable ∧ regionStart r < regionEndExcl r ∧
      mkPool (regionStart r) (regionEndExcl r - 1) = p := by
  simp only [poolsOf_eq_filterMap, List.mem_filterMap, Option.ite_none_right_eq_some,
    Option.some.injEq, and_assoc]

theorem poolsOf_disjoint {m : List Region} (h : DisjointMap m) : RangesSorted (ranges (poolsOf m)) := by
  rw [RangesSorted, ranges, List.pairwise_map, poolsOf_eq_filterMap]
  refine List.Pairwise.filterMap _ (fun a c hac p hp q hq => ?_) h
  obtain ⟨⟨_, ha⟩, hp⟩ := Option.ite_none_right_eq_some.1 hp
  obtain ⟨⟨_, hc⟩, hq⟩ := Option.ite_none_right_eq_some.1 hq
  cases hp; cases hq
  show regionEndExcl a - 1 < regionStart c ∨ regionEndExcl c - 1 < regionStart a
  simp only [regionStart_eq, regionEndExcl_eq] at ha hc ⊢
  omega

theorem poolsOf_sorted {m : List Region} (h : SortedMap m) : RangesSorted (ranges (poolsOf m)) :=
  poolsOf_disjoint h.disjoint

theorem totalOf_eq_nSum_aux (ps : List Pool) (t : Nat) (h : t + nSum ps < 4294967296) :
    ps.foldl (fun t p => u32 (t + u32 (p.end_ - p.start + 1))) t = t + nSum ps := by
  induction ps generalizing t with
  | nil => rfl
  | cons p ps ih =>
    have hc : nSum (p :: ps) = (p.end_ - p.start + 1) + nSum ps := rfl
    rw [hc] at h ⊢
    have e : u32 (t + u32 (p.end_ - p.start + 1)) = t + (p.end_ - p.start + 1) := by
      unfold u32; omega
    rw [List.foldl_cons, e, ih _ (by omega)]
    omega

theorem totalOf_eq_nSum (ps : List Pool) (h : nSum ps < 4294967296) : totalOf ps = nSum ps :=
  (totalOf_eq_nSum_aux ps 0 (by omega)).trans (Nat.zero_add _)

/-- the state built by `setupPoolBitmaps` before anything is reserved -/
def bm0 (m : List Region) : Bitmap := { pools := poolsOf m, total := totalOf (poolsOf m), reserved := 0 }

theorem bm0_inv_any {m : List Region} (hs : DisjointMap m) (hsm : nSum (poolsOf m) < 4294967296) : Inv (bm0 m) := by
  have hpools : ∀ p ∈ poolsOf m, PoolInv p ∧ p.freeCount = p.n := by
    intro p hp
    obtain ⟨i, hi⟩ := List.mem_iff_getElem?.1 hp
    have hle := le_sum_map (·.n) (List.mem_of_getElem? hi)
    obtain ⟨r, _, _, hfr, rfl⟩ := mem_poolsOf_iff.1 hp
    have hinv := mkPool_inv (regionStart r) (regionEndExcl r - 1) (by omega) (Nat.lt_of_le_of_lt hle hsm)
    exact ⟨hinv, hinv.cnt.trans (countClear_replicate _ _)⟩
  have htot := totalOf_eq_nSum _ hsm
  refine ⟨fun p hp => (hpools p hp).1, poolsOf_disjoint hs, Nat.zero_le _, ?_, ?_, htot⟩
  · show totalOf (poolsOf m) < _
    rw [htot]; exact hsm
  show totalOf (poolsOf m) - 0 = freeSum (poolsOf m)
  rw [htot, freeSum, nSum, List.map_congr_left fun p hp => (hpools p hp).2]; rfl

theorem bm0_inv {m : List Region} (hs : SortedMap m) (hsm : nSum (poolsOf m) < 4294967296) : Inv (bm0 m) :=
  bm0_inv_any hs.disjoint hsm

theorem bm0_isFree (m : List Region) (g : Nat) :
    isFree (bm0 m) g ↔ managed (ranges (poolsOf m)) g := by
  refine ⟨managed_of_isFree, fun h => ?_⟩
  obtain ⟨p, hp, hin⟩ := managed_ranges.1 h
  refine ⟨p, hp, ?_⟩
  obtain ⟨r, _, _, _, rfl⟩ := mem_poolsOf_iff.1 hp
  rw [mkPool_freeAt]
  exact decide_eq_true hin

theorem managed_iff_available (m : List Region) (g : Nat) :
    managed (ranges (poolsOf m)) g ↔
      ∃ r ∈ m, r.typ = memAvailable ∧ r.addr ≤ g * 4096 ∧ (g + 1) * 4096 ≤ r.addr + r.len := by
  rw [managed_ranges]
  constructor
  · rintro ⟨p, hp, hin⟩
    obtain ⟨r, hr, ht, hfr, rfl⟩ := mem_poolsOf_iff.1 hp
    have h2 : g ≤ regionEndExcl r - 1 := hin.2
    exact ⟨r, hr, ht, (frame_in_region_iff r g).1 ⟨hin.1, by omega⟩⟩
  · rintro ⟨r, hr, ht, hb⟩
    obtain ⟨h1, h2⟩ := (frame_in_region_iff r g).2 hb
    refine ⟨_, mem_poolsOf_iff.2 ⟨r, hr, ht, by omega, rfl⟩, h1, ?_⟩
    show g ≤ regionEndExcl r - 1
    omega

/-- `bm'` is `bm` with exactly the frames satisfying `R` taken out of the free set -/
structure Takes (bm bm' : Bitmap) (R : Nat → Prop) : Prop where
  inv : Inv bm'
  ranges : ranges bm'.pools = ranges bm.pools
  free : ∀ g, isFree bm' g ↔ (isFree bm g ∧ ¬ R g)

theorem Takes.refl {bm : Bitmap} (hI : Inv bm) : Takes bm bm fun _ => False :=
  ⟨hI, rfl, fun _ => (and_iff_left not_false).symm⟩

theorem Takes.trans {a b c : Bitmap} {R Q : Nat → Prop} (h1 : Takes a b R) (h2 : Takes b c Q) :
    Takes a c fun g => R g ∨ Q g :=
  ⟨h2.inv, h2.ranges.trans h1.ranges, fun g => by rw [h2.free, h1.free, not_or, and_assoc]⟩

theorem Takes.congr {a b : Bitmap} {R Q : Nat → Prop} (h : Takes a b R) (e : ∀ g, isFree a g → (R g ↔ Q g)) :
    Takes a b Q :=
  ⟨h.inv, h.ranges, fun g => (h.free g).trans (and_congr_right fun hg => not_congr (e g hg))⟩

theorem markFrame_reserved {bm : Bitmap} (hI : Inv bm) {i : Nat} {p : Pool} (hp : bm.pools[i]? = some p)
    {f : Nat} (hf : p.freeAt f = true) :
    ∃ bm', markFrame bm (some i) f .reserved = some bm' ∧ Takes bm bm' (· = f) := by
  have hin := freeAt_range hf
  have hlen := (hI.pools p (List.mem_of_getElem? hp)).word_lt (k := f - p.start) (by rw [Pool.n_eq]; omega)
  obtain ⟨h1, h2, -, -, h3⟩ := hI.reserve (f := f) hp hf
    (bm' := ⟨bm.pools.set i (p.take ((f - p.start) / 64) (f - p.start)), bm.total, inc32 bm.reserved⟩)
    rfl rfl rfl
  refine ⟨_, ?_, h1, h2, h3⟩
  simp only [markFrame, hp, if_neg (Nat.not_lt.2 hin.2), if_neg (Nat.not_lt.2 hin.1),
    List.getElem?_eq_getElem hlen]

theorem markFrame_noop_none (bm : Bitmap) (f : Nat) (flag : Mark) : markFrame bm none f flag = some bm := rfl

theorem markFrame_noop_beyond {bm : Bitmap} {i : Nat} {p : Pool} (hp : bm.pools[i]? = some p)
    {f : Nat} (hf : f > p.end_) (flag : Mark) : markFrame bm (some i) f flag = some bm := by
  unfold markFrame; simp only [hp]; rw [if_pos hf]

theorem ranges_getElem {ps ps' : List Pool} (h : ranges ps' = ranges ps) {i : Nat} {p : Pool}
    (hp : ps[i]? = some p) : ∃ p', ps'[i]? = some p' ∧ p'.start = p.start ∧ p'.end_ = p.end_ := by
  unfold ranges at h
  have := congrArg (fun l => l[i]?) h
  simp only [List.getElem?_map, hp, Option.map_some] at this
  cases hp' : ps'[i]? with
  | none => simp [hp'] at this
  | some p' =>
    simp only [hp', Option.map_some, Option.some.injEq, Prod.mk.injEq] at this
    exact ⟨p', rfl, this.1, this.2⟩

/-- the loop of `reserveKernelFrames`: frames `ks … ks+n-1` against pool `i` -/
theorem kernel_loop {bm : Bitmap} (hI : Inv bm) {i : Nat} {p : Pool} (hp : bm.pools[i]? = some p)
    (ks n : Nat) (hks : p.start ≤ ks)
    (hfree : ∀ g, ks ≤ g → g < ks + n → g ≤ p.end_ → isFree bm g) :
    ∃ bm', (List.range n).foldlM (fun bm j => markFrame bm (some i) (ks + j) .reserved) bm = some bm' ∧
      Takes bm bm' fun g => ks ≤ g ∧ g < ks + n ∧ g ≤ p.end_ := by
  induction n with
  | zero => exact ⟨bm, rfl, (Takes.refl hI).congr fun g _ => ⟨False.elim, fun h => Nat.not_lt.2 h.1 h.2.1⟩⟩
  | succ n ih =>
    obtain ⟨bm1, h1, t1⟩ := ih (fun g a b c => hfree g a (Nat.lt_succ_of_lt b) c)
    rw [List.range_succ, List.foldlM_append, h1]
    simp only [List.foldlM_cons, List.foldlM_nil, Option.bind_eq_bind, Option.bind_some]
    obtain ⟨p1, hp1, hs1, he1⟩ := ranges_getElem t1.ranges hp
    by_cases hbeyond : ks + n > p.end_
    · rw [markFrame_noop_beyond hp1 (he1 ▸ hbeyond)]
      exact ⟨bm1, rfl, t1.congr fun g _ => by omega⟩
    · have hle := Nat.not_lt.1 hbeyond
      have hfr : isFree bm1 (ks + n) := (t1.free _).2
        ⟨hfree _ (Nat.le_add_right ks n) (Nat.lt_succ_self _) hle, fun h => Nat.lt_irrefl _ h.2.1⟩
      have hfa := (isFree_iff_freeAt t1.inv.sorted hp1
        ⟨hs1 ▸ Nat.le_trans hks (Nat.le_add_right ks n), he1 ▸ hle⟩).1 hfr
      obtain ⟨bm2, h2, t2⟩ := markFrame_reserved t1.inv hp1 hfa
      rw [h2]
      exact ⟨bm2, rfl, (t1.trans t2).congr fun g _ => by omega⟩

def markList (bm : Bitmap) (fs : List Nat) : Option Bitmap :=
  fs.foldlM (fun bm f => markFrame bm (poolForFrame bm.pools f) f .reserved) bm

theorem poolForFrame_of_isFree {bm : Bitmap} (hI : Inv bm) {g : Nat} (hf : isFree bm g) :
    ∃ i p, poolForFrame bm.pools g = some i ∧ bm.pools[i]? = some p ∧ p.freeAt g = true := by
  cases h : poolForFrame bm.pools g with
  | none => exact absurd (managed_of_isFree hf) (poolForFrame_eq_none_iff.1 h)
  | some i =>
    obtain ⟨p, hp, hin⟩ := poolForFrame_some h
    exact ⟨i, p, rfl, hp, (isFree_iff_freeAt hI.sorted hp hin).1 hf⟩

theorem markList_spec {bm : Bitmap} (hI : Inv bm) (fs : List Nat) (hnd : fs.Nodup)
    (hfree : ∀ f ∈ fs, isFree bm f) : ∃ bm', markList bm fs = some bm' ∧ Takes bm bm' (· ∈ fs) := by
  induction fs generalizing bm with
  | nil => exact ⟨bm, rfl, (Takes.refl hI).congr fun g _ => by simp⟩
  | cons f fs ih =>
    rw [List.nodup_cons] at hnd
    obtain ⟨i, p, hpf, hp, hfa⟩ := poolForFrame_of_isFree hI (hfree f (by simp))
    obtain ⟨bm1, h1, t1⟩ := markFrame_reserved hI hp hfa
    obtain ⟨bm2, h2, t2⟩ := ih t1.inv hnd.2 (fun g hg =>
      (t1.free g).2 ⟨hfree g (by simp [hg]), fun e => hnd.1 (e ▸ hg)⟩)
    refine ⟨bm2, ?_, (t1.trans t2).congr fun g _ => List.mem_cons.symm⟩
    unfold markList at *
    simp only [List.foldlM_cons, Option.bind_eq_bind, hpf, h1, Option.bind_some]
    exact h2

theorem early_loop (m : List Region) {α} (l : List α) (bm : Bitmap) (b0 b' : Boot) (fs : List Nat)
    (h : bootRun m l.length b0 = some (b', fs)) :
    l.foldlM (fun (st : Bitmap × Boot) _ =>
      let (b1, r) := bootAlloc m st.2
      let f := r.getD invalidFrame
      (markFrame st.1 (poolForFrame st.1.pools f) f .reserved).map (·, b1)) (bm, b0)
    = (markList bm fs).map (·, b') := by
  induction l generalizing bm b0 fs with
  | nil =>
    obtain ⟨rfl, rfl⟩ := bootRun_zero.1 h
    rfl
  | cons x xs ih =>
    obtain ⟨b1, f, fs2, ha, hr, rfl⟩ := bootRun_succ.1 h
    simp only [markList, List.foldlM_cons, ha, Option.getD_some, Option.bind_eq_bind]
    cases hm : markFrame bm (poolForFrame bm.pools f) f Mark.reserved with
    | none => rfl
    | some bm1 => exact ih bm1 b1 fs2 hr

theorem bootRun_append {m : List Region} {k n : Nat} {b b1 b2 : Boot} {fs1 fs2 : List Nat}
    (h1 : bootRun m k b = some (b1, fs1)) (h2 : bootRun m n b1 = some (b2, fs2)) :
    bootRun m (k + n) b = some (b2, fs1 ++ fs2) := by
  induction k generalizing b fs1 with
  | zero =>
    obtain ⟨rfl, rfl⟩ := bootRun_zero.1 h1
    rw [Nat.zero_add]; exact h2
  | succ k ih =>
    obtain ⟨b', f, gs, ha, hr, rfl⟩ := bootRun_succ.1 h1
    rw [Nat.add_right_comm]
    exact bootRun_succ.2 ⟨b', f, gs ++ fs2, ha, ih hr, rfl⟩

/-- the metadata-page loop of `setupPoolBitmaps` is a run of the boot allocator that completes, ends
in out-of-memory, or stops at the scripted `mapFn` failure -/
theorem metaPages_cases (m : List Region) (mf : Option Nat) (n idx : Nat) (b : Boot) :
    (∃ b1 fs, bootRun m n b = some (b1, fs) ∧ metaPages m mf n idx b = (b1, .ok)) ∨
    (metaPages m mf n idx b).2 = .oom ∨ ((metaPages m mf n idx b).2 = .mapErr ∧ mf ≠ none) := by
  induction n generalizing idx b with
  | zero => exact Or.inl ⟨b, [], rfl, rfl⟩
  | succ n ih =>
    rw [metaPages]
    cases ha : bootAlloc m b with
    | mk b' r =>
      cases r with
      | none => exact Or.inr (Or.inl rfl)
      | some f =>
        by_cases hm : mf = some idx
        · exact Or.inr (Or.inr ⟨by simp only [if_pos hm], hm ▸ nofun⟩)
        · simp only [if_neg hm]
          rcases ih (idx + 1) b' with ⟨b1, fs, h1, h2⟩ | h
          · exact Or.inl ⟨b1, f :: fs, bootRun_succ.2 ⟨b', f, fs, ha, h1, rfl⟩, h2⟩
          · exact Or.inr h

theorem foldlM_noop {bm : Bitmap} (n ks : Nat) :
    (List.range n).foldlM (fun bm j => markFrame bm none (ks + j) .reserved) bm = some bm := by
  induction n with
  | zero => rfl
  | succ n ih => rw [List.range_succ, List.foldlM_append, ih]; rfl

theorem kernel_frames_home {m : List Region} {ks ke : Nat} (hg : BootEnv m ks ke) {g : Nat}
    (hm : managed (ranges (poolsOf m)) g) (hk : ks ≤ g ∧ g ≤ ke) :
    ∃ q ∈ poolsOf m, q.start ≤ ks ∧ ks ≤ q.end_ ∧ q.start ≤ g ∧ g ≤ q.end_ := by
  obtain ⟨q, hq, hin⟩ := managed_ranges.1 hm
  obtain ⟨r, hr, ht, hfr, rfl⟩ := mem_poolsOf_iff.1 hq
  have hin1 : regionStart r ≤ g := hin.1
  have hin2 : g ≤ regionEndExcl r - 1 := hin.2
  have hc : Cand r := ⟨ht, by rw [regionStart_eq, regionEndExcl_eq] at hfr; show 4096 ≤ r.len; omega⟩
  have hgeo : regionEndUp r ≤ _ ∨ _ < regionStart r ∨ _ := hg.geo r hr hc
  have h2 := cand_endExcl_le_endUp r
  refine ⟨_, hq, ?_⟩
  show regionStart r ≤ _ ∧ _ ≤ regionEndExcl r - 1 ∧ regionStart r ≤ g ∧ g ≤ regionEndExcl r - 1
  omega

/-- `reserveKernelFrames` on the freshly built pools removes the managed kernel frames from the
free set; the frames are marked against the pool of the first kernel frame, which holds them all -/
theorem reserveKernel_spec {m : List Region} {b : Boot} (hg : BootEnv m b.kStart b.kEnd) (hI0 : Inv (bm0 m)) :
    ∃ bm1, reserveKernel (bm0 m) b = some bm1 ∧ Takes (bm0 m) bm1 fun g => b.kStart ≤ g ∧ g ≤ b.kEnd := by
  unfold reserveKernel
  cases hpf : poolForFrame (bm0 m).pools b.kStart with
  | none =>
    refine ⟨bm0 m, foldlM_noop _ _, (Takes.refl hI0).congr fun g hg' => ⟨False.elim, fun hk => ?_⟩⟩
    obtain ⟨q, hq, h1, h2, _⟩ := kernel_frames_home hg ((bm0_isFree m g).1 hg') hk
    exact poolForFrame_none hpf q hq ⟨h1, h2⟩
  | some i =>
    obtain ⟨p, hpi, hin⟩ := poolForFrame_some hpf
    obtain ⟨bm1, h1, t1⟩ := kernel_loop hI0 hpi b.kStart (b.kEnd + 1 - b.kStart) hin.1
      (fun g a _ c => (bm0_isFree m g).2 (managed_ranges.2 ⟨p, List.mem_of_getElem? hpi, by omega, c⟩))
    refine ⟨bm1, h1, t1.congr fun g hg' => ⟨fun h => ⟨h.1, by omega⟩, fun hk => ⟨hk.1, by omega, ?_⟩⟩⟩
    obtain ⟨q, hq, hq1, hq2, _, hq4⟩ := kernel_frames_home hg ((bm0_isFree m g).1 hg') hk
    cases pool_unique hI0.sorted hq (List.mem_of_getElem? hpi) ⟨hq1, hq2⟩ hin
    exact hq4

theorem bitmapInit_outcome_of_fail (m : List Region) (b : Boot) (mf : Option Nat)
    (h : (metaPages m mf (requiredBytes (poolsOf m) / pageSize) 0 b).2 ≠ .ok) :
    (bitmapInit m b true mf).outcome = (metaPages m mf (requiredBytes (poolsOf m) / pageSize) 0 b).2 := by
  unfold bitmapInit
  -- `h` is the side condition under which `simp` applies the catch-all equation of the `match`
  simp only [Bool.not_true, Bool.false_eq_true, if_false]

/-- **init_spec** — `BitmapAllocator.init` after `k` successful early allocations: it ends in `ok`
or out-of-memory (never the model's `panic`); on `ok` the early allocator has performed exactly
`k + metadata pages` successful allocations `fs`, the allocator state satisfies the invariant, and
its free set is exactly: frames of available regions, minus the kernel image, minus `fs`. -/
theorem init_spec (m : List Region) (ksA keA : Nat) (hs : SortedMap m) (hp : KernelPlaced m ksA keA)
    (hsm : nSum (poolsOf m) < 4294967296) (k : Nat) (b : Boot) (fs0 : List Nat)
    (hrun : bootRun m k (bootInit ksA keA) = some (b, fs0)) :
    ((bitmapInit m b true none).outcome = .ok ∨ (bitmapInit m b true none).outcome = .oom) ∧
    ((bitmapInit m b true none).outcome = .ok →
      ∃ fs, bootRun m (k + requiredBytes (poolsOf m) / pageSize) (bootInit ksA keA)
              = some ((bitmapInit m b true none).boot, fs) ∧
        Inv (bitmapInit m b true none).bm ∧
        ∀ g, isFree (bitmapInit m b true none).bm g ↔
          (managed (ranges (poolsOf m)) g ∧
           ¬ ((bootInit ksA keA).kStart ≤ g ∧ g ≤ (bootInit ksA keA).kEnd) ∧ g ∉ fs)) := by
  rcases metaPages_cases m none (requiredBytes (poolsOf m) / pageSize) 0 b with
    ⟨b1, fs1, hr1, hm1⟩ | hm1 | ⟨_, hm1⟩
  · unfold bitmapInit
    simp only [Bool.not_true, Bool.false_eq_true, if_false, hm1]
    have htot := bootRun_append hrun hr1
    obtain ⟨_, hac, hks, hke⟩ := bootRun_keeps htot
    obtain ⟨hasc, hall⟩ := bootRun_sound (bootEnv_of_placed hs hp) (bootOk_init _ _) htot
    obtain ⟨bm1, hk1, t1⟩ := reserveKernel_spec (hks ▸ hke ▸ bootEnv_of_placed hs hp) (bm0_inv hs hsm)
    rw [hks, hke] at t1
    unfold bm0 at hk1
    rw [hk1]
    simp only
    have hearly := early_loop m (List.range b1.allocCount) bm1 (bootInit ksA keA) b1 (fs0 ++ fs1)
      (by rw [List.length_range, hac]; exact (Nat.zero_add _).symm ▸ htot)
    have hfree : ∀ f ∈ fs0 ++ fs1, isFree bm1 f := fun f hf => by
      obtain ⟨_, hnk, r, hr, hc, hin⟩ := hall f hf
      exact (t1.free f).2 ⟨(bm0_isFree m f).2 ((managed_iff_available m f).2
        ⟨r, hr, hc.1, (frame_in_region_iff r f).1 hin⟩), hnk⟩
    obtain ⟨bm2, h2, t2⟩ := markList_spec t1.inv (fs0 ++ fs1) (hasc.imp Nat.ne_of_lt) hfree
    unfold reserveEarly
    rw [reset_eq hks hke, hearly, h2]
    simp only [Option.map_some]
    exact ⟨Or.inl trivial, fun _ => ⟨fs0 ++ fs1, htot, t2.inv, fun g => by
      rw [(t1.trans t2).free g, bm0_isFree, not_or]⟩⟩
  · have e := bitmapInit_outcome_of_fail m b none (by rw [hm1]; nofun)
    rw [hm1] at e
    exact ⟨Or.inr e, fun h => by rw [e] at h; cases h⟩
  · exact absurd rfl hm1

end Firefly.Pmm
