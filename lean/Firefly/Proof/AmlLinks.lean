import Firefly.Proof.AmlConstDecl
/-!
What the C11 fragment theorems need of the pool beyond `AmlTreeAbs`: the move of a childless sibling under its neighbour
(`move_under`: how `connectNamedObjArgs` hands a named object its next sibling as an argument), two pool primitives evaluated
on the child list `K`, and the pool a table is loaded into (`Base`) with what is kept of it (`Kept`).
-/
namespace Firefly.AmlParser.F
open Firefly.AmlLex Firefly.AmlTree Firefly.C13 Firefly.AmlParser Firefly.AmlParser.G Firefly.AmlParser.S
open Firefly.Gen.C12 Firefly.AmlProg

theorem not_anc_leaf {t : ObjectTree} (w : WF t) {k y : Nat} (hk : live t k = true) (hkk : K t k = []) (hy : y ≠ k) :
    ¬ anc t k y := fun h =>
  anc_induct w.size_le (I := (· ≠ k)) h hy (fun z hz _ _ e => by
    have : z ∈ K t k := (K_mem w hk z).2 ⟨hz, e⟩
    rw [hkk] at this; cases this) rfl

theorem move_under {t : ObjectTree} (w : WF t) {p x k : Nat} (h0 : live t p = true) (hx : live t x = true) (hk : live t k = true)
    (hpk : C13.P t k = p) (hpx : C13.P t x = p) (hkk : K t k = []) (hxk : x ≠ k) :
    ∃ t2 t3, t.detach p k = .ok t2 ∧ t2.append x k = .ok t3 ∧ WF t3 ∧ SamePay t t3 ∧ (∀ y, live t3 y = live t y) ∧
      (∀ y, C13.P t3 y = if y = k then x else C13.P t y) ∧
      (∀ q, live t q = true → K t3 q = if q = x then K t x ++ [k] else if q = p then (K t p).erase k else K t q) := by
  subst hpk
  obtain ⟨t2, t3, e2, e3, mo⟩ := move_spec w hx hk h0 (not_anc_leaf w hk hkk hxk)
  exact ⟨t2, t3, e2, e3, mo.wf2, mo.pay, mo.pay.live, mo.p, mo.kids fun e => w.P_ne_self hx (hpx.trans e.symm)⟩

/-- the visit of a reverse argument walk (`connectNamedObjArgs`, `connectNonNamedObjArgs`, `resolveMethodCalls`) is its loop from
the last child -/
theorem revVisit_eq {after : Nat → Nat → P PRes → P PRes} {V : Nat → Nat → P PRes} {L : Nat → Nat → Nat → P PRes}
    (hw : RevWalk after V L) {s : PState} (w : WF s.tree) {x : Nat} (hx : live s.tree x = true) (f : Nat) :
    V (f + 1) x s = L f x (lastOf (K s.tree x)) s := by
  rw [hw.v, visitBody, deref_run hx]
  exact congrArg (fun a => L f x a s) (la_eq_lastOf w hx)

theorem numArgs_kids {s : PState} (w : WF s.tree) {x : Nat} (hl : live s.tree x = true) :
    numArgs x s = .ok ((K s.tree x).length, s) := by
  unfold numArgs
  refine bind_ex' (show getTree s = .ok (s.tree, s) from rfl) ?_
  unfold liftR
  rw [w.numArgs_eq hl]
  rfl

theorem inv_eq : (INV : Nat) = invalidIndex := rfl

theorem nodup_live_le {t : ObjectTree} {l : List Nat} (hnd : l.Nodup) (hl : ∀ y ∈ l, live t y = true) :
    l.length ≤ t.pool.size :=
  nodup_lt_length hnd fun y hy => live_lt (hl y hy)

theorem sliceBytes_of_bytesAt {d : Bytes} {off : Nat} {l : List UInt8} (h : BytesAt d off l) : sliceBytes d off l.length = l := by
  unfold sliceBytes
  apply List.ext_getElem?
  intro i
  rw [Array.getElem?_toList, Array.getElem?_extract]
  by_cases hi : i < l.length
  · have hb := h i hi
    have hlt : off + i < d.size := (Array.getElem?_eq_some_iff.1 (hb.trans (List.getElem?_eq_getElem hi))).1
    rw [if_pos (by omega), hb]
  · rw [if_neg (by omega), List.getElem?_eq_none (by omega)]

/-- the pool the table is loaded into: the root is a parentless scope block whose children are childless scope blocks
(the default scopes) -/
structure Base (t0 : ObjectTree) : Prop where
  wf : WF t0
  root : live t0 0 = true
  rootp : C13.P t0 0 = INV
  rootop : (slot t0 0).opcode = opIntScopeBlock
  rootinf : (slot t0 0).infoIndex = pOpcodeTableIndex opIntScopeBlock true
  kid : ∀ y ∈ K t0 0, K t0 y = [] ∧ (slot t0 y).opcode = opIntScopeBlock ∧
    (slot t0 y).infoIndex = pOpcodeTableIndex opIntScopeBlock true

/-- what loading a table keeps of the pool `t0`: every old object with its payload and parent, and the child list of every
old object but the root -/
def Kept (t0 t : ObjectTree) : Prop :=
  ∀ y, live t0 y = true → live t y = true ∧ Pay (slot t y) = Pay (slot t0 y) ∧ C13.P t y = C13.P t0 y ∧
    (y ≠ 0 → K t y = K t0 y)

theorem Kept.refl (t : ObjectTree) : Kept t t := fun _ hy => ⟨hy, rfl, rfl, fun _ => rfl⟩

theorem Kept.root {t0 t : ObjectTree} (k : Kept t0 t) (b : Base t0) : live t 0 = true ∧ C13.P t 0 = INV ∧
    (slot t 0).opcode = opIntScopeBlock ∧ (slot t 0).infoIndex = pOpcodeTableIndex opIntScopeBlock true := by
  obtain ⟨a1, a2, a3, _⟩ := k 0 b.root
  exact ⟨a1, by rw [a3]; exact b.rootp, by rw [pay_opcode a2]; exact b.rootop, by rw [pay_info a2]; exact b.rootinf⟩

theorem Kept.kid {t0 t : ObjectTree} (k : Kept t0 t) (b : Base t0) {y : Nat} (hy : y ∈ K t0 0) :
    y ≠ 0 ∧ live t0 y = true ∧ live t y = true ∧ K t y = [] ∧ (slot t y).opcode = opIntScopeBlock ∧
      (slot t y).infoIndex = pOpcodeTableIndex opIntScopeBlock true ∧ (slot t y).name = (slot t0 y).name := by
  obtain ⟨hyl, hyp⟩ := (K_mem b.wf b.root y).1 hy
  have hy0 : y ≠ 0 := fun e => by
    rw [e, b.rootp] at hyp; exact live_ne_INV b.wf.size_le b.root hyp.symm
  obtain ⟨a1, a2, _, a4⟩ := k y hyl
  obtain ⟨k1, k2, k3⟩ := b.kid y hy
  exact ⟨hy0, hyl, a1, by rw [a4 hy0]; exact k1, by rw [pay_opcode a2]; exact k2, by rw [pay_info a2]; exact k3, pay_name a2⟩

end Firefly.AmlParser.F
