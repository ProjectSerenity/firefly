import Firefly.Proof.VmmPdt
import Firefly.Proof.VmmTemp
import Firefly.Proof.VmmHistory
/-! `setupPDTForKernel`: which mappings it requests, with which flags (`sectionCalls`, `visitSectionsG_eq`), and, at the level
of address spaces, the phases of the run (`pdtInit_full`, `pdtSeq_full`, `copyRes_full`) from which `C05.setup_refines` puts
together the address space those requests build in the new table. -/

namespace Firefly.Vmm
open Firefly.Gen.C04

/-- the mapping requests of one section: consecutive pages from its first page, consecutive frames
from `(addr - off) >> 12`, all with the section's flags -/
def sectionCalls (off : W) (s : Section) : List (W × W × W) :=
  (run (pageOf s.addr) ((s.addr - off) >>> pageShift) (sectionPageCount s)).map
    fun (p, f) => (p, f, sectionFlags s.flags)

/-- all mapping requests of the visitor: sections below the kernel offset contribute nothing -/
def allSectionCalls (off : W) (secs : List Section) : List (W × W × W) :=
  (secs.filter fun s => !(s.addr < off)).flatMap (sectionCalls off)

theorem pdtMapLoop_eq (mp : MapFn) (flags : W) (n : Nat) (page frame : W) (st : St) :
    pdtMapLoop mp flags n page frame st =
      seqCalls mp ((run page frame n).map fun (p, f) => (p, f, flags)) 0 st := by
  induction n generalizing page frame st with
  | zero => rfl
  | succ n ih =>
    simp only [pdtMapLoop, run, List.map_cons, seqCalls]
    rw [if_neg (by simp)]
    cases mp page frame flags st with
    | error e => rfl
    | ok r =>
      obtain ⟨err, st'⟩ := r
      by_cases h : err ≠ 0
      · simp only; rw [if_pos h, seqCalls_err _ _ _ _ h]
      · simp only; rw [if_neg h]
        have h0 : err = 0 := by omega
        subst h0
        exact ih _ _ _

theorem visitSectionsG_eq (mp : MapFn) (off : W) (secs : List Section) (err : Nat) (st : St) :
    visitSectionsG mp off secs err st = seqCalls mp (allSectionCalls off secs) err st := by
  induction secs generalizing err st with
  | nil => rfl
  | cons s rest ih =>
    simp only [visitSectionsG]
    by_cases hlt : s.addr < off
    · have : allSectionCalls off (s :: rest) = allSectionCalls off rest := by
        simp [allSectionCalls, hlt]
      rw [if_pos (by simp [hlt]), this]; exact ih err st
    · have hcalls : allSectionCalls off (s :: rest) = sectionCalls off s ++ allSectionCalls off rest := by
        simp [allSectionCalls, hlt]
      rw [hcalls, seqCalls_append]
      by_cases he : err ≠ 0
      · rw [if_pos (by simp [he]), seqCalls_err _ _ _ _ he]; exact ih err st
      · have h0 : err = 0 := by omega
        subst h0
        rw [if_neg (by simp [hlt])]
        rw [pdtMapLoop_eq]
        show _ = match seqCalls mp (sectionCalls off s) 0 st with | .error e => _ | .ok (err, st) => _
        unfold sectionCalls
        cases seqCalls mp ((run (pageOf s.addr) ((s.addr - off) >>> pageShift) (sectionPageCount s)).map
            fun (p, f) => (p, f, sectionFlags s.flags)) 0 st with
        | error e => rfl
        | ok r => obtain ⟨err', st'⟩ := r; exact ih err' st'

/-- the four values of `sectionFlags`, by the executable (4) and writable (1) bits of the ELF flags -/
theorem sectionFlags_cases (sf : W) :
    (sf &&& 4#64 = 0#64 ∧ sf &&& 1#64 = 0#64 ∧ sectionFlags sf = 0x8000000000000001#64) ∨
    (sf &&& 4#64 = 0#64 ∧ sf &&& 1#64 ≠ 0#64 ∧ sectionFlags sf = 0x8000000000000003#64) ∨
    (sf &&& 4#64 ≠ 0#64 ∧ sf &&& 1#64 = 0#64 ∧ sectionFlags sf = 1#64) ∨
    (sf &&& 4#64 ≠ 0#64 ∧ sf &&& 1#64 ≠ 0#64 ∧ sectionFlags sf = 3#64) := by
  have hx : w elfSectionExecutable = 4#64 := by decide
  have hw : w elfSectionWritable = 1#64 := by decide
  unfold sectionFlags
  rw [hx, hw]
  by_cases h4 : (sf &&& 4#64) = 0#64 <;> by_cases h1 : (sf &&& 1#64) = 0#64 <;> simp [h4, h1] <;> decide

def pdtMp (P : W) : MapFn := fun page frame flags st => pdtMap st P page frame flags

/-- **A run of `PageDirectoryTable.Map` calls on the inactive table** (stopping at the first error):
never faults; both address spaces stay well formed and disjoint; memory outside the inactive tree is
bit-identical; if every call succeeded the inactive address space is the old one with the requests
applied in order, otherwise the error is the allocator's or the guard's. -/
theorem pdtSeq_full {A P : W} {ownA : Own} (calls : List (W × W × W)) (st : St) (ownP : Own)
    (d : Dual st A P ownA ownP) (hu : ∀ c ∈ calls, UserVA (pageAddr c.1)) :
    ∃ code st' ownP', seqCalls (pdtMp P) calls 0 st = .ok (code, st') ∧ Dual st' A P ownA ownP' ∧
      Grow st st' ownP ownP' ∧
      (code = 0 → ∀ va', UserVA va' →
        hwEntry st'.mem (P <<< 12) va' = applyCalls (hwEntry st.mem (P <<< 12)) calls va') ∧
      (code ≠ 0 → code = eAlloc ∨ code = eRWZero) := by
  obtain ⟨c, st', own', k, h, d', gr, _, has, hk, herr⟩ :=
    seqCalls_refines (Dom := fun c => UserVA (pageAddr c.1)) (mp := pdtMp P)
      (pdtMap_refines (A := A) (P := P) (ownA := ownA)) calls st ownP d hu
  exact ⟨c, st', own', h, d', gr, fun hc va' hu' => by rw [has va' hu', hk hc, List.take_length], herr⟩

/-- what a successful `PageDirectoryTable.Init` of a fresh frame `P` establishes -/
structure InitPost (st st' : St) (A P : W) (ownA ownA' : Own) : Prop where
  dual : Dual st' A P ownA' (ownRoot P)
  empty : ∀ va, UserVA va → hwEntry st'.mem (P <<< 12) va = none
  active : ∀ va, UserVA va → hwEntry st'.mem (A <<< 12) va =
    if SamePage va tempVA then none else hwEntry st.mem (A <<< 12) va
  ext : ∀ F x, ownA F = some x → ownA' F = some x
  sub : ∃ used, st.free = used ++ st'.free
  regs : SameRegs st st'

/-- **`PageDirectoryTable.Init` of a fresh frame** (RAM, < 2^40, not a table, not in the allocator, not
the active root): either the temporary mapping cannot get its tables (allocator error, returned), or
`P` becomes a well-formed, empty address space disjoint from the active one, whose entries are
unchanged except that the temporary page ends unmapped. -/
theorem pdtInit_full {st : St} {A P : W} {ownA : Own} (g : Good st (A <<< 12) ownA) (hcr3 : st.cr3 = A <<< 12)
    (hfa : FrameOK A) (hfo : FrameOK P) (hpb : st.mem.backed P.toNat = true) (hpn : ownA P.toNat = none)
    (hpf : ∀ f ∈ st.free, f.toNat ≠ P.toNat) (hpa : P.toNat ≠ A.toNat) (htf : st.tmpFail = false)
    (hz : (st.protect && P == st.zeroFrame) = false) :
    ∃ code st', pdtInit st P = .ok (code, st') ∧
      ((code = 0 ∧ ∃ ownA', InitPost st st' A P ownA ownA') ∨ (code = eAlloc ∧ st'.free = [] ∧ st'.cr3 = st.cr3)) := by
  have hcm : st.cr3 &&& hwMask = A <<< 12 := by rw [hcr3, shl12_and_hwMask hfa]
  have hfNP := frameN_shl12 hfo
  have hne : (frameAddr P == st.cr3) = false := by
    cases hb : frameAddr P == st.cr3 with
    | false => rfl
    | true =>
      have : P <<< 12 = A <<< 12 := by rw [← hcr3]; exact eq_of_beq hb
      exact absurd (congrArg BitVec.toNat (shl12_inj hfo hfa this)) hpa
  obtain ⟨code, st2, own2, hmt, post, out⟩ :=
    temp_cycle g hcm htf hz hfo hpb hpn hpf (by rw [hcm, frameN_shl12 hfa]; exact hpa)
  unfold pdtInit
  simp only [hne, Bool.false_eq_true, if_false, hmt]
  rcases out with ⟨rfl, hfe⟩ | ⟨rfl, hmmuT, hbk2, _, cyc⟩
  · exact ⟨eAlloc, st2, by simp [eAlloc], Or.inr ⟨rfl, hfe, post.regs.cr3⟩⟩
  simp only [ne_eq, not_true_eq_false, if_false, if_true, tempVA_page]
  -- clear `P` and store its last entry through the temporary page, unmap it
  rw [memsetPage_of_mmu hmmuT hfo hbk2]
  simp only
  let m3 : Mem := st2.mem.setFrame P.toNat (fun _ => 0)
  have hm3 : ∀ G j, G ≠ P.toNat → m3.rd G j = st2.mem.rd G j := fun G j hG => by
    simp only [m3, rd_setFrame, if_neg (Ne.symm hG)]
  obtain ⟨hpp, _⟩ := cyc m3 (fun _ => rfl) hm3
  rw [show ({ st2 with mem := st2.mem.setFrame P.toNat (fun _ => 0) } : St) = { st2 with mem := m3 } from rfl, hpp]
  obtain ⟨_, st5, hum, tc⟩ := cyc (m3.wr P.toNat 511 (setFrame (setFlags 0 (fPresent ||| fRW)) P)) (fun _ => rfl)
    (fun G j hG => by rw [rd_wr, if_neg (fun h => hG h.1.symm)]; exact hm3 G j hG)
  simp only [St.wrLoc, hum]
  refine ⟨0, st5, rfl, Or.inl ⟨rfl, own2, ?_⟩⟩
  have hrdP : ∀ j, st5.mem.rd P.toNat j =
      if j = 511 then setFrame (setFlags 0 (fPresent ||| fRW)) P else 0#64 := by
    intro j
    rw [tc.filled]
    simp only [m3, rd_wr, rd_setFrame]
    by_cases hj : j = 511
    · simp [hj]
    · have h1 : ¬ 511 = j := fun h => hj h.symm
      simp [hj, h1]
  have hzP : ∀ j, j ≠ 511 → st5.mem.rd P.toNat j = 0#64 := fun j hj => by rw [hrdP, if_neg hj]
  have h511 : st5.mem.rd P.toNat 511 = setFrame (setFlags 0 (fPresent ||| fRW)) P := by rw [hrdP, if_pos rfl]
  have hbk5 : st5.mem.backed P.toNat = true := by rw [tc.grow.regs.backed]; exact hpb
  have hpl : Link st5.mem (P <<< 12) 511 (P <<< 12) :=
    Link.of_setFrame (by rw [hfNP]; exact hbk5) hfo (by rw [hfNP]; exact h511) (by decide) (by decide)
  refine ⟨⟨tc.good, ⟨tc.grow.regs.cr3.trans hcr3, hfa, hfo, Ne.symm hpa, tc.good.win.self, hpl⟩, ?_, ?_, ?_⟩, ?_, tc.as,
    tc.grow.ext, tc.grow.sub, tc.grow.regs⟩
  · exact Owned.root_only hfo hbk5 hzP (by have := hpl.nohuge; rwa [hfNP] at this)
  · intro F hF
    simp only [ownRoot]
    rw [if_neg]; intro h; rw [h, tc.fresh] at hF; exact hF rfl
  · intro f hf
    simp only [ownRoot]
    rw [if_neg (hpf f (tc.grow.free_sub hf))]
  · exact fun va hu => hwEntry_root_only hfo hzP va hu

theorem pageAddr_pageOf_toNat (x : W) : (pageAddr (pageOf x)).toNat = x.toNat / 4096 * 4096 := by
  have := x.isLt
  rw [pageAddr, show pageShift = 12 from rfl, Firefly.Bits.toNat_shl, pageOf_toNat]
  omega

/-- an index field does not see the offset within the page -/
theorem samePage_pageOf (x : W) : SamePage (pageAddr (pageOf x)) x := by
  unfold SamePage
  apply (idxs_eq_iff _ _ 4).2
  intro k hk
  obtain ⟨t, ht⟩ : ∃ t, 39 - 9 * k = 12 + t := ⟨27 - 9 * k, by omega⟩
  unfold kidx
  rw [pageAddr_pageOf_toNat, ht, Nat.pow_add, ← Nat.div_div_eq_div_mul, ← Nat.div_div_eq_div_mul,
    Nat.mul_div_cancel _ (by decide)]

theorem userVA_pageOf {x : W} (h : UserVA x) : UserVA (pageAddr (pageOf x)) := by
  unfold UserVA at h ⊢
  rw [(samePage_pageOf x).idx 0 (by omega)]; exact h

/-- the page addresses the reservation loop visits -/
def resAddrs (a : W) : Nat → List W
  | 0 => []
  | n + 1 => a :: resAddrs (a + pageSizeW) n

/-- the mapping request the loop issues for address `a`, given the active address space `m, A` -/
def resCall (m : Mem) (A a : W) : W × W × W :=
  (pageOf a,
   (match hwEntry m (A <<< 12) a with
    | some e => ((e &&& hwMask) + (a &&& 0xfff#64)) >>> pageShift
    | none => 0),
   fPresent ||| fRW)

theorem resCall_congr {m m' : Mem} {A : W} {l : List W} (h : ∀ x ∈ l, hwEntry m' (A <<< 12) x = hwEntry m (A <<< 12) x) :
    l.map (resCall m' A) = l.map (resCall m A) :=
  List.map_congr_left fun x hx => by simp only [resCall, h x hx]

/-- **The reservation-copy loop of `setupPDTForKernel`**: for each reserved page, in order, `Translate`
in the active address space and `PageDirectoryTable.Map` of the translated frame, Present|RW, into
the new table; stops at the first error (`ErrInvalidMapping` if a reserved page is not mapped, the
allocator's error).  On success the new address space is the old one with those requests applied;
the active address space and all memory outside the new tree are untouched. -/
theorem copyRes_full {A P : W} {ownA : Own} (n : Nat) : ∀ (a : W) (st : St) (ownP : Own),
    Dual st A P ownA ownP → (∀ x ∈ resAddrs a n, UserVA x) →
    ∃ code st' ownP', copyReservations P n a st = .ok (code, st') ∧ Dual st' A P ownA ownP' ∧
      Grow st st' ownP ownP' ∧
      (code = 0 → (∀ x ∈ resAddrs a n, hwEntry st.mem (A <<< 12) x ≠ none) ∧
        ∀ va', UserVA va' → hwEntry st'.mem (P <<< 12) va' =
          applyCalls (hwEntry st.mem (P <<< 12)) ((resAddrs a n).map (resCall st.mem A)) va') ∧
      (code ≠ 0 → code = eInvalidMapping ∨ code = eAlloc ∨ code = eRWZero) := by
  induction n with
  | zero =>
    intro a st ownP d _
    exact ⟨0, st, ownP, rfl, d, Grow.refl _ _, fun _ => ⟨(fun x hx => by cases hx), fun _ _ => rfl⟩, fun h => absurd rfl h⟩
  | succ n ih =>
    intro a st ownP d hu
    have hua := hu a List.mem_cons_self
    simp only [copyReservations]
    rw [translate_abs d.ga a hua]
    cases he : hwEntry st.mem (A <<< 12) a with
    | none =>
      exact ⟨eInvalidMapping, st, ownP, by simp [eInvalidMapping], d, Grow.refl _ _,
        fun h => by simp [eInvalidMapping] at h, fun _ => Or.inl rfl⟩
    | some e =>
      simp only [ne_eq, not_true_eq_false, if_false]
      obtain ⟨c1, st1, own1, h1, d1, gr1, hc1, a1⟩ :=
        pdtMap_refines (pageOf a) (((e &&& hwMask) + (a &&& 0xfff#64)) >>> pageShift) (fPresent ||| fRW) (userVA_pageOf hua)
          st ownP d
      dsimp only at h1 a1
      rw [h1]
      simp only
      have hA1 := d.active_as d1 gr1
      by_cases hc : c1 = 0
      · subst hc
        simp only [not_true_eq_false, if_false]
        obtain ⟨c2, st2, own2, h2, d2, gr2, ok2, err2⟩ :=
          ih (a + pageSizeW) st1 own1 d1 (fun x hx => hu x (List.mem_cons_of_mem _ hx))
        refine ⟨c2, st2, own2, h2, d2, gr1.trans gr2, fun hc2 => ?_, err2⟩
        obtain ⟨hm2, has2⟩ := ok2 hc2
        refine ⟨?_, fun va' hu' => ?_⟩
        · intro x hx
          rcases List.mem_cons.1 hx with rfl | hx'
          · rw [he]; simp
          · rw [← hA1 x (hu x (List.mem_cons_of_mem _ hx'))]; exact hm2 x hx'
        · rw [has2 va' hu']
          simp only [resAddrs, List.map_cons, applyCalls]
          rw [resCall_congr (l := resAddrs (a + pageSizeW) n) fun x hx => hA1 x (hu x (List.mem_cons_of_mem _ hx))]
          apply applyCalls_congr_at
          rw [a1 va' hu']
          simp only [resCall, he]
      · exact ⟨c1, st1, own1, by simp [hc], d1, gr1, fun h => absurd h hc, fun _ => Or.inr (hc1.resolve_left hc)⟩

/- Stated as equations: letting the unifier find `(pdtActivate st f).mem =?= st.mem` makes it first
try `pdtActivate st f =?= st`, which evaluates `f <<< 12` down to unary multiplication. -/
theorem pdtActivate_mem (st : St) (f : W) : (pdtActivate st f).mem = st.mem := by unfold pdtActivate; rfl
theorem pdtActivate_kpdt (st : St) (f : W) : (pdtActivate st f).kpdt = st.kpdt := by unfold pdtActivate; rfl

/-- number of reserved pages the copy loop visits -/
def resCount (cursor : W) : Nat :=
  if cursor < tempVA then ((tempVA - cursor).toNat + (pageSize - 1)) / pageSize else 0

/-- all mapping requests of `setupPDTForKernel`, in order: the sections', then the reservations' -/
def setupCalls (m : Mem) (A off cursor : W) (secs : List Section) : List (W × W × W) :=
  allSectionCalls off secs ++ (resAddrs cursor (resCount cursor)).map (resCall m A)

theorem sectionFlags_present (sf : W) : sectionFlags sf &&& 1#64 ≠ 0#64 := by
  rcases sectionFlags_cases sf with ⟨_, _, h⟩ | ⟨_, _, h⟩ | ⟨_, _, h⟩ | ⟨_, _, h⟩ <;> rw [h] <;> decide

/-- a translated address, shifted back to a frame number, is the entry's frame field -/
theorem frame_roundtrip (e o : W) (ho : o.toNat < 4096) :
    FrameOK (((e &&& hwMask) + o) >>> pageShift) ∧ (((e &&& hwMask) + o) >>> pageShift) <<< 12 = e &&& hwMask := by
  have h : ((e &&& hwMask) + o) >>> pageShift = frameOf e := by
    rw [show pageShift = 12 from rfl, ushr12_add_low (hwMask_low e) ho, frameOf, physMask_eq]; rfl
  rw [h]
  refine ⟨?_, frameAddr_frameOf e⟩
  have := and_hwMask_toNat e
  simp only [FrameOK, frameOf, physMask_eq, pageShift, Firefly.Bits.toNat_shr, this]
  omega

theorem sectionCall_mem (off : W) (secs : List Section) (s : Section) (hs : s ∈ secs) (hoff : ¬ s.addr < off)
    (i : Nat) (hi : i < sectionPageCount s) :
    (pageOf s.addr + BitVec.ofNat 64 i, ((s.addr - off) >>> pageShift) + BitVec.ofNat 64 i, sectionFlags s.flags) ∈
      allSectionCalls off secs := by
  unfold allSectionCalls
  rw [List.mem_flatMap]
  refine ⟨s, List.mem_filter.2 ⟨hs, by simp [hoff]⟩, ?_⟩
  unfold sectionCalls
  rw [List.mem_map]
  refine ⟨(pageOf s.addr + BitVec.ofNat 64 i, ((s.addr - off) >>> pageShift) + BitVec.ofNat 64 i), ?_, rfl⟩
  have := run_get (pageOf s.addr) ((s.addr - off) >>> pageShift) (sectionPageCount s) i hi
  exact List.mem_of_getElem? this

end Firefly.Vmm
