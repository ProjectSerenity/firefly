import Firefly.Proof.Vt
import Firefly.Props.C19
/-!
C18 ∘ C19 for the framebuffer console, for every height: along the terminal's call log a `Scroll`
is always followed at once by the `Fill` of the vacated line (`VtProof.Paired`), so the pair
re-establishes "the framebuffer displays the abstract console" even when the text area is not a
whole number of glyph rows (where C19 claims the scrolled screen only for the lines that receive
another line's contents: `pix_refines_grid_scroll_moved`).
-/
namespace Firefly.VtPix
open Firefly.Vt Firefly.Term Firefly.VtCons Firefly.VtProof Firefly.ConsoleGrid Firefly.Spec.Console
open Firefly.C19

theorem scroll_fill (c : VesaFb.Cons) (f : VesaFb.Font) (fb : Array UInt8) (ok : PixOk c f fb) (hsp : SpaceBlank f)
    (k : Console) (wf : WF k) (sh : PixShows c f (view8 fb) k) (fg bg : UInt8) :
    ∃ fb1 fb2, pixApply c fb (.scroll Firefly.Gen.C17.scrollDirUp 1) = some fb1 ∧
      pixApply c fb1 (.fill 1 k.h k.w 1 fg bg) = some fb2 ∧ PixOk c f fb2 ∧
      PixShows c f (view8 fb2) ((k.scrollUp 1).fill 1 k.h k.w 1 fg bg) ∧
      WF ((k.scrollUp 1).fill 1 k.h k.w 1 fg bg) := by
  have fr : ConsoleOps.Frame c f fb.size :=
    .of ok.bpp ok.bytes ok.gw1 ok.gh1 ok.cols ok.rows ok.logo ok.cols1 ok.pitch ok.small ok.size
  have hrows := fr.rows_lt; have hcols := fr.cols_lt
  have hw := sh.1; have hh := sh.2.1
  have hk1 : 1 ≤ k.h := by rw [hh]; exact ok.rows1
  obtain ⟨fb1, r1, ok1, mv⟩ := pix_refines_grid_scroll_moved c f fb ok k sh 1 ⟨Nat.le_refl 1, hk1⟩
  obtain ⟨fb2, r2, sz2, v2⟩ := pix_fill_clip c f fb1 ok1 1 k.h k.w 1 fg.toNat bg.toNat (by omega) (by omega)
    (by omega) (by omega) (UInt8.toNat_lt _)
  have R := scrollFill_redraw wf hk1 fg bg
  refine ⟨fb1, fb2, by simp only [pixApply, scrollUp_is_zero]; exact r1, r2,
    { ok1 with size := by rw [sz2, ok1.size] }, ?_, R.wf⟩
  have shf : PixShows c f (pixFill c f (view8 fb1) 1 k.h k.w 1 bg.toNat) ((k.scrollUp 1).fill 1 k.h k.w 1 fg bg) := by
    refine ⟨R.w.trans hw, R.h.trans hh, ?_⟩
    intro r col hr hc
    rw [R.h] at hr; rw [R.w] at hc
    rw [R.cell r col hr hc]
    apply pixFill_cell c f hsp (view8 fb1) 1 k.h k.w 1 fg bg (by rw [← hw, ← hh]; omega) r col (by rw [← hh]; exact hr)
      (by rw [← hw]; exact hc)
    by_cases hlt : r + 1 < k.h
    · rw [if_neg (by omega), if_pos hlt]
      exact mv r col hlt hc
    · rw [if_pos (by omega), if_neg hlt]
  exact pixShows_congr c f fr.toGeo _ _ _ (fun i hi => v2 i (by rw [ok1.size]; exact hi)) shf

theorem paired_log (c : VesaFb.Cons) (f : VesaFb.Font) (fok : FontOk f) (hsp : SpaceBlank f) {log : List Call}
    (hp : Paired c.cols c.rows log) :
    ∀ (fb : Array UInt8) (k : Console), PixOk c f fb → WF k → PixShows c f (view8 fb) k →
      ∃ fb', pixRun c fb log = some fb' ∧ PixOk c f fb' ∧ PixShows c f (view8 fb') (k.applyLog log) ∧
        WF (k.applyLog log) := by
  induction hp with
  | nil => intro fb k ok wf sh; exact ⟨fb, rfl, ok, sh, wf⟩
  | @write ch fg bg x y rest hin _ ih =>
    intro fb k ok wf sh
    obtain ⟨fb1, r1, ok1, sh1, wf1⟩ := ih fb k ok wf sh
    obtain ⟨fb2, r2, ok2, sh2, wf2, _⟩ := pix_refines_grid c f fb1 ok1 fok hsp (k.applyLog rest) wf1 sh1
      (.write ch fg bg x y) (by simp only [CallOk]; rw [sh1.1, sh1.2.1]; exact hin)
      (fun dir n h => by cases h)
    refine ⟨fb2, ?_, ok2, sh2, wf2⟩
    simp only [pixRun, List.foldr_cons] at r1 ⊢
    rw [r1]; exact r2
  | @pair fg bg rest _ ih =>
    intro fb k ok wf sh
    obtain ⟨fb1, r1, ok1, sh1, wf1⟩ := ih fb k ok wf sh
    obtain ⟨fb2, fb3, r2, r3, ok3, sh3, wf3⟩ := scroll_fill c f fb1 ok1 hsp (k.applyLog rest) wf1 sh1 fg bg
    have e : k.applyLog (.fill 1 c.rows c.cols 1 fg bg :: .scroll Firefly.Gen.C17.scrollDirUp 1 :: rest) =
        ((k.applyLog rest).scrollUp 1).fill 1 (k.applyLog rest).h (k.applyLog rest).w 1 fg bg := by
      rw [sh1.1, sh1.2.1]; exact applyLog_pair ..
    rw [sh1.1, sh1.2.1] at r3
    refine ⟨fb3, ?_, ok3, by rw [e]; exact sh3, by rw [e]; exact wf3⟩
    simp only [pixRun, List.foldr_cons] at r1 ⊢
    rw [r1]
    simp only [Option.bind_some, r2, r3]

end Firefly.VtPix
