import Firefly.Proof.Kfmt
/-! The index-level model of the `Fprintf` loop (`fprintfIdx`: `blockStart`/`blockEnd`/`nextArgIndex`,
checked `format[i]` and `args[i]`) computes exactly what the list-traversal model `fprintf` computes. -/
namespace Firefly.Kfmt

/-- the literal block `format[lo:lo+n]`, one chunk per byte -/
def lits (fmt : List Byte) (lo n : Nat) : List (List Byte) := ((fmt.drop lo).take n).map fun c => [c]

theorem litLoop_spec (fmt : List Byte) : ∀ (n i : Nat), i + n ≤ fmt.length →
    litLoop fmt n i = .ok (lits fmt i n)
  | 0, i, _ => by simp [litLoop, lits]
  | n+1, i, h => by
    have hi : i < fmt.length := by omega
    rw [litLoop, getB_lt _ _ hi]
    simp only []
    rw [litLoop_spec fmt n (i+1) (by omega)]
    show Res.ok ([fmt[i]] :: lits fmt (i+1) n) = _
    simp only [lits]
    rw [List.drop_eq_getElem_cons hi, List.take_succ_cons, List.map_cons]

theorem lits_succ (fmt : List Byte) (lo n : Nat) (h : lo + n < fmt.length) :
    lits fmt lo (n + 1) = lits fmt lo n ++ [[fmt[lo + n]]] := by
  unfold lits
  rw [List.take_add_one]
  simp [List.getElem?_drop, h]

/-- what remains to be done after the `parseFmt` loop: continue in text mode behind `blockEnd` -/
def afterVerb (fmt : List Byte) (args : List Arg)
    (r : Nat × Nat × List Byte × List (List Byte)) : Res (List (List Byte)) :=
  (scan none (fmt.drop (r.1 + 1)) (args.drop r.2.1) r.2.2.1).bind fun rest => .ok (r.2.2.2 ++ rest)

/-- the `parseFmt` loop is the scanner in verb mode up to the `break`; it stops inside the format,
behind where it started -/
theorem verbLoop_spec (fmt : List Byte) (args : List Arg) :
    ∀ (fuel be : Nat) (pad : Int) (na : Nat) (buf : List Byte),
    be ≤ fmt.length → fmt.length + 1 ≤ fuel + be →
    scan (some pad) (fmt.drop be) (args.drop na) buf
      = (verbLoop fmt args fuel be pad na buf).bind (afterVerb fmt args) ∧
    ∀ r, verbLoop fmt args fuel be pad na buf = .ok r → be ≤ r.1 ∧ r.1 ≤ fmt.length
  | 0, be, pad, na, buf, h1, h2 => by omega
  | fuel+1, be, pad, na, buf, h1, h2 => by
    have stop : ∀ (x : Nat × List Byte × List (List Byte)) r, Res.ok (be, x) = .ok r → be ≤ r.1 ∧ r.1 ≤ fmt.length := by
      intro _ r h; cases h; exact ⟨Nat.le_refl _, h1⟩
    by_cases hlt : be < fmt.length
    · rw [verbLoop, if_pos hlt, getB_lt _ _ hlt, List.drop_eq_getElem_cons hlt]
      simp only [scan]
      by_cases h37 : fmt[be] = 37
      · simp only [h37, if_true]
        exact ⟨by simp [Res.bind, afterVerb], stop _⟩
      · simp only [h37, if_false]
        by_cases hd : 48 ≤ fmt[be] ∧ fmt[be] ≤ 57
        · simp only [hd, and_self, if_true]
          obtain ⟨ih, ihb⟩ := verbLoop_spec fmt args fuel (be+1) (accumWidth pad fmt[be]) na buf (by omega) (by omega)
          exact ⟨ih, fun r h => by have := ihb r h; omega⟩
        · simp only [hd, if_false]
          by_cases hv : isVerb fmt[be] = true
          · simp only [hv, if_true]
            by_cases hna : na ≥ args.length
            · have : args.drop na = [] := List.drop_eq_nil_of_le hna
              rw [this, if_pos hna]
              exact ⟨by simp [Res.bind, afterVerb, this], stop _⟩
            · have hna' : na < args.length := by omega
              rw [if_neg hna, List.drop_eq_getElem_cons hna']
              simp only [List.getElem?_eq_getElem hna']
              cases hf : fmtVerb buf fmt[be] args[na] pad with
              | panic => simp [Res.bind]
              | ok r => exact ⟨by simp [Res.bind, afterVerb], stop _⟩
          · simp only [hv, Bool.false_eq_true, if_false]
            obtain ⟨ih, ihb⟩ := verbLoop_spec fmt args fuel (be+1) pad na buf (by omega) (by omega)
            rw [ih]
            cases hrec : verbLoop fmt args fuel (be + 1) pad na buf with
            | panic => simp [Res.bind]
            | ok r =>
              refine ⟨?_, fun r' h => by cases h; have := ihb r hrec; exact ⟨by omega, this.2⟩⟩
              simp only [Res.bind, afterVerb]
              cases scan none (fmt.drop (r.1 + 1)) (args.drop r.2.1) r.2.2.1 <;> simp
    · have hbe : be = fmt.length := by omega
      rw [verbLoop, if_neg hlt]
      subst hbe
      have e1 : fmt.drop (fmt.length + 1) = [] := List.drop_eq_nil_of_le (by omega)
      exact ⟨by simp [scan, Res.bind, afterVerb, e1], stop _⟩

theorem mainLoop_spec (fmt : List Byte) (args : List Arg) :
    ∀ (fuel bs be na : Nat) (buf : List Byte),
    bs ≤ be → be ≤ fmt.length + 1 → (be = fmt.length + 1 → bs = be) → fmt.length + 2 ≤ fuel + be →
    mainLoop fmt args fuel bs be na buf
      = (scan none (fmt.drop be) (args.drop na) buf).bind fun rest => .ok (lits fmt bs (be - bs) ++ rest)
  | 0, bs, be, na, buf, h1, h2, h3, h4 => by omega
  | fuel+1, bs, be, na, buf, h1, h2, h3, h4 => by
    by_cases hlt : be < fmt.length
    · rw [mainLoop, if_pos hlt, getB_lt _ _ hlt, List.drop_eq_getElem_cons hlt]
      simp only [scan]
      by_cases h37 : fmt[be] = 37
      · simp only [h37, ne_eq, not_true_eq_false, if_false, if_true]
        rw [litLoop_spec fmt (be - bs) bs (by omega)]
        simp only []
        obtain ⟨hvs, hvb⟩ := verbLoop_spec fmt args (fmt.length + 1) (be+1) 0 na buf (by omega) (by omega)
        rw [hvs]
        cases hv : verbLoop fmt args (fmt.length + 1) (be + 1) 0 na buf with
        | panic => simp [Res.bind]
        | ok r =>
          obtain ⟨be', na', buf', ws⟩ := r
          have hb := hvb _ hv
          simp only at hb
          simp only []
          rw [mainLoop_spec fmt args fuel (be'+1) (be'+1) na' buf' (by omega) (by omega) (fun _ => rfl) (by omega)]
          simp only [Res.bind, afterVerb, Nat.sub_self]
          cases scan none (fmt.drop (be' + 1)) (args.drop na') buf' <;> simp [lits]
      · simp only [h37, ne_eq, not_false_eq_true, if_true, if_false]
        rw [mainLoop_spec fmt args fuel bs (be+1) na buf (by omega) (by omega) (by omega) (by omega)]
        have e : be + 1 - bs = (be - bs) + 1 := by omega
        have hl := lits_succ fmt bs (be - bs) (by omega)
        have e2 : bs + (be - bs) = be := by omega
        simp only [e2] at hl
        rw [e, hl]
        cases scan none (fmt.drop (be + 1)) (args.drop na) buf <;> simp [Res.bind]
    · rw [mainLoop, if_neg hlt, List.drop_eq_nil_of_le (by omega)]
      simp only [scan, Res.bind, List.map_const', List.length_drop]
      by_cases hb : bs = be
      · subst hb
        simp [lits]
      · have := mt h3 hb
        rw [if_pos hb, litLoop_spec fmt (be - bs) bs (by omega)]

theorem fprintfIdx_eq (buf fmt : List Byte) (args : List Arg) :
    fprintfIdx buf fmt args = fprintf buf fmt args := by
  unfold fprintfIdx fprintf
  rw [mainLoop_spec fmt args _ 0 0 0 buf (by omega) (by omega) (by omega) (by omega)]
  simp only [List.drop_zero]
  generalize scan none fmt args buf = r
  cases r <;> simp [Res.bind, lits]

end Firefly.Kfmt
