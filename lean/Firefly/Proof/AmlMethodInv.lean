import Firefly.Proof.AmlPasses
/-!
The shape of `Method` objects that the tree passes in front of `parseDeferredBlocks` keep (`MInv`): exactly three
arguments — a childless name-path object, a childless byte constant holding the flags, and a scope block.  Kept by every
move, `free` and payload update of `connectNamedObjArgs`, `mergeScopeDirectives` and `relocateNamedObjects` (the sites
give the guards: what is moved or freed is never one of the three, and nothing is hung under a `Method` or its first two
arguments).
-/
namespace Firefly.AmlParser
open Firefly.AmlLex Firefly.AmlTree Firefly.C13
open Firefly.Gen.C12

def methodInfoIdx : Nat := pOpcodeTableIndex opMethod true

/-- `m` has exactly the arguments `k1` (name), `k2` (flags), `k3` (body) -/
structure MK3 (t : ObjectTree) (m k1 k2 k3 : Nat) : Prop where
  fi : Fi t m = k1
  n1 : Nx t k1 = k2
  n2 : Nx t k2 = k3
  l1 : live t k1 = true
  l2 : live t k2 = true
  l3 : live t k3 = true
  val : ∃ v, (slot t k2).value = .u64 v
  f1 : Fi t k1 = INV
  f2 : Fi t k2 = INV
  o1 : (slot t k1).opcode = opIntNamePath
  o2 : (slot t k2).opcode = opBytePrefix
  o3 : (slot t k3).opcode = opIntScopeBlock
  i1 : (slot t k1).infoIndex = pOpcodeTableIndex opIntNamePath true
  i2 : (slot t k2).infoIndex = pOpcodeTableIndex opBytePrefix true
  i3 : (slot t k3).infoIndex = pOpcodeTableIndex opIntScopeBlock true
  im : (slot t m).infoIndex = methodInfoIdx
  n3 : Nx t k3 = INV
  att : C13.P t m ≠ INV

/-- what the tree passes in front of `parseDeferredBlocks` keep besides `MI`: every live `Method` is complete, every
unresolved name-or-call object holds the `[]byte` of its path (`CallShape`), and the root carries the table row of a scope
block -/
structure MInv (s : PState) : Prop where
  mths : ∀ m, live s.tree m = true → (slot s.tree m).opcode = opMethod → ∃ k1 k2 k3, MK3 s.tree m k1 k2 k3
  cs : CallShape s
  rootI : (slot s.tree 0).infoIndex = pOpcodeTableIndex opIntScopeBlock true

theorem MK3.congr {t t' : ObjectTree} {m k1 k2 k3 : Nat} (h : MK3 t m k1 k2 k3)
    (hl : ∀ x, live t x = true → x = k1 ∨ x = k2 ∨ x = k3 → live t' x = true)
    (hfi : Fi t' m = Fi t m) (hn1 : Nx t' k1 = Nx t k1) (hn2 : Nx t' k2 = Nx t k2) (hn3 : Nx t' k3 = Nx t k3)
    (hf1 : Fi t' k1 = Fi t k1) (hf2 : Fi t' k2 = Fi t k2)
    (hop : ∀ x, x = k1 ∨ x = k2 ∨ x = k3 → (slot t' x).opcode = (slot t x).opcode)
    (hinf : ∀ x, x = m ∨ x = k1 ∨ x = k2 ∨ x = k3 → (slot t' x).infoIndex = (slot t x).infoIndex)
    (hval : (slot t' k2).value = (slot t k2).value) (hpm : C13.P t' m ≠ INV) : MK3 t' m k1 k2 k3 :=
  have c1 : ∀ {x}, x = k1 → x = k1 ∨ x = k2 ∨ x = k3 := Or.inl
  have c2 : ∀ {x}, x = k2 → x = k1 ∨ x = k2 ∨ x = k3 := fun e => Or.inr (Or.inl e)
  have c3 : ∀ {x}, x = k3 → x = k1 ∨ x = k2 ∨ x = k3 := fun e => Or.inr (Or.inr e)
  ⟨hfi.trans h.fi, hn1.trans h.n1, hn2.trans h.n2, hl _ h.l1 (c1 rfl), hl _ h.l2 (c2 rfl), hl _ h.l3 (c3 rfl),
    hval ▸ h.val, hf1.trans h.f1, hf2.trans h.f2,
    (hop _ (c1 rfl)).trans h.o1, (hop _ (c2 rfl)).trans h.o2, (hop _ (c3 rfl)).trans h.o3,
    (hinf _ (Or.inr (c1 rfl))).trans h.i1, (hinf _ (Or.inr (c2 rfl))).trans h.i2, (hinf _ (Or.inr (c3 rfl))).trans h.i3,
    (hinf _ (Or.inl rfl)).trans h.im, hn3.trans h.n3, hpm⟩

theorem MK3.transfer {t t' : ObjectTree} {m k1 k2 k3 : Nat} (h : MK3 t m k1 k2 k3)
    (hl : ∀ x, live t x = true → x = k1 ∨ x = k2 ∨ x = k3 → live t' x = true)
    (hfi : Fi t' m = Fi t m) (hn1 : Nx t' k1 = Nx t k1) (hn2 : Nx t' k2 = Nx t k2) (hn3 : Nx t' k3 = Nx t k3)
    (hf1 : Fi t' k1 = Fi t k1) (hf2 : Fi t' k2 = Fi t k2)
    (hp : ∀ x, x = m ∨ x = k1 ∨ x = k2 ∨ x = k3 → Pay (slot t' x) = Pay (slot t x))
    (hpm : C13.P t' m ≠ INV) : MK3 t' m k1 k2 k3 :=
  h.congr hl hfi hn1 hn2 hn3 hf1 hf2 (fun x hx => pay_opcode (hp x (Or.inr hx))) (fun x hx => pay_info (hp x hx))
    (pay_value (hp k2 (Or.inr (Or.inr (Or.inl rfl))))) hpm

theorem MK3.parents {t : ObjectTree} (w : WF t) {m k1 k2 k3 : Nat} (hm : live t m = true) (h : MK3 t m k1 k2 k3) :
    C13.P t k1 = m ∧ C13.P t k2 = m ∧ C13.P t k3 = m ∧ Pv t k1 = INV ∧ Pv t k2 = k1 ∧ Pv t k3 = k2 := by
  have hinv : ∀ j, live t j = true → j ≠ INV := fun j hj => live_ne_INV w.size_le hj
  have a := (w.lP hm).fi (by rw [h.fi]; exact hinv _ h.l1)
  rw [h.fi] at a
  have b := (w.lP h.l1).nx (by rw [h.n1]; exact hinv _ h.l2)
  rw [h.n1, a.1] at b
  have c := (w.lP h.l2).nx (by rw [h.n2]; exact hinv _ h.l3)
  rw [h.n2, b.2] at c
  exact ⟨a.1, b.2, c.2, a.2, b.1, c.1⟩

theorem MK3.keep {t t' : ObjectTree} {m k1 k2 k3 : Nat} (h : MK3 t m k1 k2 k3) (w : WF t)
    (hm : live t m = true) (a : KeepsArgs t t' m) (f1 : Fi t' k1 = Fi t k1) (f2 : Fi t' k2 = Fi t k2)
    (hp : Pay (slot t' m) = Pay (slot t m)) (hpm : C13.P t' m ≠ INV) : MK3 t' m k1 k2 k3 := by
  obtain ⟨p1, p2, p3, _⟩ := h.parents w hm
  have c1 := a.kid k1 h.l1 p1
  have c2 := a.kid k2 h.l2 p2
  have c3 := a.kid k3 h.l3 p3
  refine h.transfer ?_ a.fi c1.2.1 c2.2.1 c3.2.1 f1 f2 ?_ hpm
  · rintro x _ (e | e | e) <;> rw [e]
    · exact c1.1
    · exact c2.1
    · exact c3.1
  · rintro x (e | e | e | e) <;> rw [e]
    · exact hp
    · exact c1.2.2.1
    · exact c2.2.2.1
    · exact c3.2.2.1

theorem MK3.kids {t : ObjectTree} (w : WF t) {m k1 k2 k3 : Nat} (hm : live t m = true) (h : MK3 t m k1 k2 k3) :
    ∀ x, live t x = true → C13.P t x = m → x = k1 ∨ x = k2 ∨ x = k3 := by
  intro x hx hp
  simpa using w.mem_of_chain hm (l := [k1, k2, k3]) ⟨h.fi, h.l1, h.n1, h.l2, h.n2, h.l3, h.n3⟩ hx hp

theorem MK3.arg_ne {t : ObjectTree} {m k1 k2 k3 T : Nat} (mk : MK3 t m k1 k2 k3)
    (g : Fi t T ≠ INV ∨ (slot t T).opcode = opIntScopeBlock) : k1 ≠ T ∧ k2 ≠ T := by
  constructor <;> rintro rfl <;> rcases g with h1 | h1
  · exact h1 mk.f1
  · rw [mk.o1] at h1; revert h1; decide
  · exact h1 mk.f2
  · rw [mk.o2] at h1; revert h1; decide

theorem MInv.parent_not_method {s : PState} (hJ : MInv s) (w : WF s.tree) {x : Nat} (hx : live s.tree x = true)
    (hpl : live s.tree (C13.P s.tree x) = true)
    (hg : (Fi s.tree x ≠ INV ∧ (slot s.tree x).opcode ≠ opIntScopeBlock) ∨ (slot s.tree x).opcode = opScope) :
    (slot s.tree (C13.P s.tree x)).opcode ≠ opMethod := by
  intro ho
  obtain ⟨k1, k2, k3, mk⟩ := hJ.mths _ hpl ho
  rcases hg with ⟨h1, h2⟩ | h1
  · obtain ⟨n1, n2⟩ := mk.arg_ne (Or.inl h1)
    rcases mk.kids w hpl x hx rfl with e | e | e
    · exact n1 e.symm
    · exact n2 e.symm
    · exact h2 (by rw [e]; exact mk.o3)
  · rcases mk.kids w hpl x hx rfl with e | e | e
    · rw [e, mk.o1] at h1; revert h1; decide
    · rw [e, mk.o2] at h1; revert h1; decide
    · rw [e, mk.o3] at h1; revert h1; decide

theorem MInv.ofTree {s s' : PState} (h : MInv s) (ht : s'.tree = s.tree) : MInv s' := by
  refine ⟨by rw [ht]; exact h.mths, ?_, by rw [ht]; exact h.rootI⟩
  unfold CallShape; rw [ht]; exact h.cs

/-- "every live `Method` is complete" is kept by a step that leaves the argument lists and payloads of the objects outside
`τ` alone, if no method and no name or flags of one is in `τ` -/
theorem mths_keep {τ : Nat → Prop} {t t' : ObjectTree} (w : WF t)
    (h : ∀ m, live t m = true → (slot t m).opcode = opMethod → ∃ k1 k2 k3, MK3 t m k1 k2 k3)
    (args : ∀ x, live t x = true → ¬ τ x → KeepsArgs t t' x)
    (pay : ∀ x, live t x = true → ¬ τ x → Pay (slot t' x) = Pay (slot t x))
    (par : ∀ x, live t' x = true → C13.P t x ≠ INV → C13.P t' x ≠ INV)
    (old : ∀ m, live t' m = true → (slot t' m).opcode = opMethod → live t m = true ∧ (slot t m).opcode = opMethod)
    (hT : ∀ m k1 k2 k3, live t m = true → live t' m = true → (slot t m).opcode = opMethod → MK3 t m k1 k2 k3 →
      ¬ τ m ∧ ¬ τ k1 ∧ ¬ τ k2) :
    ∀ m, live t' m = true → (slot t' m).opcode = opMethod → ∃ k1 k2 k3, MK3 t' m k1 k2 k3 := by
  intro m hl ho
  obtain ⟨hl0, ho0⟩ := old m hl ho
  obtain ⟨k1, k2, k3, mk⟩ := h m hl0 ho0
  obtain ⟨n0, n1, n2⟩ := hT m k1 k2 k3 hl0 hl ho0 mk
  exact ⟨k1, k2, k3, mk.keep w hl0 (args m hl0 n0) (args k1 mk.l1 n1).fi (args k2 mk.l2 n2).fi (pay m hl0 n0) (par m hl mk.att)⟩

theorem MInv.move {s s2 : PState} (hJ : MInv s) {T m : Nat} (mv : MoveEff s s2 T m)
    (gp : (slot s.tree (C13.P s.tree m)).opcode ≠ opMethod) (gT : (slot s.tree T).opcode ≠ opMethod)
    (gT2 : Fi s.tree T ≠ INV ∨ (slot s.tree T).opcode = opIntScopeBlock) : MInv s2 := by
  have hl := mv.mv.live
  have w := mv.wf
  refine ⟨mths_keep (τ := fun x => x = C13.P s.tree m ∨ x = T) w hJ.mths
    (fun x _ n => mv.frame.keepsArgs n fun k e hk => n (Or.inl (by rw [← hk, e]))) (fun x _ _ => mv.pay.pay x)
    (fun x _ => mv.keepAtt x)
    (fun M h1 h2 => ⟨by rw [← hl]; exact h1, by rw [← pay_opcode (mv.pay.pay M)]; exact h2⟩) ?_,
    hJ.cs.ofPay fun x hx => ⟨by rw [← hl]; exact hx, mv.pay.pay x⟩, by rw [pay_info (mv.pay.pay 0)]; exact hJ.rootI⟩
  · -- neither the old parent nor the target is a method; a name or flags has no arguments and is no scope block
    intro M k1 k2 k3 _ _ hMo mk
    obtain ⟨a1, a2⟩ := mk.arg_ne gT2
    obtain ⟨b1, b2⟩ := mk.arg_ne (Or.inl (fi_ne_of_child w mv.lp mv.lives.2.1 rfl))
    exact ⟨not_or.2 ⟨fun e => gp (by rw [← e]; exact hMo), fun e => gT (by rw [← e]; exact hMo)⟩, not_or.2 ⟨b1, a1⟩, not_or.2 ⟨b2, a2⟩⟩

theorem MInv.free {s s1 : PState} (hJ : MInv s) {y : Nat} (fe : FreeEff s s1 y)
    (gp : C13.P s.tree y = INV ∨ (slot s.tree (C13.P s.tree y)).opcode ≠ opMethod) : MInv s1 := by
  have w := fe.wf
  have hy := fe.ly
  refine ⟨mths_keep (τ := fun x => x = y ∨ x = C13.P s.tree y) w hJ.mths
    (fun x hx n => fe.toFreed.keepsArgs w hy hx (fun e => n (Or.inl e)) fun e => n (Or.inr e.symm))
    (fun x _ n => fe.pay x fun e => n (Or.inl e)) (fun x hx hp => by rw [fe.p x ((fe.live_iff x).1 hx).2]; exact hp)
    (fun M h1 h2 => have h := (fe.live_iff M).1 h1; ⟨h.1, by rw [← pay_opcode (fe.pay M h.2)]; exact h2⟩) ?_,
    hJ.cs.ofPay fun x hx => have h := (fe.live_iff x).1 hx; ⟨h.1, fe.pay x h.2⟩,
    by rw [pay_info (fe.pay 0 fe.ne_root)]; exact hJ.rootI⟩
  · -- `y` hangs under no method, so it is none of the three arguments; a childless argument is not its parent
    intro M k1 k2 k3 hM hM1 hMo mk
    obtain ⟨p1, p2, _⟩ := mk.parents w hM
    have hMp : M ≠ C13.P s.tree y := fun e =>
      gp.elim (fun h1 => live_ne_INV w.size_le hM (by rw [e]; exact h1)) fun h1 => h1 (by rw [← e]; exact hMo)
    have hk : ∀ k, live s.tree k = true → C13.P s.tree k = M → Fi s.tree k = INV → ¬ (k = y ∨ k = C13.P s.tree y) :=
      fun k hkl hk hf => not_or.2 ⟨fun e => hMp (by rw [← hk, e]), fun e => fi_ne_of_child w hkl hy e.symm hf⟩
    exact ⟨not_or.2 ⟨((fe.live_iff M).1 hM1).2, hMp⟩, hk k1 mk.l1 p1 mk.f1, hk k2 mk.l2 p2 mk.f2⟩

theorem MInv.upd {s s1 : PState} (hJ : MInv s) (w : WF s.tree) {i : Nat} {f : Obj → Obj} (u : UpdEff s s1 i f)
    (hop : (f (slot s.tree i)).opcode = (slot s.tree i).opcode) (hinfo : (f (slot s.tree i)).infoIndex = (slot s.tree i).infoIndex)
    (hv : (f (slot s.tree i)).value = (slot s.tree i).value ∨ Pv s.tree i = INV)
    (hvb : (f (slot s.tree i)).value = (slot s.tree i).value ∨ ∃ off len, (f (slot s.tree i)).value = .bytes off len) :
    MInv s1 := by
  have hinv : ∀ j, live s.tree j = true → j ≠ INV := fun j hj => live_ne_INV w.size_le hj
  have sl := u.links
  have hopA := u.keeps (·.opcode) hop
  have hinfA := u.keeps (·.infoIndex) hinfo
  refine ⟨?_, hJ.cs.upd u fun hi ho => hvb.elim (fun e => e ▸ hJ.cs i hi (hop ▸ ho)) id, by rw [hinfA]; exact hJ.rootI⟩
  intro M hM hMo
  have hM0 : live s.tree M = true := by rw [← sl.live]; exact hM
  obtain ⟨k1, k2, k3, mk⟩ := hJ.mths M hM0 (by rw [← hopA]; exact hMo)
  obtain ⟨_, _, _, _, pv2, _⟩ := mk.parents w hM0
  refine ⟨k1, k2, k3, mk.congr (fun x hx _ => by rw [sl.live]; exact hx) (sl.fi M) (sl.nx k1) (sl.nx k2) (sl.nx k3)
    (sl.fi k1) (sl.fi k2) (fun x _ => hopA x) (fun x _ => hinfA x) ?_ (by rw [sl.p]; exact mk.att)⟩
  -- `k2` has a previous sibling, so its value is kept
  by_cases hy : k2 = i
  · rw [hy, u.self, hv.resolve_right fun h1 => hinv _ mk.l1 (by rw [← pv2, hy]; exact h1)]
  · rw [u.other k2 hy]

theorem sb_ne_method : opIntScopeBlock ≠ opMethod := by decide
theorem scope_ne_method : opScope ≠ opMethod := by decide

/-- the row of `Method`: four arguments, none of them a term argument -/
theorem method_noTerm : InfoOK methodInfoIdx ∧ NoTerm methodInfoIdx := by
  unfold InfoOK NoTerm
  decide +kernel

end Firefly.AmlParser
