import Firefly.Proof.VmmWindow
import Firefly.Proof.VmmTemp
/-! The page-fault handler. Which executions can return at all (`pageFault_ok_inv`; the guards that keep the zero frame from
a writable mapping); the copy-on-write success path under an explicit path of tables (`pageFault_run`, `pageFault_cow`); and the
fault on a well-formed address space, where the temporary mapping may have to create its tables (`pageFault_full`). -/

namespace Firefly.Vmm
open Firefly.Gen.C04

theorem walkFrom_faultCb_ok (va : W) (st : St) :
    ∀ (levels : List Nat) (tableAddr : W) (a a' : Option Loc) (st' : St),
      (∀ x, a = some x → hasFlags (st.rdLoc x) fPresent = true) →
      walkFrom faultCb va levels tableAddr a st = .ok (a', st') →
      st' = st ∧ ∀ loc, a' = some loc → hasFlags (st.rdLoc loc) fPresent = true := by
  intro levels
  induction levels with
  | nil => intro _ a a' st' ha h; simp only [walkFrom] at h; cases h; exact ⟨rfl, ha⟩
  | cons L rest ih =>
    intro ta a a' st' ha h
    simp only [walkFrom] at h
    split at h
    · cases h
    · rename_i loc' _
      simp only [faultCb] at h
      cases hp : hasFlags (st.rdLoc loc') fPresent
      · simp only [hp] at h; cases h; exact ⟨rfl, by simpa using ha⟩
      · simp only [hp] at h
        refine ih _ _ _ _ (fun x hx => ?_) h
        split at hx
        · cases hx; exact hp
        · exact ha _ hx

/-- **Everything else panics.** If `pageFaultHandler` returns (the faulting code resumes) then the
page-table walk found a leaf entry that is present, not writable and marked copy-on-write, a frame
could be allocated and the temporary mapping was not refused. -/
theorem pageFault_ok_inv (st : St) (addr : W) (st' : St) (h : pageFault st addr = .ok ((), st')) :
    ∃ loc, walk faultCb (pageAddr (pageOf addr)) none st = .ok (some loc, st) ∧
      hasFlags (st.rdLoc loc) fPresent = true ∧ hasFlags (st.rdLoc loc) fRW = false ∧
      hasFlags (st.rdLoc loc) fCoW = true ∧ st.free ≠ [] ∧ st.tmpFail = false := by
  unfold pageFault at h
  simp only at h
  split at h
  · cases h
  · rename_i entry st1 hwalk
    obtain ⟨hst, hpres⟩ := walkFrom_faultCb_ok _ _ _ _ none _ _ (fun _ hx => by cases hx) hwalk
    subst hst
    split at h
    · cases h
    · rename_i loc
      have hpres := hpres loc rfl
      split at h
      · rename_i hc
        simp only [Bool.and_eq_true, Bool.not_eq_true'] at hc
        split at h
        · cases h
        · rename_i copy st2 halloc
          have hfree : st1.free ≠ [] := by
            intro hf; simp [allocFrame, hf] at halloc
          refine ⟨loc, hwalk, hpres, hc.1, hc.2, hfree, ?_⟩
          cases htf : st1.tmpFail
          · rfl
          · exfalso
            have hst2 : st2.tmpFail = true := by
              unfold allocFrame at halloc
              split at halloc
              · cases halloc
              · cases halloc; exact htf
            simp only [mapTemporaryFn, hst2, if_true] at h
            simp [eTmp] at h
      · cases h

theorem gpFault_panics (st : St) : gpFault st = .error (.panic (200 + eUnrecoverable)) := rfl

theorem mapOp_guard (st : St) (page flags : W) (hp : st.protect = true) (hrw : (flags &&& fRW) ≠ 0) :
    mapOp st page st.zeroFrame flags = .ok (eRWZero, st) := by
  unfold mapOp
  have : (st.protect && st.zeroFrame == st.zeroFrame && (flags &&& fRW) != 0) = true := by
    simp only [hp, beq_self_eq_true, Bool.true_and, bne_iff_ne]; exact hrw
  rw [if_pos this]

theorem mapTemporary_guard (st : St) (hp : st.protect = true) :
    mapTemporary st st.zeroFrame = .ok ((eRWZero, 0), st) := by
  simp [mapTemporary, hp]

theorem mapLoop_guard (st : St) (n : Nat) (page flags : W) (hp : st.protect = true) (hrw : (flags &&& fRW) ≠ 0) :
    mapLoop flags (n + 1) page st.zeroFrame st = .ok (eRWZero, st) := by
  simp [mapLoop, mapOp_guard st page flags hp hrw, eRWZero]

/-- a successful `Map` under the armed guard never installs a writable mapping of the zero frame -/
theorem mapOp_ok_not_zero_rw (st : St) (page frame flags : W) (st' : St) (hp : st.protect = true)
    (h : mapOp st page frame flags = .ok (0, st')) : ¬(frame = st.zeroFrame ∧ (flags &&& fRW) ≠ 0) := by
  rintro ⟨rfl, hrw⟩
  rw [mapOp_guard st page flags hp hrw] at h
  simp [eRWZero] at h

theorem faultCb_upper {L : Nat} {ea : W} {loc : Loc} {acc : Option Loc} {st : St} (hL : L < 3)
    (hp : st.rdLoc loc &&& 1#64 ≠ 0#64) : faultCb L ea loc acc st = .ok ((true, acc), st) := by
  have h1 : ¬ L = pageLevels - 1 := by simp [pageLevels]; omega
  simp [faultCb, (hasFlags_present _).2 hp, h1]

theorem faultCb_absent {L : Nat} {ea : W} {loc : Loc} {st : St} (hp : st.rdLoc loc &&& 1#64 = 0#64) :
    faultCb L ea loc none st = .ok ((false, none), st) := by
  simp [faultCb, hasFlags_present_false hp]

theorem faultCb_leaf {ea : W} {loc : Loc} {acc : Option Loc} {st : St}
    (hp : st.rdLoc loc &&& 1#64 ≠ 0#64) : faultCb 3 ea loc acc st = .ok ((true, some loc), st) := by
  simp [faultCb, (hasFlags_present _).2 hp, pageLevels]

theorem walk_faultCb_leaf {st : St} {R va T3 : W} (hw : Window st R) (hc : Chain st.mem R va 3 T3)
    (hb : st.mem.backed (frameN T3) = true) (hp : st.mem.rd (frameN T3) (kidx va 3) &&& 1#64 ≠ 0#64) :
    walk faultCb va none st = .ok (some (frameN T3, kidx va 3), st) :=
  walk_reach hw _ none (fun _ _ _ hL hp _ => faultCb_upper hL hp) (by omega) hc hb (faultCb_leaf hp) (Or.inr rfl)

theorem pageContents_of_mmu {st : St} {va pa : W} (h : mmu st.mem st.cr3 va = some pa) (hb : st.mem.backed (frameN pa) = true) :
    pageContents st va = fun i => st.mem.rd (frameN pa) i := by
  unfold pageContents
  rw [h]
  exact if_pos hb

/-- the entry the handler installs: CoW cleared, Present|RW set, frame = the copy -/
def cowEntry (e copy : W) : W := setFrame (setFlags (clearFlags e fCoW) (fPresent ||| fRW)) copy

/-- **The recovered copy-on-write fault as a program**: what `pageFaultHandler` returns, from the
results of the calls it makes (the walk, the temporary mapping, the unmap). -/
theorem pageFault_run {st : St} {addr va : W} (hva : pageAddr (pageOf addr) = va) {loc : Loc}
    (hwalk : walk faultCb va none st = .ok (some loc, st))
    (hrw : hasFlags (st.rdLoc loc) fRW = false) (hcow : hasFlags (st.rdLoc loc) fCoW = true)
    {copy : W} {rest : List W} (hf : st.free = copy :: rest) (hco : FrameOK copy) {st2 : St}
    (hmt : mapTemporaryFn { st with free := rest, allocs := st.allocs + 1 } copy = .ok ((0, pageOf tempVA), st2))
    (hmmuT : mmu st2.mem st2.cr3 tempVA = some (copy <<< 12)) (hbk2 : st2.mem.backed copy.toNat = true)
    {c : Nat} {st4 : St}
    (hum : unmapOp { st2 with mem := st2.mem.setFrame copy.toNat (pageContents st2 va) } (pageOf tempVA) = .ok (c, st4)) :
    pageFault st addr = .ok ((), (st4.wrLoc loc (cowEntry (st4.rdLoc loc) copy)).flush va) := by
  have hcN : ((copy <<< 12) >>> 12).toNat = copy.toNat := frameN_shl12 hco
  have hal : (copy <<< 12) &&& 0xfff#64 = 0#64 := shl12_and_low _ (by decide)
  unfold pageFault
  simp only [hva, hwalk, hrw, hcow, Bool.not_false, Bool.and_self, if_true, allocFrame_cons hf, hmt, ne_eq, not_true_eq_false,
    if_false, tempVA_page, hmmuT, hcN, hbk2, hal, beq_self_eq_true, Bool.not_true, Bool.false_eq_true, hum]
  rfl

/-- state after a recovered copy-on-write fault -/
def cowState (st : St) (rest : List W) (copy : W) (tloc floc : Loc) (old : Nat) (va : W) : St :=
  { st with
    free := rest, allocs := st.allocs + 1,
    mem := (((((st.mem.wr tloc.1 tloc.2 (mkEntry copy (fPresent ||| fRW))).setFrame copy.toNat (fun i => st.mem.rd old i)).wr
      tloc.1 tloc.2 (clearFlags (mkEntry copy (fPresent ||| fRW)) fPresent))).wr floc.1 floc.2
        (cowEntry (st.mem.rd floc.1 floc.2) copy)),
    flushes := st.flushes ++ [tempVA, tempVA, va] }

/-- the memory after a recovered fault, word by word (the stores read last first) -/
theorem cowState_rd (st : St) (rest : List W) (copy : W) (tloc floc : Loc) (old : Nat) (va : W) (F j : Nat) :
    (cowState st rest copy tloc floc old va).mem.rd F j =
      if floc.1 = F ∧ floc.2 = j then cowEntry (st.mem.rd floc.1 floc.2) copy
      else if tloc.1 = F ∧ tloc.2 = j then clearFlags (mkEntry copy (fPresent ||| fRW)) fPresent
      else if copy.toNat = F then st.mem.rd old j
      else st.mem.rd F j := by
  show ((((st.mem.wr _ _ _).setFrame _ _).wr _ _ _).wr _ _ _).rd F j = _
  rw [rd_wr, rd_wr, rd_setFrame, rd_wr]
  by_cases h : tloc.1 = F ∧ tloc.2 = j
  · rw [if_pos h, if_pos h]
  · rw [if_neg h, if_neg h, if_neg h]

/-- **A recovered copy-on-write fault**, executed symbolically.  Hypotheses: the active root is
recursive; the faulting page's path exists and its leaf entry is present, read-only, CoW and points to
RAM; the temporary-mapping page's tables exist; the allocator hands out `copy` (RAM, < 2^40, not the
zero frame, not one of the tables involved, not the page's current frame). -/
theorem pageFault_cow {st : St} {R T1 T2 T3 U1 U2 U3 : W} (addr : W)
    (hA : st.cr3 &&& hwMask = R) (hw : Window st R)
    (pf : Path st.mem R (pageAddr (pageOf addr)) T1 T2 T3)
    (pt : Path st.mem R tempVA U1 U2 U3)
    (hpres : st.mem.rd (frameN T3) (kidx (pageAddr (pageOf addr)) 3) &&& 1#64 ≠ 0#64)
    (hrw : hasFlags (st.mem.rd (frameN T3) (kidx (pageAddr (pageOf addr)) 3)) fRW = false)
    (hcow : hasFlags (st.mem.rd (frameN T3) (kidx (pageAddr (pageOf addr)) 3)) fCoW = true)
    (hold : st.mem.backed (frameN (st.mem.rd (frameN T3) (kidx (pageAddr (pageOf addr)) 3) &&& hwMask)) = true)
    {copy : W} {rest : List W} (hf : st.free = copy :: rest) (hco : FrameOK copy)
    (hcb : st.mem.backed copy.toNat = true) (htf : st.tmpFail = false)
    (hz : (st.protect && copy == st.zeroFrame) = false)
    (hc : copy.toNat ≠ frameN R ∧ copy.toNat ≠ frameN T3 ∧
      copy.toNat ≠ frameN U1 ∧ copy.toNat ≠ frameN U2 ∧ copy.toNat ≠ frameN U3)
    (hu : frameN U3 ≠ frameN R ∧ frameN U3 ≠ frameN U1 ∧ frameN U3 ≠ frameN U2 ∧ frameN U3 ≠ frameN T1 ∧
      frameN U3 ≠ frameN T2 ∧ ¬(frameN U3 = frameN T3 ∧ kidx tempVA 3 = kidx (pageAddr (pageOf addr)) 3) ∧
      frameN U3 ≠ frameN (st.mem.rd (frameN T3) (kidx (pageAddr (pageOf addr)) 3) &&& hwMask)) :
    pageFault st addr = .ok ((), cowState st rest copy (frameN U3, kidx tempVA 3)
      (frameN T3, kidx (pageAddr (pageOf addr)) 3)
      (frameN (st.mem.rd (frameN T3) (kidx (pageAddr (pageOf addr)) 3) &&& hwMask)) (pageAddr (pageOf addr))) := by
  generalize hva : pageAddr (pageOf addr) = va at *
  generalize he : st.mem.rd (frameN T3) (kidx va 3) = e at *
  have hcN : frameN (copy <<< 12) = copy.toNat := frameN_shl12 hco
  -- the walk
  have hwalk : walk faultCb va none st = .ok (some (frameN T3, kidx va 3), st) :=
    walk_faultCb_leaf hw pf.chain3 pf.b3 (by rw [he]; exact hpres)
  -- allocate, map the temporary page
  let st1 : St := { st with free := rest, allocs := st.allocs + 1 }
  have hw1 : Window st1 R := ⟨hw.top, hw.self⟩
  have pt1 : Path st1.mem R (pageAddr (pageOf tempVA)) U1 U2 U3 := by rw [tempVA_page]; exact pt
  have hz1 : (st1.protect && copy == st1.zeroFrame) = false := hz
  have hg1 : (st1.protect && copy == st1.zeroFrame && ((fPresent ||| fRW) &&& fRW) != 0) = false := by
    rw [hz1]; rfl
  let st2 : St := (st1.wrLoc (frameN U3, kidx tempVA 3) (mkEntry copy (fPresent ||| fRW))).flush tempVA
  have hmt : mapTemporaryFn st1 copy = .ok ((0, pageOf tempVA), st2) := by
    have hm := mapOp_present (pageOf tempVA) copy (fPresent ||| fRW) hw1 pt1 hg1
    rw [tempVA_page] at hm
    have : st1.tmpFail = false := htf
    simp only [mapTemporaryFn, this, Bool.false_eq_true, if_false, mapTemporary, hz1, hm]
    rfl
  -- what the faulting page shows
  have pf2 : Path st2.mem R va T1 T2 T3 := pf.wr _ _ ⟨hu.1, hu.2.2.2.1, hu.2.2.2.2.1⟩
  have hleaf2 : st2.mem.rd (frameN T3) (kidx va 3) = e := by
    simp only [st2, st1, St.flush, St.wrLoc, rd_wr, if_neg hu.2.2.2.2.2.1, he]
  have hmmuF : mmu st2.mem st2.cr3 va = some (e &&& hwMask) := by
    unfold mmu
    rw [show st2.cr3 &&& hwMask = R from hA, mmuWalk_leaf_at pf2.chain3 pf2.b3 (by rw [hleaf2]; exact hpres), hleaf2, ← hva,
      pageAddr_low, BitVec.add_zero]
  have hsrc : pageContents st2 va = fun i => st.mem.rd (frameN (e &&& hwMask)) i := by
    rw [pageContents_of_mmu hmmuF hold]
    funext i
    simp only [st2, st1, St.flush, St.wrLoc, rd_wr]
    exact if_neg (fun h => hu.2.2.2.2.2.2 h.1)
  -- the temporary page shows the copy
  have hmmuT : mmu st2.mem st2.cr3 (pageAddr (pageOf tempVA)) = some (copy <<< 12) := by
    rw [tempVA_page]
    unfold mmu
    rw [show st2.cr3 &&& hwMask = R from hA]
    have := mmuWalk_leaf_written pt (mkEntry copy (fPresent ||| fRW)) ⟨hu.1, hu.2.1, hu.2.2.1⟩
    simp only [st2, st1, St.flush, St.wrLoc]
    rw [this, if_neg (mkEntry_prw_present copy), mkEntry_frame hco flagsOK_prw,
      show tempVA &&& 0xfff#64 = 0#64 by decide, BitVec.add_zero]
  let st3 : St := { st2 with mem := st2.mem.setFrame copy.toNat (fun i => st.mem.rd (frameN (e &&& hwMask)) i) }
  -- unmap the temporary page
  have hw3 : Window st3 R := by
    have t := (hw.top.wr (frameN U3) (kidx tempVA 3) (mkEntry copy (fPresent ||| fRW))
      (fun h => hu.1 (by rw [hA] at h; exact h.1))).setFrame copy.toNat (fun i => st.mem.rd (frameN (e &&& hwMask)) i)
      (by rw [hA]; exact hc.1)
    have s := (hw.self.wr (frameN U3) (kidx tempVA 3) (mkEntry copy (fPresent ||| fRW)) (fun h => hu.1 h.1)).setFrame
      copy.toNat (fun i => st.mem.rd (frameN (e &&& hwMask)) i) hc.1
    exact ⟨t, s⟩
  have pt3 : Path st3.mem R (pageAddr (pageOf tempVA)) U1 U2 U3 := by
    rw [tempVA_page]
    exact (pt.wr _ _ ⟨hu.1, hu.2.1, hu.2.2.1⟩).setFrame _ ⟨hc.1, hc.2.2.1, hc.2.2.2.1⟩
  have hun := unmapOp_present (pageOf tempVA) hw3 pt3
  rw [tempVA_page] at hun
  have hrd3 : st3.mem.rd (frameN U3) (kidx tempVA 3) = mkEntry copy (fPresent ||| fRW) := by
    simp only [st3, st2, st1, St.flush, St.wrLoc, rd_setFrame, if_neg hc.2.2.2.2, rd_wr, and_self, if_true]
  rw [hrd3] at hun
  have hbk : st2.mem.backed copy.toNat = true := by simpa [st2, st1, St.flush, St.wrLoc] using hcb
  rw [tempVA_page] at hmmuT
  rw [pageFault_run hva hwalk (by show hasFlags (st.mem.rd _ _) fRW = false; rw [he]; exact hrw)
    (by show hasFlags (st.mem.rd _ _) fCoW = true; rw [he]; exact hcow) hf hco hmt hmmuT hbk
    (show unmapOp { st2 with mem := st2.mem.setFrame copy.toNat (pageContents st2 va) } (pageOf tempVA) = _ by
      rw [hsrc]; exact hun)]
  -- the leaf entry read back after all that is still `e`
  have hne1 : ¬(frameN U3 = frameN T3 ∧ kidx tempVA 3 = kidx va 3) := hu.2.2.2.2.2.1
  have hne2 : ¬ copy.toNat = frameN T3 := hc.2.1
  congr 1
  simp only [cowState, cowEntry, St.flush, St.wrLoc, St.rdLoc, st3, st2, st1, rd_wr, rd_setFrame, if_neg hne1, if_neg hne2, he,
    List.append_assoc, List.cons_append, List.nil_append]

theorem cowEntry_present (e copy : W) : cowEntry e copy &&& 1#64 ≠ 0#64 := by
  unfold cowEntry
  rw [setFrame_and_low _ _ _ (by decide)]
  unfold setFlags
  rw [BitVec.and_or_distrib_right]
  have : (fPresent ||| fRW) &&& 1#64 = 1#64 := by decide
  rw [this]
  rcases and_one_cases (clearFlags e fCoW) with h | h <;> rw [h] <;> decide

/-- what a recovered copy-on-write fault guarantees -/
structure CowPost (st st' : St) (R : W) (own own' : Own) (va e copy : W) (rest : List W) : Prop where
  good : Good st' R own'
  ext : ∀ F x, own F = some x → own' F = some x
  /-- the page now has the private writable entry, the temporary page is unmapped, other pages unchanged -/
  as : ∀ va', UserVA va' → hwEntry st'.mem R va' =
    if SamePage va' va then some (cowEntry e copy)
    else if SamePage va' tempVA then none else hwEntry st.mem R va'
  /-- the new frame holds what the page showed, the shared frame is untouched (when the page's old frame
  is RAM outside the page tables and the allocator) -/
  copied : st.mem.backed (frameN (e &&& hwMask)) = true → own (frameN (e &&& hwMask)) = none →
    (∀ f ∈ st.free, f.toNat ≠ frameN (e &&& hwMask)) →
    (∀ i, st'.mem.rd copy.toNat i = st.mem.rd (frameN (e &&& hwMask)) i) ∧
    (∀ i, st'.mem.rd (frameN (e &&& hwMask)) i = st.mem.rd (frameN (e &&& hwMask)) i)
  /-- new tables come from the allocator -/
  newfree : ∀ F, own F = none → own' F ≠ none → ∃ f ∈ rest, f.toNat = F
  /-- memory outside the tables and the new frame is untouched -/
  foot : ∀ F j, own' F = none → F ≠ copy.toNat → st'.mem.rd F j = st.mem.rd F j
  flushes : st'.flushes = st.flushes ++ [tempVA, tempVA, va]
  sub : ∃ used, rest = used ++ st'.free
  regs : SameRegs st st'

theorem CowPost.growX {st st' : St} {R : W} {own own' : Own} {va e copy : W} {rest : List W}
    (h : CowPost st st' R own own' va e copy rest) (hf : st.free = copy :: rest) :
    GrowX (· = copy.toNat) st st' own own' := by
  obtain ⟨used, hused⟩ := h.sub
  refine ⟨h.ext, fun F j hF hc => h.foot F j hF hc, fun F h1 h2 => ?_, ⟨copy :: used, by rw [hf, hused]; rfl⟩, h.regs⟩
  obtain ⟨f, hfm, hfe⟩ := h.newfree F h1 h2
  exact ⟨f, by rw [hf]; exact List.mem_cons_of_mem _ hfm, hfe⟩

/-- **The copy-on-write fault, every case.**  Well-formed active address space; the faulting page
(outside the recursive slot, not the temporary page) has a present, read-only, copy-on-write entry
`e` whose frame is RAM outside the page tables and the allocator; the allocator's next frame is
`copy`; the temporary mapping is not refused.  Then the handler either panics because the allocator
ran out while creating the temporary page's tables, or returns with `CowPost`. -/
theorem pageFault_full {st : St} {R : W} {own : Own} (g : Good st R own) (hA : st.cr3 &&& hwMask = R) (addr : W)
    (hu : UserVA (pageAddr (pageOf addr))) (hnt : ¬SamePage (pageAddr (pageOf addr)) tempVA)
    {e : W} (he : hwEntry st.mem R (pageAddr (pageOf addr)) = some e)
    (hrw : hasFlags e fRW = false) (hcow : hasFlags e fCoW = true)
    {copy : W} {rest : List W} (hf : st.free = copy :: rest) (htf : st.tmpFail = false)
    (hz : (st.protect && copy == st.zeroFrame) = false) :
    pageFault st addr = .error (.panic (200 + eAlloc)) ∨
    ∃ st' own', pageFault st addr = .ok ((), st') ∧
      CowPost st st' R own own' (pageAddr (pageOf addr)) e copy rest := by
  generalize hva : pageAddr (pageOf addr) = va at *
  obtain ⟨T3, hc3, hb3, hle, hpres⟩ := hwEntry_some g.owned hu he
  have o3 : own (frameN T3) = some (3, idxs va 3) := chain_own g.owned hu 3 T3 (by omega) hc3
  have hwalk : walk faultCb va none st = .ok (some (frameN T3, kidx va 3), st) :=
    walk_faultCb_leaf g.win hc3 hb3 (by rw [hle]; exact hpres)
  obtain ⟨⟨hco, hcb, hcn, hcA⟩, hcrest, pop⟩ := g.pop hf
  -- allocate, map the temporary page
  let st1 : St := { st with free := rest, allocs := st.allocs + 1 }
  have halloc : allocFrame st = some (copy, st1) := allocFrame_cons hf
  have g1 : Good st1 R own := pop st1 rfl rfl rfl
  obtain ⟨code, st2, own2, hmt, post, out⟩ := temp_cycle g1 hA htf hz hco hcb hcn hcrest hcA
  rcases out with ⟨rfl, _⟩ | ⟨rfl, hmmuT, hbk2, has2, cyc⟩
  · left
    unfold pageFault
    simp only [hva, hwalk, St.rdLoc, hle, hrw, hcow, Bool.not_false, Bool.and_self, if_true, halloc, hmt]
    simp [eAlloc]
  right
  obtain ⟨_, st4, hum, tc⟩ := cyc (st2.mem.setFrame copy.toNat (pageContents st2 va)) (fun _ => rfl)
    (fun G j h => by rw [rd_setFrame, if_neg (Ne.symm h)])
  rw [pageFault_run hva hwalk (by rw [St.rdLoc, hle]; exact hrw) (by rw [St.rdLoc, hle]; exact hcow) hf hco hmt hmmuT hbk2 hum]
  simp only [St.rdLoc]
  -- the faulting page still has the entry `e`, in the same leaf table
  have o3' : own2 (frameN T3) = some (3, idxs va 3) := tc.grow.ext _ _ o3
  obtain ⟨T3', hc4, _, hle4, _⟩ := hwEntry_some tc.good.owned hu
    (show hwEntry st4.mem R va = some e by rw [tc.as va hu, if_neg hnt]; exact he)
  have hT : frameN T3' = frameN T3 :=
    tc.good.owned.inj _ _ _ (chain_own tc.good.owned hu 3 T3' (by omega) hc4) o3'
  -- the handler's last store, and the frame of the whole run: only `copy` is written outside the tree
  obtain ⟨g5, gr5, _, as5⟩ := tc.good.store_leaf hu hc4 (cowEntry e copy) va
  rw [hT] at hle4 g5 gr5 as5
  rw [hle4]
  have gx := (tc.grow.trans gr5).mono fun F (h : F = copy.toNat ∨ False) => h.elim id False.elim
  refine ⟨_, own2, rfl, g5, gx.ext, fun va' hu' => ?_, fun hold holdn holdf => ?_, gx.newfree, gx.foot, ?_, gx.sub,
    SameRegs.trans (b := st1) ⟨rfl, rfl, rfl, rfl, rfl, rfl, fun _ => rfl⟩ gx.regs⟩
  · rw [as5 va' hu']
    by_cases hs : SamePage va' va
    · rw [if_pos hs, if_pos hs, if_neg (cowEntry_present e copy)]
    · rw [if_neg hs, if_neg hs]; exact tc.as va' hu'
  · have holdn2 : own2 (frameN (e &&& hwMask)) = none :=
      stays_none post.newfree holdn (fun f hfm => holdf f (by rw [hf]; exact List.mem_cons_of_mem _ hfm))
    have hmmuF : mmu st2.mem st2.cr3 va = some (e &&& hwMask) := by
      rw [post.good.mmu_eq (by rw [post.regs.cr3]; exact hA) hu, has2 va hu hnt, he, ← hva]
      simp [pageAddr_low]
    have hsrc : pageContents st2 va = fun i => st.mem.rd (frameN (e &&& hwMask)) i := by
      rw [pageContents_of_mmu hmmuF (by rw [post.regs.backed]; exact hold)]
      funext i
      exact post.foot _ i holdn2 id
    exact ⟨fun i => by rw [gr5.foot _ i tc.fresh id, tc.filled]; simp [hsrc],
      fun i => gx.foot _ i holdn2 (fun h => holdf copy (by rw [hf]; exact List.mem_cons_self) h.symm)⟩
  · simp only [St.flush, St.wrLoc, tc.flushes]
    simp [st1]

end Firefly.Vmm
