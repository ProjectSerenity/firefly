import Firefly.Proof.AmlNestDefs
import Firefly.Proof.AmlNsRead
/-!
C11, the nested fragment: bookkeeping for the layout `Node` of a program in the pool — sizes, the top-level objects of a
node list, the fuel `connectNamedObjArgs` needs over a layout (`costN`, `needL`, linear in its size), and the namespace
entries a layout stands for.
-/
namespace Firefly.AmlParser.F
open Firefly.AmlLex Firefly.AmlTree Firefly.C13 Firefly.AmlParser Firefly.AmlParser.G Firefly.AmlParser.S
open Firefly.Gen.C12 Firefly.AmlProg Firefly.AmlNs

mutual
def sizeN : Node → Nat
  | .name _ _ _ _ _ _ => 1
  | .dev kd _ _ _ _ _ _ _ kids => 1 + kd.ws.length + sizeL kids
  | .leaf _ _ _ _ _ _ => 1
def sizeL : List Node → Nat
  | [] => 0
  | n :: ns => sizeN n + sizeL ns
end

theorem sizeN_pos (n : Node) : 1 ≤ sizeN n := by
  cases n <;> simp [sizeN] <;> omega

theorem length_le_sizeL (ns : List Node) : ns.length ≤ sizeL ns := by
  induction ns with
  | nil => simp [sizeL]
  | cons a ns ih => have := sizeN_pos a; simp only [sizeL, List.length_cons]; omega

theorem sizeN_le {n : Node} {ns : List Node} (h : n ∈ ns) : sizeN n + ns.length ≤ sizeL ns + 1 := by
  induction ns with
  | nil => cases h
  | cons m ns ih =>
    simp only [sizeL, List.length_cons]
    rcases List.mem_cons.1 h with e | h'
    · subst e
      have := length_le_sizeL ns
      omega
    · have := ih h'
      have := sizeN_pos m
      omega

mutual
theorem sizeN_prog : ∀ n : Node, sizeP n.prog = sizeN n
  | .name _ _ _ _ _ _ => by simp [Node.prog, sizeP, sizeN]
  | .dev _ _ _ _ _ _ _ _ kids => by simp [Node.prog, sizeP, sizeN, sizeL_progs kids]
  | .leaf _ _ _ _ _ _ => by simp [Node.prog, sizeP, sizeN]
theorem sizeL_progs : ∀ ns : List Node, sizePs (progs ns) = sizeL ns
  | [] => by simp [progs, sizePs, sizeL]
  | n :: ns => by simp [progs, sizePs, sizeL, sizeN_prog n, sizeL_progs ns]
end

mutual
/-- number of declarations of a node (the fixed arguments of `Processor` / `PowerResource` do not count) -/
def cntN : Node → Nat
  | .name _ _ _ _ _ _ => 1
  | .dev _ _ _ _ _ _ _ _ kids => 1 + cntL kids
  | .leaf _ _ _ _ _ _ => 1
def cntL : List Node → Nat
  | [] => 0
  | n :: ns => cntN n + cntL ns
end

mutual
theorem objs_len : ∀ n : Node, 2 * cntN n ≤ n.objs.length
  | .name _ _ _ _ _ _ => by simp [Node.objs, cntN]
  | .dev _ _ _ _ _ _ _ _ kids => by
    have := objsL_len kids
    simp only [Node.objs, cntN, List.length_append, List.length_cons, List.length_nil]
    omega
  | .leaf _ _ _ _ _ _ => by simp only [Node.objs, cntN, List.length_cons]; omega
theorem objsL_len : ∀ ns : List Node, 2 * cntL ns ≤ (objsL ns).length
  | [] => by simp [objsL, cntL]
  | n :: ns => by
    have := objs_len n
    have := objsL_len ns
    simp only [objsL, cntL, List.length_append]
    omega
end

mutual
theorem objs_ge {d : Bytes} {t : ObjectTree} {h : Nat} {dk dn : Bool} :
    ∀ (p : Nat) (n : Node), NodeOK d t h dk dn p n → sizeN n ≤ n.objs.length
  | _, .name _ _ _ _ _ _, _ => by simp [Node.objs, sizeN]
  | p, .dev kd x c sb off pw seg es kids, ok => by
    unfold NodeOK at ok
    have := objsL_ge sb kids ok.2.2
    have hel : es.length = kd.ws.length := by rw [← ok.1.wsok, List.length_map]
    simp only [Node.objs, sizeN, List.length_append, List.length_cons, List.length_nil, List.length_map]
    omega
  | _, .leaf _ _ _ _ _ _, _ => by simp [Node.objs, sizeN]
theorem objsL_ge {d : Bytes} {t : ObjectTree} {h : Nat} {dk : Bool} :
    ∀ (p : Nat) (ns : List Node), NodesOK d t h dk p ns → sizeL ns ≤ (objsL ns).length
  | _, [], _ => by simp [objsL, sizeL]
  | p, n :: ns, ok => by
    unfold NodesOK at ok
    have := objs_ge p n ok.1
    have := objsL_ge p ns ok.2
    simp only [objsL, sizeL, List.length_append]
    omega
end

def Node.x : Node → Nat
  | .name x _ _ _ _ _ => x
  | .dev _ x _ _ _ _ _ _ _ => x
  | .leaf _ x _ _ _ _ => x

theorem tops_true (ns : List Node) : tops true ns = ns.map Node.x := by
  induction ns with
  | nil => rfl
  | cons n ns ih => cases n <;> simp [tops, Node.x, ih]

theorem tops_len_le (dn : Bool) (a : List Node) : (tops dn a).length ≤ 2 * sizeL a := by
  induction a with
  | nil => simp [tops]
  | cons n a ih =>
    cases n with
    | name x c k off q =>
      simp only [tops, sizeL, sizeN, List.length_append]
      cases dn <;> simp <;> omega
    | dev kd x c sb off pw seg es kids => simp only [tops, sizeL, sizeN, List.length_cons]; omega
    | leaf kd x c off seg es => simp only [tops, sizeL, sizeN, List.length_cons]; omega

theorem objsL_append (a b : List Node) : objsL (a ++ b) = objsL a ++ objsL b := by
  induction a with
  | nil => simp [objsL]
  | cons n a ih => simp only [List.cons_append, objsL, ih, List.append_assoc]

theorem NodesOK_append {d : Bytes} {t : ObjectTree} {h : Nat} {dk : Bool} (p : Nat) (a b : List Node) :
    NodesOK d t h dk p (a ++ b) ↔ NodesOK d t h dk p a ∧ NodesOK d t h dk p b := by
  induction a with
  | nil => simp [NodesOK]
  | cons n a ih => simp only [List.cons_append, NodesOK, ih, and_assoc]

theorem len3 {α : Type} {l : List α} (h : l.length = 3) : ∃ a b c, l = [a, b, c] :=
  match l, h with
  | [a, b, c], _ => ⟨a, b, c, rfl⟩

theorem len2 {α : Type} {l : List α} (h : l.length = 2) : ∃ a b, l = [a, b] :=
  match l, h with
  | [a, b], _ => ⟨a, b, rfl⟩

mutual
/-- the fuel the reverse loop of `connectNamedObjArgs` needs when it stands at a node: a `Name` declaration is passed in two
rounds that recurse three deep; a scoped object recurses into its scope block with what is left -/
def costN : Node → Nat
  | .name _ _ _ _ _ _ => 6
  | .dev kd _ _ _ _ _ _ _ kids => 4 + max (needL kids) (max ((tops false kids).length + 2) (kd.ws.length + 3))
  | .leaf kd _ _ _ _ _ => kd.ws.length + 6
/-- … and when it stands at the last node of a list: every node is reached with the fuel the nodes behind it left -/
def needL : List Node → Nat
  | [] => 0
  | n :: ns => max (costN n + (tops false ns).length) (needL ns)
end

/-- what a budget for a scoped object is a budget for: the round on the object itself, then its contents, its scope block, its
name path and fixed arguments -/
theorem costN_dev_le {kd : BKind} {x c sb off pw : Nat} {seg : List UInt8} {es : List CArg} {kids : List Node} {g0 : Nat}
    (h : costN (.dev kd x c sb off pw seg es kids) ≤ g0) :
    ∃ g, g0 = g + 4 ∧ needL kids ≤ g ∧ (tops false kids).length + 2 ≤ g ∧ kd.ws.length + 3 ≤ g := by
  simp only [costN] at h
  obtain ⟨h1, h23⟩ := Nat.max_le.1 (Nat.le_sub_of_add_le' h)
  obtain ⟨h2, h3⟩ := Nat.max_le.1 h23
  exact ⟨g0 - 4, (Nat.sub_add_cancel (Nat.le_trans (Nat.le_add_right _ _) h)).symm, h1, h2, h3⟩

theorem needL_snoc (ns : List Node) (n : Node) :
    needL (ns ++ [n]) = max (costN n) ((tops false [n]).length + needL ns) := by
  induction ns with
  | nil => cases n <;> simp [needL, tops, costN] <;> omega
  | cons m ns ih =>
    simp only [List.cons_append, needL, ih, tops_append, List.length_append]
    omega

mutual
theorem costN_le : ∀ n : Node, costN n ≤ 6 * sizeN n + 4
  | .name _ _ _ _ _ _ => by simp [costN, sizeN]
  | .dev kd _ _ _ _ _ _ _ kids => by
    have := needL_le kids
    have := tops_len_le false kids
    simp only [costN, sizeN]
    omega
  | .leaf kd _ _ _ _ _ => by have := kd.ws_le; simp only [costN, sizeN]; omega
theorem needL_le : ∀ ns : List Node, needL ns ≤ 6 * sizeL ns + 6
  | [] => by simp [needL]
  | n :: ns => by
    have := costN_le n
    have := needL_le ns
    have := tops_len_le false ns
    have := sizeN_pos n
    simp only [needL, sizeL]
    omega
end

theorem prog_name {n : Node} {seg : List UInt8} {dv : DVal} (h : n.prog = .name seg dv) :
    ∃ x c k off, n = .name x c k off seg dv := by
  cases n with
  | name x c k off seg' dv' =>
    simp only [Node.prog, PObj.name.injEq] at h
    exact ⟨x, c, k, off, by rw [h.1, h.2]⟩
  | dev kd x c sb off pw seg' es kids => simp [Node.prog] at h
  | leaf kd x c off seg' es => simp [Node.prog] at h

theorem prog_dev {n : Node} {kd : BKind} {pw : Nat} {seg : List UInt8} {vals : List Nat} {body : List PObj}
    (h : n.prog = .dev kd pw seg vals body) :
    ∃ x c sb off es kids, n = .dev kd x c sb off pw seg es kids ∧ es.map (·.v) = vals ∧ progs kids = body := by
  cases n with
  | name x c k off seg' dv' => simp [Node.prog] at h
  | dev kd' x c sb off pw' seg' es kids =>
    simp only [Node.prog, PObj.dev.injEq] at h
    obtain ⟨rfl, rfl, rfl, hv, hk⟩ := h
    exact ⟨x, c, sb, off, es, kids, rfl, hv, hk⟩
  | leaf kd' x c off seg' es => simp [Node.prog] at h

theorem prog_leaf {n : Node} {kd : LKind} {seg : List UInt8} {vals : List Nat} (h : n.prog = .leaf kd seg vals) :
    ∃ x c off es, n = .leaf kd x c off seg es ∧ es.map (·.v) = vals := by
  cases n with
  | name x c k off seg' dv' => simp [Node.prog] at h
  | dev kd' x c sb off pw' seg' es kids => simp [Node.prog] at h
  | leaf kd' x c off seg' es =>
    simp only [Node.prog, PObj.leaf.injEq] at h
    obtain ⟨rfl, rfl, hv⟩ := h
    exact ⟨x, c, off, es, rfl, hv⟩

/-- the namespace entry of a `Name` declaration -/
def nameDesc (dv : DVal) : String := s!"name:{dv.desc}"

theorem nameDesc_int (w v : Nat) : nameDesc (.int w v) = entryDesc w v := rfl

/-- the values the constant arguments hold: reduced to their widths -/
def rvals : List Nat → List Nat → List Nat
  | n :: ws, v :: vs => v % 256 ^ n :: rvals ws vs
  | _, _ => []

/-- the description of a leaf named object in the namespace -/
def ldesc : LKind → List Nat → String
  | .event, _ => "event"
  | .mutex, vs => s!"mutex:{vs.getD 0 0}"

mutual
/-- the namespace entries of a node below the path `π` (with the pool position of the named object) -/
def entsN (π : AmlProg.Path) : Node → List (AmlProg.Path × String × Nat)
  | .name x _ _ _ seg dv => [(π ++ [nameStr (Name.ofList seg)], nameDesc dv, x)]
  | .dev kd x _ _ _ _ seg es kids =>
    (π ++ [nameStr (Name.ofList seg)], kd.tag (rvals kd.ws (es.map (·.v))), x) :: entsL (π ++ [nameStr (Name.ofList seg)]) kids
  | .leaf kd x _ _ seg es => [(π ++ [nameStr (Name.ofList seg)], ldesc kd (rvals kd.ws (es.map (·.v))), x)]
def entsL (π : AmlProg.Path) : List Node → List (AmlProg.Path × String × Nat)
  | [] => []
  | n :: ns => entsN π n ++ entsL π ns
end

end Firefly.AmlParser.F
