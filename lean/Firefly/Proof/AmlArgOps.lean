import Firefly.Proof.AmlFrames
/-!
The argument parsers of the first pass that call none of the mutually recursive functions, with their effect stated
in the frames of `Proof/AmlFrames.lean`: the field list (`parseFieldElements`) and the package length (`parsePkgLenArg`).  Both parser modes use them.
-/
namespace Firefly.AmlParser.G
open Firefly.AmlLex Firefly.AmlTree Firefly.C13 Firefly.AmlParser.S
open Firefly.Gen.C12

variable {T : Nat → Prop}

/-- what the field-list loop needs to know about its object and its insertion point -/
def FieldInv (s : PState) (curObj : Nat) (st : FieldSt) : Prop :=
  live s.tree curObj = true ∧ live s.tree st.appendAfter = true ∧ C13.P s.tree curObj ≠ INV ∧
  C13.P s.tree st.appendAfter = C13.P s.tree curObj

theorem FieldInv.mono {s s' : PState} {curObj : Nat} {st : FieldSt} {b m : Nat} (h : FieldInv s curObj st)
    (g : GrowE T b m s s') : FieldInv s' curObj st :=
  ⟨g.oldLive _ h.1, g.oldLive _ h.2.1, by rw [g.oldP _ h.1]; exact h.2.2.1,
   by rw [g.oldP _ h.2.1, g.oldP _ h.1]; exact h.2.2.2⟩

theorem fieldReserved_tot {d : Bytes} {s : PState} (h : FP d s) (st : FieldSt) :
    ∃ a s', fieldReserved d st s = .ok (a, s') ∧ FP d s' ∧ s' = { s with r := s'.r } ∧ s.r.offset ≤ s'.r.offset ∧
      (∀ st', a = .inr st' → st'.appendAfter = st.appendAfter ∧ s.r.offset < s'.r.offset) := by
  unfold fieldReserved
  refine lex_k (rel_parsePkgLength d) h fun pr r1 h1 hR => ?_
  rcases hR with ⟨hf, hr⟩ | ⟨hok, _, hlt, _, _⟩
  · rw [if_pos hf]
    exact pure_ex ⟨h1, rfl, Nat.le_of_eq (by rw [hr]), fun st' hc => by cases hc⟩
  · rw [if_neg (by rw [hok]; decide)]
    exact pure_ex ⟨h1, rfl, Nat.le_of_lt hlt, fun st' hc => by cases hc; exact ⟨rfl, hlt⟩⟩

/-- one `parseNumConstant(1)` of the access-field cases, from `s` with the reader at `r`: the case fails with it, or goes on
a byte further -/
theorem fieldNum_ex {d : Bytes} {s : PState} {r : Reader} {st : FieldSt} (h : FP d { s with r := r }) (hle : s.r.offset ≤ r.offset)
    {k : Nat × PRes → P FieldStep}
    (hk : ∀ v r1, FP d { s with r := r1 } → s.r.offset < r1.offset → ∃ a s', k v { s with r := r1 } = .ok (a, s') ∧ FP d s' ∧
      s' = { s with r := s'.r } ∧ s.r.offset ≤ s'.r.offset ∧
      (∀ st', a = .inr st' → st'.appendAfter = st.appendAfter ∧ s.r.offset < s'.r.offset)) :
    ∃ a s', (lex (parseNumConstant d 1) >>= fun v => if v.2 = .failed then pure (.inl v.2) else k v) { s with r := r } = .ok (a, s') ∧
      FP d s' ∧ s' = { s with r := s'.r } ∧ s.r.offset ≤ s'.r.offset ∧
      (∀ st', a = .inr st' → st'.appendAfter = st.appendAfter ∧ s.r.offset < s'.r.offset) := by
  refine lex_k (rel_parseNumConstant d 1) h fun v r1 h1 hR => ?_
  have hle1 : r.offset ≤ r1.offset := hR.2.1
  rcases hR.2.2.2 with ⟨hok, hoff⟩ | hf
  · rw [if_neg (by rw [hok]; decide)]
    have hoff : r1.offset = r.offset + 1 := hoff
    exact hk v r1 h1 (by omega)
  · rw [if_pos hf]
    exact pure_ex ⟨h1, rfl, Nat.le_trans hle hle1, fun st' hc => by cases hc⟩

theorem fieldAccess_tot {d : Bytes} {s : PState} (h : FP d s) (st : FieldSt) :
    ∃ a s', fieldAccess d st s = .ok (a, s') ∧ FP d s' ∧ s' = { s with r := s'.r } ∧ s.r.offset ≤ s'.r.offset ∧
      (∀ st', a = .inr st' → st'.appendAfter = st.appendAfter ∧ s.r.offset < s'.r.offset) :=
  fieldNum_ex (r := s.r) h (Nat.le_refl _) fun _ _ h1 hlt1 => fieldNum_ex h1 (Nat.le_of_lt hlt1) fun _ _ h2 hlt =>
    pure_ex ⟨h2, rfl, Nat.le_of_lt hlt, fun st' hc => by cases hc; exact ⟨rfl, hlt⟩⟩

theorem fieldExtAccess_tot {d : Bytes} {s : PState} (h : FP d s) (st : FieldSt) :
    ∃ a s', fieldExtAccess d st s = .ok (a, s') ∧ FP d s' ∧ s' = { s with r := s'.r } ∧ s.r.offset ≤ s'.r.offset ∧
      (∀ st', a = .inr st' → st'.appendAfter = st.appendAfter ∧ s.r.offset < s'.r.offset) :=
  fieldNum_ex (r := s.r) h (Nat.le_refl _) fun _ _ h1 hlt1 => fieldNum_ex h1 (Nat.le_of_lt hlt1) fun _ _ h2 hlt2 =>
    fieldNum_ex h2 (Nat.le_of_lt hlt2) fun _ _ h3 hlt =>
      pure_ex ⟨h3, rfl, Nat.le_of_lt hlt, fun st' hc => by cases hc; exact ⟨rfl, hlt⟩⟩

theorem fieldNamed_tot {d : Bytes} {s : PState} (h : FP d s) (curObj : Nat) (st : FieldSt) (hfi : FieldInv s curObj st)
    (hsz : s.tree.pool.size < INV) (hT : T (C13.P s.tree curObj)) :
    ∃ a s', fieldNamed d curObj st s = .ok (a, s') ∧ FP d s' ∧ GrowE T 1 1 s s' ∧
      (∀ st', a = .inr st' → FieldInv s' curObj st' ∧ s.r.offset + 3 < s'.r.offset) := by
  unfold fieldNamed
  refine lex_k (rel_unreadByte d) h fun _ r1 h1 hR1 => ?_
  have ho1 : r1.offset = s.r.offset - 1 := hR1.2
  have g1 : GrowE T 1 0 s { s with r := r1 } := GrowE.ofLex 1 rfl (by show _ ≤ r1.offset + 1; omega)
  obtain ⟨n, s2, s4, e2, hr2, e4, h4, f4, hr4, hop4, _⟩ := newObjectAt_step h1 opIntNamedField r1.offset hsz
    (infoOK_const (by decide))
  refine bind_ex e2 (bind_ex (lex_offset_ex s2) ?_)
  rw [hr2]
  refine bind_ex e4 ?_
  obtain ⟨b, s5, e5, h5, hp5, hoff5⟩ := readFieldName_tot (d := d) (field := n) Gen.C12.amlNameLen 0 h4 f4.liven
    (by rw [hop4]; decide)
  refine bind_ex e5 ?_
  -- up to the `appendAfter` the steps are those of a new detached object
  have f5 : Fresh1 n { s with r := r1 } s5 := f4.thenPay hp5
  have hnm5 : isK (slot s5.tree n).opcode = false := hp5.notK (by rw [hop4]; decide)
  cases b with
  | false => exact pure_ex ⟨h5, g1.trans (f5.growE hnm5), fun st' hc => by cases hc⟩
  | true =>
    simp only [Bool.not_true, Bool.false_eq_true, ↓reduceIte]
    refine lex_k (rel_parsePkgLength d) h5 fun pr r6 h6 hR6 => ?_
    have f6 : r6.pkgEnd = s5.r.pkgEnd → s5.r.offset ≤ r6.offset → Fresh1 n { s with r := r1 } { s5 with r := r6 } :=
      fun hp ho => f5.thenPay (PayOnly.ofR n s5 r6 hp ho)
    rcases hR6 with ⟨hf, hr⟩ | ⟨hok, hp, hlt, _, _⟩
    · rw [if_pos (by rw [hf]; decide)]
      exact pure_ex ⟨h6, g1.trans ((f6 (by rw [hr]) (Nat.le_of_eq (by rw [hr]))).growE hnm5), fun st' hc => by cases hc⟩
    · rw [if_neg (by rw [hok]; decide)]
      have hc5 : live s5.tree curObj = true := by rw [f5.livex _ (f5.ne hfi.1)]; exact hfi.1
      refine bind_ex (getObj_live (s := { s5 with r := r6 }) hc5) ?_
      obtain ⟨s7, e7, h7, hp7, _, hr7⟩ := upd_step h6 (obj := n) f5.liven
        (fun o => { o with value := Val.field st.nextFieldOffset pr.1 st.accessLength st.accessType st.accessAttrib st.lockType st.updateType st.connectionIndex (slot s5.tree curObj).index })
        (fun _ => rfl) Iff.rfl (h5.tree.info _ f5.liven)
      refine bind_ex e7 ?_
      have f7 : Fresh1 n { s with r := r1 } s7 := (f6 hp (Nat.le_of_lt hlt)).thenPay hp7
      have g7 : GrowE T 1 1 s s7 := g1.trans (f7.growE (hp7.notK hnm5))
      have fi7 : FieldInv s7 curObj st := hfi.mono g7
      have hpar : C13.P s7.tree curObj = (slot s5.tree curObj).parentIndex := by rw [hp7.links.p]; rfl
      have hparl : live s7.tree (C13.P s7.tree curObj) = true := (h7.tree.wf.lP fi7.1).lp.resolve_left fi7.2.2.1
      rw [← hpar]
      refine bind_ex (objectAt_live' hparl) (bind_ex (derefP_some_ex _) ?_)
      -- the parent existed before the field was created
      have hpar1 : C13.P s7.tree curObj = C13.P s.tree curObj := g7.oldP _ hfi.1
      have hparl1 : live s.tree (C13.P s.tree curObj) = true := (h.tree.wf.lP hfi.1).lp.resolve_left hfi.2.2.1
      have hna := not_anc_new h.tree.wf h7.tree.wf.size_le (fun x hx => g7.oldP x hx) f7.nlive hparl1
      rw [← hpar1] at hna
      obtain ⟨t', e8, ht', A8⟩ := treeG_appendAfter h7.tree hparl f7.liven f7.pn hna fi7.2.1 fi7.2.2.2
      have hnn : curObj ≠ n := f7.ne hfi.1
      refine bind_ex (tree_ex e8) (pure_ex ⟨h7.withTree ht' (fun x hx => by rw [A8.pay.live]; exact hx), ?_, ?_⟩)
      · exact g7.thenEdit (s2 := { s7 with tree := t' }) rfl A8.frame f7.nlive (Or.inl (by rw [hpar1]; exact hT))
      · intro st' hc
        cases hc
        refine ⟨⟨?_, ?_, ?_, ?_⟩, ?_⟩
        · show live t' curObj = true; rw [A8.pay.live]; exact fi7.1
        · show live t' n = true; rw [A8.pay.live]; exact f7.liven
        · show C13.P t' curObj ≠ INV
          rw [A8.p, if_neg hnn]; exact fi7.2.2.1
        · show C13.P t' n = C13.P t' curObj
          rw [A8.p, A8.p, if_pos rfl, if_neg hnn]
        · show s.r.offset + 3 < s7.r.offset
          have : s4.r.offset = r1.offset := by rw [hr4]
          have : s5.r.offset = s4.r.offset + 4 := hoff5 rfl
          have : s5.r.offset < r6.offset := hlt
          rw [hr7]
          show _ < r6.offset
          omega

theorem parseByteList_tot {d : Bytes} (hd : d.size + 1024 ≤ 4294967296) {s : PState} (h : FP d s) {obj : Nat}
    (ho : live s.tree obj = true) (n : Nat) (hfit : s.r.offset + n ≤ s.r.pkgEnd)
    (hcur : isK (slot s.tree obj).opcode = false) :
    ∃ a s', parseByteList d obj n s = .ok (a, s') ∧ FP d s' ∧ PayOnly obj s s' ∧ s'.r.offset = s.r.offset + n := by
  unfold parseByteList
  have hbl : isK opIntByteList = false := by decide
  obtain ⟨_, s1, e1, h1, hp1, hr1, hsl1⟩ := setOpcode_tot h ho opIntByteList (by decide) hbl hcur
  refine bind_ex e1 ?_
  have ho1 : live s1.tree obj = true := by rw [hp1.links.live]; exact ho
  obtain ⟨s2, e2, h2, hp2, _, hr2⟩ := upd_step h1 ho1
    (fun o => { o with infoIndex := pOpcodeTableIndex opIntByteList true }) (fun _ => rfl) Iff.rfl
    (by dsimp only; exact infoOK_const (by decide)) (.ofNotK (by rw [hsl1]; exact hbl) (by rw [hsl1]; exact hbl))
  refine bind_ex e2 (lex_k (rel_parseByteListRaw d n) h2 fun sl r3 h3 hR3 => ?_)
  have ho2 : live s2.tree obj = true := by rw [hp2.links.live]; exact ho1
  have hoff3 : r3.offset = s.r.offset + n := by
    rw [hR3.2, hr2, hr1]
    have h1' := h.inv.1; have h2' := h.inv.2
    have : u32 (s.r.offset + n) = s.r.offset + n := u32_id (by omega)
    rw [this]; split <;> omega
  obtain ⟨s4, e4, h4, hp4, _, hr4⟩ := upd_step h3 (obj := obj) ho2 (fun o => { o with value := sliceVal sl }) (fun _ => rfl) Iff.rfl
    (h2.tree.info obj ho2)
  exact ⟨(), s4, e4, h4, ((hp1.trans hp2).trans (PayOnly.ofR obj s2 r3 hR3.1 (by rw [hoff3, hr2, hr1]; omega))).trans hp4,
    by rw [hr4]; exact hoff3⟩

/-- the object a Connection argument parser hands back: created by it, still detached -/
def NewObj (s s' : PState) (c : Nat) : Prop := live s.tree c = false ∧ live s'.tree c = true ∧ C13.P s'.tree c = INV

theorem connName_tot {d : Bytes} (hd : d.size + 1024 ≤ 4294967296) {s : PState} (h : FP d s) (hsz : s.tree.pool.size < INV) :
    ∃ a s', connName d s = .ok (a, s') ∧ FP d s' ∧ GrowE T 1 1 s s' ∧
      (∀ c, a = .inr c → NewObj s s' c ∧ s.r.offset ≤ s'.r.offset) := by
  unfold connName
  refine lex_k (rel_unreadByte d) h fun _ r1 h1 hR1 => ?_
  have ho1 : r1.offset = s.r.offset - 1 := hR1.2
  obtain ⟨n, s2, s4, e2, hr2, e4, h4, f4, hr4, hop4, _⟩ := newObjectAt_step h1 opIntNamePath r1.offset hsz
    (infoOK_const (by decide))
  refine bind_ex e2 (bind_ex (lex_offset_ex s2) ?_)
  rw [hr2]
  refine bind_ex e4 ?_
  obtain ⟨res, s5, e5, h5, hp5, hprog, _⟩ := setNameValue_tot hd h4 f4.liven
  refine bind_ex e5 ?_
  have f5 : Fresh1 n { s with r := r1 } s5 := f4.thenPay hp5
  have g5 : GrowE T 1 1 s s5 :=
    (GrowE.ofLex (s1 := { s with r := r1 }) 1 rfl (by show _ ≤ r1.offset + 1; omega)).trans (f5.growE (hp5.notK (by rw [hop4]; decide)))
  by_cases hres : res = .ok
  · rw [if_neg (by rw [hres]; decide)]
    refine pure_ex ⟨h5, g5, fun c hc => ?_⟩
    cases hc
    refine ⟨⟨f5.nlive, f5.liven, f5.pn⟩, ?_⟩
    rcases hprog with ⟨_, hlt⟩ | hf
    · have : s4.r.offset = r1.offset := by rw [hr4]
      omega
    · rw [hres] at hf; cases hf
  · rw [if_pos hres]
    exact pure_ex ⟨h5, g5, fun c hc => by cases hc⟩

theorem connBufferLen_tot {d : Bytes} (hd : d.size + 1024 ≤ 4294967296) {s : PState} (h : FP d s) (o p : Nat) :
    ∃ a s', connBufferLen d o p s = .ok (a, s') ∧ FP d s' ∧ s' = { s with r := s'.r } ∧ s.r.offset ≤ s'.r.offset := by
  unfold connBufferLen
  refine lex_k (rel_setPkgEnd d (u32 (o + p))) h fun b r1 h1 hR1 => ?_
  have ho1 : r1.offset = s.r.offset := hR1.1
  cases b with
  | false => exact pure_ex ⟨h1, rfl, Nat.le_of_eq ho1.symm⟩
  | true =>
    simp only [Bool.not_true, Bool.false_eq_true, ↓reduceIte]
    refine lex_k (rel_nextOpcode d hd) h1 fun opr r2 h2 hR2 => ?_
    have ho2 : s.r.offset ≤ r2.offset := by
      rcases hR2 with ⟨_, _, hr⟩ | ⟨_, _, _, hlt, _⟩
      · rw [hr]; exact Nat.le_of_eq ho1.symm
      · have : r1.offset < r2.offset := hlt
        omega
    by_cases hres : opr.2 = .ok
    · rw [if_neg (by rw [hres]; decide)]
      have fin : ∀ (dl : Nat × PRes) (r3 : Reader), FP d { s with r := r3 } → s.r.offset ≤ r3.offset →
          ∃ a s', (if dl.2 = .failed then pure (.inl dl.2) else pure (.inr dl.1) : P (Sum PRes Nat)) { s with r := r3 } = .ok (a, s') ∧
            FP d s' ∧ s' = { s with r := s'.r } ∧ s.r.offset ≤ s'.r.offset := by
        intro dl r3 h3 ho3
        split
        · exact pure_ex ⟨h3, rfl, ho3⟩
        · exact pure_ex ⟨h3, rfl, ho3⟩
      have numc : ∀ n, ∃ a s', ((lex (parseNumConstant d n) : P (Nat × PRes)) >>= fun dl =>
          (if dl.2 = .failed then pure (.inl dl.2) else pure (.inr dl.1) : P (Sum PRes Nat))) { s with r := r2 } = .ok (a, s') ∧
            FP d s' ∧ s' = { s with r := s'.r } ∧ s.r.offset ≤ s'.r.offset := fun n =>
        lex_k (rel_parseNumConstant d n) h2 fun dl r3 h3 hR3 => fin dl r3 h3 (Nat.le_trans ho2 hR3.2.1)
      exact ite_ex (fun _ => numc 1) fun _ => ite_ex (fun _ => numc 2) fun _ => ite_ex (fun _ => numc 4) fun _ =>
        bind_ex (s1 := { s with r := r2 }) rfl (fin (0, PRes.ok) r2 h2 ho2)
    · rw [if_pos hres]
      exact pure_ex ⟨h2, rfl, ho2⟩

theorem connBufferFinish_tot {d : Bytes} (hd : d.size + 268435456 ≤ 4294967296) {s : PState} (h : FP d s)
    (hsz : s.tree.pool.size < INV) (origPkgEnd origOffset pkgLen dataLen : Nat) (hpl : pkgLen < 268435456)
    (hoo : origOffset ≤ d.size) :
    ∃ a s', connBufferFinish d origPkgEnd origOffset pkgLen dataLen s = .ok (a, s') ∧ FP d s' ∧
      GrowE T (s.r.offset - origOffset) 1 s s' ∧
      (∀ c, a = .inr c → NewObj s s' c ∧ origOffset ≤ s'.r.offset) := by
  have hd' : d.size + 1024 ≤ 4294967296 := by omega
  unfold connBufferFinish
  refine bind_ex (reader_ex s) ?_
  by_cases hfit : s.r.offset + dataLen > s.r.pkgEnd
  · rw [if_pos hfit]
    exact pure_ex ⟨h, (GrowE.refl s).weaken (by omega) (by decide), fun c hc => by cases hc⟩
  · rw [if_neg hfit]
    obtain ⟨n, s1, s2, e1, _, e2, h2, f2, hr2, hop2, _⟩ := newObjectAt_step h opIntByteList origOffset hsz
      (infoOK_const (by decide))
    refine bind_ex e1 (bind_ex e2 ?_)
    have hnm2 : isK (slot s2.tree n).opcode = false := by rw [hop2]; decide
    have hle : u32 dataLen ≤ dataLen := Nat.mod_le _ _
    obtain ⟨_, s3, e3, h3, hp3, hoff3⟩ := parseByteList_tot hd' h2 f2.liven (u32 dataLen) (by rw [hr2]; omega) hnm2
    refine bind_ex e3 (lex_k (rel_setPkgEnd d origPkgEnd) h3 fun _ r4 h4 _ =>
      lex_k (rel_setOffset d (u32 (origOffset + pkgLen))) h4 fun _ r5 h5 hR5 => ?_)
    have f3 : Fresh1 n s s3 := f2.thenPay hp3
    have hfin : origOffset ≤ r5.offset := by
      rw [hR5.2]
      have : u32 (origOffset + pkgLen) = origOffset + pkgLen := u32_id (by omega)
      rw [this]; split <;> omega
    refine pure_ex ⟨h5, (f3.growE (hp3.notK hnm2)).thenLex rfl (by show s.r.offset ≤ r5.offset + _; omega), fun c hc => ?_⟩
    cases hc
    exact ⟨⟨f3.nlive, f3.liven, f3.pn⟩, hfin⟩

theorem connBuffer_tot {d : Bytes} (hd : d.size + 268435456 ≤ 4294967296) {s : PState} (h : FP d s)
    (hsz : s.tree.pool.size < INV) :
    ∃ a s', connBuffer d s = .ok (a, s') ∧ FP d s' ∧ GrowE T 0 1 s s' ∧ (∀ c, a = .inr c → NewObj s s' c) := by
  have hd' : d.size + 1024 ≤ 4294967296 := by omega
  unfold connBuffer
  refine bind_ex (reader_ex s) (lex_k (rel_parsePkgLengthV d) h fun pr r1 h1 ⟨hR1, hv1⟩ => ?_)
  have hoo : s.r.offset ≤ d.size := h.inv.1
  have ho1 : s.r.offset ≤ r1.offset := by
    rcases hR1 with ⟨_, hr⟩ | ⟨_, _, hlt, _, _⟩
    · rw [hr]; exact Nat.le_refl _
    · exact Nat.le_of_lt hlt
  -- the tail starts from a state `s2` that differs from `s` in the reader only
  have conv : ∀ {s2 : PState} {a : Sum PRes Nat} {s' : PState}, s2 = { s with r := s2.r } → s.r.offset ≤ s2.r.offset →
      GrowE T (s2.r.offset - s.r.offset) 1 s2 s' → (∀ c, a = .inr c → NewObj s2 s' c ∧ s.r.offset ≤ s'.r.offset) →
      GrowE T 0 1 s s' ∧ (∀ c, a = .inr c → NewObj s s' c) := by
    intro s2 a s' hs2 ho2 gf hc
    refine ⟨((GrowE.ofLex (T := T) 0 hs2 (by omega)).trans gf).reoff ?_ (by omega), fun c hcc => ?_⟩
    · have := gf.offb; omega
    · obtain ⟨⟨q1, q2, q3⟩, _⟩ := hc c hcc
      exact ⟨by rw [hs2] at q1; exact q1, q2, q3⟩
  by_cases hres : pr.2 = .ok
  · rw [if_neg (by rw [hres]; decide)]
    by_cases hpos : pr.1 > 0
    · rw [if_pos hpos]
      obtain ⟨a2, s2, e2, h2, hs2, ho2⟩ := connBufferLen_tot hd' h1 s.r.offset pr.1
      refine bind_ex e2 ?_
      have ho2 : s.r.offset ≤ s2.r.offset := Nat.le_trans ho1 ho2
      cases a2 with
      | inl res => exact pure_ex ⟨h2, (GrowE.ofLex (T := T) (s := s) 0 hs2 ho2).weaken (Nat.le_refl _) (Nat.zero_le _), fun c hc => by cases hc⟩
      | inr dataLen =>
        obtain ⟨a, s', e3, h3, g3, hc3⟩ := connBufferFinish_tot hd h2 (by rw [hs2]; exact hsz) s.r.pkgEnd s.r.offset pr.1 dataLen hv1 hoo
        exact ⟨a, s', e3, h3, conv hs2 ho2 g3 hc3⟩
    · rw [if_neg hpos]
      obtain ⟨a, s', e3, h3, g3, hc3⟩ := connBufferFinish_tot hd h1 hsz s.r.pkgEnd s.r.offset pr.1 0 hv1 hoo
      exact ⟨a, s', e3, h3, conv rfl ho1 g3 hc3⟩
  · rw [if_pos hres]
    exact pure_ex ⟨h1, (GrowE.ofLex (T := T) 0 rfl ho1).weaken (Nat.le_refl _) (Nat.zero_le _), fun c hc => by cases hc⟩

theorem fieldConnection_tot {d : Bytes} (hd : d.size + 268435456 ≤ 4294967296) {s : PState} (h : FP d s)
    (curObj : Nat) (st : FieldSt) (hc : live s.tree curObj = true) (hsz : s.tree.pool.size + 1 < INV) (hT : T curObj) :
    ∃ a s', fieldConnection d curObj st s = .ok (a, s') ∧ FP d s' ∧ GrowE T 0 2 s s' ∧
      (∀ st', a = .inr st' → st'.appendAfter = st.appendAfter ∧ s.r.offset < s'.r.offset) := by
  have hd' : d.size + 1024 ≤ 4294967296 := by omega
  unfold fieldConnection
  refine lex_k (rel_readByte d) h fun ob r1 h1 hR1 => ?_
  rcases hR1 with ⟨hn, hr, _⟩ | ⟨b, hb, hr, hlt⟩
  · subst hn
    exact pure_ex ⟨h1, (GrowE.ofLex (T := T) 0 rfl (by rw [hr]; exact Nat.le_refl _)).weaken (Nat.le_refl _) (Nat.zero_le _),
      fun st' hc => by cases hc⟩
  · subst hb
    have ho1 : r1.offset = s.r.offset + 1 := by rw [hr]
    dsimp only
    obtain ⟨n, s2, e2, h2, f2, hr2, hnew2⟩ := newObject_step h1 opIntConnection (show s.tree.pool.size < INV by omega)
      (infoOK_const (by decide))
    refine bind_ex e2 (bind_ex (getObj_live f2.liven) ?_)
    have hnm2 : isK (slot s2.tree n).opcode = false := by rw [hnew2.1]; decide
    have g2 : GrowE T 0 1 s s2 := (GrowE.ofLex (s1 := { s with r := r1 }) 0 rfl (by show _ ≤ r1.offset + 0; omega)).trans (f2.growE hnm2)
    obtain ⟨s3, e3, h3, hs3, A3⟩ := append_step h2 h.tree.wf g2.hold hc f2.nlive f2.liven f2.pn
    refine bind_ex e3 ?_
    have g3 : GrowE T 0 1 s s3 := g2.thenEdit hs3 A3.frame f2.nlive (Or.inl hT)
    have hr3 : s3.r.offset = s.r.offset + 1 := by rw [hs3]; show s2.r.offset = _; rw [hr2]; exact ho1
    have hn3 : live s3.tree n = true := by rw [A3.pay.live]; exact f2.liven
    have hsz3 : s3.tree.pool.size < INV := by have := g3.poolUp; omega
    have arg : ∃ a s4, (if b.toNat = opBuffer then connBuffer d else connName d) s3 = .ok (a, s4) ∧ FP d s4 ∧ GrowE T 1 1 s3 s4 ∧
        (∀ c, a = .inr c → NewObj s3 s4 c ∧ s3.r.offset ≤ s4.r.offset) := by
      split
      · obtain ⟨a, s4, e4, h4, g4, hc4⟩ := connBuffer_tot hd h3 hsz3
        exact ⟨a, s4, e4, h4, g4.weaken (by decide) (Nat.le_refl _), fun c hcc => ⟨hc4 c hcc, by have := g4.offb; omega⟩⟩
      · exact connName_tot hd' h3 hsz3
    obtain ⟨a, s4, e4, h4, g4, hc4⟩ := arg
    refine bind_ex e4 ?_
    have g4' : GrowE T 1 2 s s4 := g3.trans g4
    have hoff4 : s.r.offset ≤ s4.r.offset := by have := g4.offb; omega
    cases a with
    | inl res => exact pure_ex ⟨h4, g4'.reoff (by omega) (Nat.le_refl _), fun st' hc => by cases hc⟩
    | inr connArg =>
      obtain ⟨⟨q1, q2, q3⟩, q4⟩ := hc4 connArg rfl
      obtain ⟨s5, e5, h5, hs5, A5⟩ := append_step h4 h3.tree.wf g4.hold hn3 q1 q2 q3
      have hr5 : s5.r = s4.r := by rw [hs5]
      have hq0 : live s.tree connArg = false := by
        cases hq : live s.tree connArg with
        | false => rfl
        | true => rw [g3.oldLive _ hq] at q1; cases q1
      exact bind_ex e5 (pure_ex ⟨h5, (g4'.thenEdit hs5 A5.frame hq0 (Or.inr ⟨h.tree.wf, f2.nlive⟩)).reoff (by rw [hr5]; omega) (Nat.le_refl _),
        fun st' hcc => by cases hcc; exact ⟨rfl, by rw [hr5]; omega⟩⟩)

theorem fieldStep_tot {d : Bytes} (hd : d.size + 268435456 ≤ 4294967296) {s : PState} (h : FP d s)
    (curObj : Nat) (st : FieldSt) (hfi : FieldInv s curObj st) (hsz : s.tree.pool.size + 1 < INV)
    (hne : s.r.offset < s.r.pkgEnd) (hT1 : T curObj) (hT2 : T (C13.P s.tree curObj)) :
    ∃ a s', fieldStep d curObj st s = .ok (a, s') ∧ FP d s' ∧ GrowE T 0 2 s s' ∧
      (∀ st', a = .inr st' → FieldInv s' curObj st' ∧ s.r.offset < s'.r.offset) := by
  unfold fieldStep
  refine lex_k (rel_readByte d) h fun ob r1 h1 hR1 => ?_
  rcases hR1 with ⟨_, _, hge⟩ | ⟨b, hb, hr, _⟩
  · omega
  · subst hb
    have ho1 : r1.offset = s.r.offset + 1 := by rw [hr]
    have g1 : GrowE T 0 0 s { s with r := r1 } := GrowE.ofLex 0 rfl (by show _ ≤ r1.offset + 0; omega)
    -- what a case did from the state behind the byte, seen from `s`
    have same : ∀ {m : Nat} {a : FieldStep} {s' : PState}, m ≤ 2 → FP d s' → GrowE T 0 m { s with r := r1 } s' →
        (∀ st', a = .inr st' → st'.appendAfter = st.appendAfter ∧ r1.offset < s'.r.offset) →
        FP d s' ∧ GrowE T 0 2 s s' ∧ (∀ st', a = .inr st' → FieldInv s' curObj st' ∧ s.r.offset < s'.r.offset) := by
      intro m a s' hm h' g' hc'
      refine ⟨h', (g1.trans g').weaken (by decide) (by omega), fun st' hcc => ?_⟩
      obtain ⟨q1, q2⟩ := hc' st' hcc
      have := hfi.mono (g1.trans g')
      exact ⟨⟨this.1, by rw [q1]; exact this.2.1, this.2.2.1, by rw [q1]; exact this.2.2.2⟩, by omega⟩
    refine ite_ex (fun _ => ?_) fun _ => ite_ex (fun _ => ?_) fun _ => ite_ex (fun _ => ?_) fun _ => ite_ex (fun _ => ?_) fun _ => ?_
    · obtain ⟨a, s', e, h', hs', ho', hc'⟩ := fieldReserved_tot h1 st
      exact ⟨a, s', e, same (by decide) h' (GrowE.ofLex 0 hs' ho') hc'⟩
    · obtain ⟨a, s', e, h', hs', ho', hc'⟩ := fieldAccess_tot h1 st
      exact ⟨a, s', e, same (by decide) h' (GrowE.ofLex 0 hs' ho') hc'⟩
    · obtain ⟨a, s', e, h', hs', ho', hc'⟩ := fieldExtAccess_tot h1 st
      exact ⟨a, s', e, same (by decide) h' (GrowE.ofLex 0 hs' ho') hc'⟩
    · obtain ⟨a, s', e, h', g', hc'⟩ := fieldConnection_tot hd h1 curObj st hfi.1 hsz hT1
      exact ⟨a, s', e, same (Nat.le_refl _) h' g' hc'⟩
    · obtain ⟨a, s', e, h', g', hc'⟩ := fieldNamed_tot (T := T) h1 curObj st hfi (show s.tree.pool.size < INV by omega) hT2
      have hlo : s.r.offset ≤ s'.r.offset := by have := g'.offb; show _ ≤ _; have : r1.offset ≤ s'.r.offset + 1 := this; omega
      exact ⟨a, s', e, h', (g1.trans g').reoff hlo (by decide), fun st' hcc => ⟨(hc' st' hcc).1, by have := (hc' st' hcc).2; show _ < _; have : r1.offset + 3 < s'.r.offset := this; omega⟩⟩

theorem GrowE.sgrow {m : Nat} {s s' : PState} (h : GrowE T 0 m s s') : SGrow T m s s' :=
  ⟨by have := h.offb; omega, h.pool, by have := h.poolUp; have := h.offb; omega, h.oldP, h.oldLive, h.fiK, h.kidK, h.payK, h.kfr,
   h.same⟩

/-- a step that consumed a byte pays for its (at most 16) objects -/
theorem GrowE.sgrowProg {m : Nat} {s s' : PState} (h : GrowE T 0 m s s') (hp : s.r.offset < s'.r.offset) (hm : m ≤ 16) :
    SGrow T 0 s s' :=
  ⟨by omega, h.pool, by have := h.poolUp; omega, h.oldP, h.oldLive, h.fiK, h.kidK, h.payK, h.kfr, h.same⟩

theorem fieldLoop_tot {d : Bytes} (hd : d.size + 268435456 ≤ 4294967296) (curObj : Nat) :
    ∀ (f : Nat) (st : FieldSt) {s : PState}, FP d s → FieldInv s curObj st → Bud d 2 s → d.size - s.r.offset + 1 ≤ f →
    T curObj → T (C13.P s.tree curObj) →
    ∃ res s', fieldLoop d curObj f st s = .ok (res, s') ∧ FP d s' ∧ SGrow T 2 s s' ∧
      s'.scopeStack = s.scopeStack ∧ s'.pkgEndStack = s.pkgEndStack ∧ FrmS T s s' := by
  intro f
  induction f with
  | zero => intro st s _ _ _ hf; omega
  | succ f ih =>
    intro st s h hfi hb hf hT1 hT2
    unfold fieldLoop
    refine bind_ex (lex_eof_ex s) ?_
    by_cases he : s.r.eof = true
    · rw [if_pos he]
      exact pure_ex ⟨h, (SGrow.refl s).weaken (by decide), rfl, rfl, FrmS.refl s⟩
    · rw [if_neg he]
      have hne : s.r.offset < s.r.pkgEnd := by
        unfold Reader.eof at he; simp at he; exact he
      have hsz : s.tree.pool.size + 1 < INV := by unfold Bud at hb; omega
      obtain ⟨a, s2, e2, h2, g2, hc2⟩ := fieldStep_tot (T := T) hd h curObj st hfi hsz hne hT1 hT2
      refine bind_ex e2 ?_
      cases a with
      | inl res => exact pure_ex ⟨h2, g2.sgrow, g2.scope, g2.pkg, g2.frmS⟩
      | inr st' =>
        obtain ⟨fi2, hp2⟩ := hc2 st' rfl
        have gg := g2.sgrowProg hp2 (by omega)
        have hi2 := h2.inv.1
        have hb2 : Bud d 2 s2 := budS hb gg hi2 (by omega)
        obtain ⟨res, s3, e3, h3, g3, hsc3, hpk3, fr3⟩ := ih st' h2 fi2 hb2 (by omega) hT1 (by rw [g2.oldP _ hfi.1]; exact hT2)
        exact ⟨res, s3, e3, h3, (gg.trans g3).weaken (by decide), by rw [hsc3, g2.scope], by rw [hpk3, g2.pkg],
          g2.frmS.trans fr3⟩

theorem parseFieldElements_tot {d : Bytes} (hd : d.size + 268435456 ≤ 4294967296) {s : PState} (h : FP d s) (curObj : Nat)
    (hc : live s.tree curObj = true) (hp : C13.P s.tree curObj ≠ INV) (hla : live s.tree (La s.tree curObj) = true)
    (hv : ∃ v, (slot s.tree (La s.tree curObj)).value = .u64 v) (hb : Bud d 2 s)
    (hT1 : T curObj) (hT2 : T (C13.P s.tree curObj)) :
    ∃ res s', parseFieldElements d curObj s = .ok (res, s') ∧ FP d s' ∧ SGrow T 2 s s' ∧
      s'.scopeStack = s.scopeStack ∧ s'.pkgEndStack = s.pkgEndStack ∧ FrmS T s s' := by
  unfold parseFieldElements
  refine bind_ex (getObj_live hc) ?_
  refine bind_ex (objectAt_live' hla) ?_
  refine bind_ex (derefP_some_ex _) ?_
  obtain ⟨v, hv⟩ := hv
  refine bind_ex (u64Value_ex (live_lt hla) hv) ?_
  exact fieldLoop_tot hd curObj (d.size + 1) _ h ⟨hc, hc, hp, rfl⟩ hb (by omega) hT1 hT2

/-- payload steps on `obj` up to `sm`, then steps that leave the tree alone; at most one pkgEnd is pushed, paid for by a byte -/
theorem Eff.ofPayLex {obj : Nat} {s sm s' : PState} (hp : PayOnly obj s sm) (ht : s'.tree = sm.tree)
    (ho : s.r.offset ≤ s'.r.offset) (hsc : s'.scopeStack = s.scopeStack)
    (hsame : s'.allBlocks = s.allBlocks ∧ s'.tableHandle = s.tableHandle ∧ s'.streamEnd = s.streamEnd)
    (hpk : s'.pkgEndStack = s.pkgEndStack ∨ (s'.pkgEndStack.size = s.pkgEndStack.size + 1 ∧ s.r.offset < s'.r.offset))
    (hl : live s.tree obj = true) :
    Eff (TCur s obj) 0 0 s s' ∧ SameLinks s.tree s'.tree ∧ ∀ x, x ≠ obj → slot s'.tree x = slot s.tree x := by
  have g := SGrow.ofPay (T := TCur s obj) hp (Or.inr (Or.inr rfl)) (Or.inl rfl) hl
  exact ⟨⟨⟨ho, by rw [ht]; exact g.pool, by rw [ht, hp.links.size]; omega, by rw [ht]; exact g.oldP, by rw [ht]; exact g.oldLive,
      by rw [ht]; exact g.fiK, by rw [ht]; exact g.kidK, by rw [ht]; exact g.payK,
      g.kfr.trans (KFr.ofTree ht) g.oldLive (fun x hx => by rw [ht]; exact hx), hsame⟩, Stk.ofPkg hsc ho hpk⟩,
    by rw [ht]; exact hp.links, by rw [ht]; exact hp.others⟩

/-- `case pArgTypePkgLen:`: the reader and the package-end stack change, and in the first pass, for a deferred
opcode, the `pkgEnd` of `curObj` -/
theorem parsePkgLenArg_skip {d : Bytes} (hd : d.size + 268435456 ≤ 4294967296) {s : PState} (h : FP d s) (info curObj : Nat)
    (hc : live s.tree curObj = true) (hinfo : InfoOK info) :
    ∃ a s', parsePkgLenArg d info curObj s = .ok (a, s') ∧ FP d s' ∧ a.1 = none ∧ s'.scopeStack = s.scopeStack ∧
      (Eff (TCur s curObj) 0 0 s s' ∧ SameLinks s.tree s'.tree ∧ ∀ x, x ≠ curObj → slot s'.tree x = slot s.tree x) ∧
      (slot s'.tree curObj).infoIndex = (slot s.tree curObj).infoIndex ∧
      (a.2 = .ok ∨ a.2 = .failed ∨ ∃ fl, opFlags info = some fl ∧ hasFlag fl flagDeferParsing = true) ∧
      (a.2 = .ok → s'.pkgEndStack.size = s.pkgEndStack.size + 1) ∧
      (s.allBlocks = true → s'.tree = s.tree ∧ (a.2 = .ok ∨ a.2 = .failed)) := by
  unfold parsePkgLenArg
  refine bind_ex (lex_offset_ex s) (lex_k (rel_parsePkgLengthV d) h fun pr r2 h2 hR2 => ?_)
  rcases hR2.1 with ⟨hf, hr⟩ | ⟨hok, hp, hlt2, hoff2, _⟩
  · rw [if_pos (by rw [hf]; decide)]
    have p12 := PayOnly.ofR curObj s r2 (by rw [hr]) (by rw [hr]; exact Nat.le_refl _)
    exact pure_ex ⟨h2, rfl, rfl, Eff.ofPayLex p12 rfl p12.off rfl ⟨rfl, rfl, rfl⟩ (Or.inl rfl) hc, rfl, Or.inr (Or.inl hf),
      fun hq => (by rw [hf] at hq; cases hq), fun _ => ⟨rfl, Or.inr hf⟩⟩
  · rw [if_neg (by rw [hok]; decide)]
    have p12 := PayOnly.ofR curObj s r2 hp (Nat.le_of_lt hlt2)
    have hv := hR2.2
    obtain ⟨fl, hfl⟩ := opFlags_of_info hinfo
    rw [hfl]
    refine bind_ex (optP_ex fl _) (bind_ex (allBlocks_ex _) ?_)
    have hi1 := h.inv.1
    have hu : u32 (s.r.offset + pr.1) = s.r.offset + pr.1 := u32_id (by omega)
    rw [hu]
    by_cases hdf : (!s.allBlocks) = true ∧ hasFlag fl flagDeferParsing = true
    · -- deferred: remember the end of the block and skip it
      rw [if_pos hdf]
      obtain ⟨s3, e3, h3, hp3, hsl3, hr3⟩ := upd_step h2 hc (fun o => { o with pkgEnd := s.r.offset + pr.1 }) (fun _ => rfl) Iff.rfl
        (h.tree.info curObj hc)
      refine bind_ex e3 (lex_k (rel_setOffset d (s.r.offset + pr.1)) h3 fun _ r4 h4 hR4 => pure_ex
        ⟨h4, rfl, hp3.scope, Eff.ofPayLex (p12.trans hp3) rfl ?_ hp3.scope hp3.same (Or.inl hp3.pkg) hc, by rw [hsl3],
          Or.inr (Or.inr ⟨fl, rfl, hdf.2⟩), fun hq => (by cases hq),
          fun hab => (by rw [hab] at hdf; exact absurd hdf.1 (by decide))⟩)
      show s.r.offset ≤ r4.offset
      rw [hR4.2]; split <;> omega
    · rw [if_neg hdf]
      refine bind_ex (pushPkgEnd_run d (s.r.offset + pr.1) _) ?_
      have hr3 := setEnd_inv h2.inv (s.r.offset + pr.1)
      refine ite_ex (fun _ => pure_ex ?_) fun _ => pure_ex ?_
      all_goals refine ⟨⟨hr3.1, h.tree, h.scopes⟩, rfl, rfl, Eff.ofPayLex p12 rfl (by rw [hr3.2]; exact Nat.le_of_lt hlt2) rfl ⟨rfl, rfl, rfl⟩
        (Or.inr ⟨Array.size_push _, by rw [hr3.2]; exact hlt2⟩) hc, rfl, ?_, fun _ => Array.size_push _, fun _ => ⟨rfl, ?_⟩⟩
      · exact Or.inr (Or.inl rfl)
      · exact Or.inr rfl
      · exact Or.inl rfl
      · exact Or.inl rfl

end Firefly.AmlParser.G
