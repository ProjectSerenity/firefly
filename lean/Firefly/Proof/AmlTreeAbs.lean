import Firefly.Proof.AmlTreeOps
/-!
Lemmas for C13: the effect of the editing operations on the abstract forest (`abs`): the child list of a live object is the
sibling chain from its first argument (`WF.kids_of_chain`), so each edit record of `AmlTreeOps` gives the new child lists by a
chain lemma (`chain_snoc`, `chain_erase`, `chain_insert`).  In `AmlParser.F`, for the C11 fragments, the converse: the links of a
well-formed pool read off its child lists `K`.
-/
namespace Firefly.C13
open Firefly.AmlTree Firefly.AmlTree.ObjectTree
open Firefly.AmlParser (pay_name)

theorem WF.kids_chain {t : ObjectTree} (w : WF t) {p : Nat} (hl : live t p = true) :
    Chain t (Nx t) (Fi t p) ((abs t).kids p) := (w.args_eq hl).1

theorem WF.kids_of_chain {t : ObjectTree} (w : WF t) {p : Nat} (hl : live t p = true) {l : List Nat}
    (hc : Chain t (Nx t) (Fi t p) l) : (abs t).kids p = l :=
  chain_det (Nx t) w.size_le _ _ _ (w.kids_chain hl) hc

theorem WF.mem_of_chain {t : ObjectTree} (w : WF t) {p y : Nat} (hl : live t p = true) {l : List Nat}
    (hc : Chain t (Nx t) (Fi t p) l) (hy : live t y = true) (hp : P t y = p) : y ∈ l := by
  have := (w.kids_mem p hl y).2 ⟨hy, hp⟩
  rwa [w.kids_of_chain hl hc] at this

theorem WF.chain_nodup {t : ObjectTree} (w : WF t) (l : List Nat) (a : Nat) (hc : Chain t (Nx t) a l) : l.Nodup := by
  obtain ⟨pos, hpos⟩ := w.order
  exact chain_nodup_of_lt w.size_le (fun a b => pos a < pos b) (fun _ => Nat.lt_irrefl _) (fun _ _ _ => Nat.lt_trans)
    hpos l a hc

theorem chain_snoc {t t' : ObjectTree} {arg : Nat} (hsz : t.pool.size ≤ INV) (hla : live t' arg = true)
    (hna : Nx t' arg = INV) :
    ∀ (l : List Nat) (a : Nat), Chain t (Nx t) a l →
      (∀ x ∈ l, live t' x = true ∧ Nx t' x = if Nx t x = INV then arg else Nx t x) →
      Chain t' (Nx t') (if l = [] then arg else a) (l ++ [arg]) := by
  intro l
  induction l with
  | nil => intro a _ _; exact ⟨rfl, hla, hna⟩
  | cons x xs ih =>
    intro a hc hs
    obtain ⟨rfl, _, hc'⟩ := hc
    have hx := hs a (by simp)
    simp only [List.cons_ne_nil, if_false, List.cons_append]
    refine ⟨rfl, hx.1, ?_⟩
    have := ih (Nx t a) hc' (fun y hy => hs y (by simp [hy]))
    cases xs with
    | nil =>
      have h0 : Nx t a = INV := hc'
      rw [hx.2, h0]; simpa using this
    | cons y ys =>
      obtain ⟨hy, hyl, _⟩ := id hc'
      have hne : Nx t a ≠ INV := by rw [hy]; exact live_ne_INV hsz hyl
      rw [hx.2]; simp only [hne, if_false]
      simpa using this

theorem chain_mem_of_next {t : ObjectTree} (hs : t.pool.size ≤ INV) :
    ∀ (l : List Nat) (a y : Nat), Chain t (Nx t) a l → y ∈ l → live t (Nx t y) = true → Nx t y ∈ l := by
  intro l a y hc hy hl
  exact chain_succ_mem l a y hc hy (live_ne_INV hs hl)

theorem chain_erase {t t' : ObjectTree} {arg : Nat} (hs : t.pool.size ≤ INV) (hla : live t arg = true) :
    ∀ (l : List Nat) (a : Nat), Chain t (Nx t) a l → l.Nodup →
      (∀ x ∈ l, x ≠ arg → live t' x = true ∧ Nx t' x = if Nx t x = arg then Nx t arg else Nx t x) →
      Chain t' (Nx t') (if a = arg then Nx t arg else a) (l.erase arg) := by
  intro l
  induction l with
  | nil =>
    intro a hc _ _
    have h0 : a = INV := hc
    have : a ≠ arg := by rw [h0]; exact (live_ne_INV hs hla).symm
    simp only [this, if_false, List.erase_nil]
    exact h0
  | cons x xs ih =>
    intro a hc hnd hsame
    obtain ⟨rfl, hl, hc'⟩ := id hc
    rw [List.nodup_cons] at hnd
    by_cases hx : a = arg
    · subst hx
      simp only [if_true, List.erase_cons_head]
      apply chain_congr xs _ hc'
      intro y hy
      have hya : y ≠ a := fun e => hnd.1 (e ▸ hy)
      have := hsame y (by simp [hy]) hya
      refine ⟨this.1, ?_⟩
      rw [this.2]
      have : Nx t y ≠ a := by
        intro e
        have := chain_succ_mem xs _ y hc' hy (by rw [e]; exact live_ne_INV hs hl)
        rw [e] at this; exact hnd.1 this
      simp [this]
    · have hne : (a == arg) = false := by simpa using hx
      simp only [hx, if_false, List.erase_cons, hne, Bool.false_eq_true]
      have hsx := hsame a (by simp) hx
      refine ⟨rfl, hsx.1, ?_⟩
      rw [hsx.2]
      exact ih (Nx t a) hc' hnd.2 (fun y hy hya => hsame y (by simp [hy]) hya)

theorem chain_insert {t t' : ObjectTree} {arg n : Nat} (hla : live t' arg = true)
    (hna : Nx t' arg = Nx t n) :
    ∀ (l : List Nat) (a : Nat), Chain t (Nx t) a l → l.Nodup →
      (∀ x ∈ l, live t' x = true ∧ Nx t' x = if x = n then arg else Nx t x) →
      Chain t' (Nx t') a (insertAfter n arg l) := by
  intro l
  induction l with
  | nil => intro a hc _ _; exact hc
  | cons x xs ih =>
    intro a hc hnd hsame
    obtain ⟨rfl, _, hc'⟩ := hc
    rw [List.nodup_cons] at hnd
    have hsx := hsame a (by simp)
    by_cases hx : a = n
    · subst hx
      simp only [insertAfter, if_true]
      refine ⟨rfl, hsx.1, ?_⟩
      rw [hsx.2]; simp only [if_true]
      refine ⟨rfl, hla, ?_⟩
      rw [hna]
      apply chain_congr xs _ hc'
      intro y hy
      have := hsame y (by simp [hy])
      have hyn : y ≠ a := fun e => hnd.1 (by rw [← e]; exact hy)
      exact ⟨this.1, by rw [this.2]; simp [hyn]⟩
    · simp only [insertAfter, hx, if_false]
      refine ⟨rfl, hsx.1, ?_⟩
      rw [hsx.2]; simp only [hx, if_false]
      exact ih _ hc' hnd.2 (fun y hy => hsame y (by simp [hy]))

theorem _root_.Firefly.AmlParser.SamePay.ids {t t' : ObjectTree} (h : AmlParser.SamePay t t') :
    (abs t').ids = (abs t).ids := by
  simp only [abs, h.size]
  congr 1
  funext x
  exact h.live x

theorem kids_same {t t' : ObjectTree} (w : WF t) (w' : WF t') (hlive : ∀ x, live t x = true → live t' x = true)
    {p : Nat} (hl : live t p = true) (hfi : Fi t' p = Fi t p)
    (hnx : ∀ x, live t x = true → P t x = p → Nx t' x = Nx t x) :
    (abs t').kids p = (abs t).kids p := by
  have hc := w.kids_chain hl
  apply w'.kids_of_chain (hlive p hl)
  rw [hfi]
  apply chain_congr _ _ hc
  intro x hx
  have := (w.kids_mem p hl x).1 hx
  exact ⟨hlive x this.1, hnx x this.1 this.2⟩

theorem kids_nil_iff {t : ObjectTree} (w : WF t) {p : Nat} (hl : live t p = true) :
    (abs t).kids p = [] ↔ Fi t p = INV := by
  have hc := w.kids_chain hl
  constructor
  · intro h; rw [h] at hc; exact hc
  · intro h
    cases hk : (abs t).kids p with
    | nil => rfl
    | cons y ys =>
      rw [hk] at hc
      obtain ⟨e, hy, _⟩ := hc
      exact absurd (e ▸ h : y = INV) (live_ne_INV w.size_le hy)

theorem _root_.Firefly.AmlParser.KeepsArgs.kids {t t' : ObjectTree} {x : Nat} (a : Firefly.AmlParser.KeepsArgs t t' x) (w : WF t)
    (w' : WF t') (hlive : ∀ y, live t y = true → live t' y = true) (hx : live t x = true) : (abs t').kids x = (abs t).kids x :=
  kids_same w w' hlive hx a.fi fun k hk hp => (a.kid k hk hp).2.1

theorem LinkFrame.kids {t t' : ObjectTree} {M S : Nat → Prop} (f : LinkFrame t t' M S) (w : WF t) (w' : WF t') {p : Nat}
    (hl : live t p = true) (hS : ¬ S p) (hM : ∀ x, M x → P t x ≠ p) : (abs t').kids p = (abs t).kids p :=
  (f.keepsArgs hS hM).kids w w' (fun x h => by rw [f.pay.live]; exact h) hl

theorem Spliced.kids_last {t t' : ObjectTree} {obj arg : Nat} (s : Spliced t t' obj arg (La t obj) INV) (w : WF t)
    (w' : WF t') :
    ∀ p, live t p = true → (abs t').kids p = if p = obj then (abs t).kids obj ++ [arg] else (abs t).kids p := by
  intro p hl
  have hlive := s.pay.live
  have hp := s.par
  have hinv : ∀ j, live t j = true → j ≠ INV := fun j hj => live_ne_INV w.size_le hj
  have lpo := w.lP s.lo
  by_cases hpo : p = obj
  · subst hpo
    simp only [if_true]
    have hc := w.kids_chain hl
    apply w'.kids_of_chain (by rw [hlive]; exact hl)
    have hstart : Fi t' p = if (abs t).kids p = [] then arg else Fi t p := by
      rw [s.fi]
      have h1 := kids_nil_iff w hl
      by_cases hk : (abs t).kids p = []
      · have := lpo.ends.1 (h1.1 hk); simp [hk, this]
      · have : ¬ La t p = INV := fun e => hk (h1.2 (lpo.ends.2 e)); simp [hk, this]
    rw [hstart]
    apply chain_snoc w.size_le (by rw [hlive]; exact s.lv) (by rw [s.nx]; simp) _ _ hc
    intro x hx
    obtain ⟨hxl, hxp⟩ := (w.kids_mem p hl x).1 hx
    have hxa : x ≠ arg := fun e => by rw [e, hp] at hxp; exact hinv _ hl hxp.symm
    refine ⟨by rw [hlive]; exact hxl, ?_⟩
    rw [s.nx]; simp only [hxa, if_false]
    have lpx := w.lP hxl
    by_cases hn : Nx t x = INV
    · have := lpx.last (by rw [hxp]; exact hinv _ hl) hn
      rw [hxp] at this
      simp [hn, this, hinv _ hxl]
    · have : ¬ (x = La t p ∧ La t p ≠ INV) := fun ⟨e, h⟩ => hn (by rw [e]; exact (lpo.la h).2)
      simp [hn, this]
  · rw [if_neg hpo]
    exact s.frame.kids w w' hl hpo fun x e => by rw [e, hp]; exact (hinv _ hl).symm

/-- taking `arg` out of the argument list of `p`, or leaving the list alone if `arg` is not in it -/
theorem kids_erase {t t' : ObjectTree} (w : WF t) (w' : WF t') {arg p : Nat} (ha : live t arg = true) (hl : live t p = true)
    (hl' : live t' p = true) (hlive : ∀ x, x ≠ arg → live t x = true → live t' x = true)
    (hnx : ∀ x, x ≠ arg → live t x = true → Nx t' x = if x = Pv t arg ∧ Pv t arg ≠ INV then Nx t arg else Nx t x)
    (hfi : Fi t' p = if Fi t p = arg then Nx t arg else Fi t p) :
    (abs t').kids p = ((abs t).kids p).erase arg := by
  have hinv : ∀ {j}, live t j = true → j ≠ INV := live_ne_INV w.size_le
  have lpa := w.lP ha
  have hc := w.kids_chain hl
  apply w'.kids_of_chain hl'
  rw [hfi]
  apply chain_erase w.size_le ha _ _ hc (w.chain_nodup _ _ hc)
  intro x hx hxa
  have hxl := ((w.kids_mem p hl x).1 hx).1
  refine ⟨hlive x hxa hxl, ?_⟩
  rw [hnx x hxa hxl]
  by_cases hn : Nx t x = arg
  · have := ((w.lP hxl).nx (by rw [hn]; exact hinv ha)).1
    rw [hn] at this
    simp [hn, this, hinv hxl]
  · have : ¬ (x = Pv t arg ∧ Pv t arg ≠ INV) := fun ⟨e, h⟩ => hn (by rw [e]; exact (lpa.pv h).1)
    simp [hn, this]

theorem Unlinked.kids {t t' : ObjectTree} {obj arg : Nat} (u : Unlinked t t' obj arg) (w : WF t) (w' : WF t') :
    ∀ p, live t p = true → (abs t').kids p = if p = obj then ((abs t).kids obj).erase arg else (abs t).kids p := by
  intro p hl
  have hlive := u.pay.live
  by_cases hpo : p = obj
  · subst hpo
    rw [if_pos rfl]
    exact kids_erase w w' u.lv hl (by rw [hlive]; exact hl) (fun x _ hx => by rw [hlive]; exact hx)
      (fun x hxa _ => by rw [u.nx, if_neg hxa]) (by rw [u.fi]; simp)
  · rw [if_neg hpo]
    exact (u.frame w).kids w w' hl hpo fun x e => by rw [e, u.par]; exact fun c => hpo c.symm

theorem Moved.kids {t t2 : ObjectTree} {T m : Nat} (e : Moved t t2 T m) (hT : T ≠ P t m) :
    ∀ q, live t q = true → (abs t2).kids q =
      if q = T then (abs t).kids T ++ [m] else if q = P t m then ((abs t).kids (P t m)).erase m else (abs t).kids q := by
  obtain ⟨t1, u, a⟩ := e.edits
  have w1 := u.wf e.wf e.lp
  have hl1 := u.pay.live
  intro q hq
  rw [a.kids_last w1 e.wf2 q (by rw [hl1]; exact hq), u.kids e.wf w1 q hq, u.kids e.wf w1 T (by rw [← hl1]; exact a.lo),
    if_neg hT]

theorem Freed.kids {t t' : ObjectTree} {obj : Nat} (f : Freed t t' obj) (w : WF t) (w' : WF t') (ho : live t obj = true) :
    ∀ p, live t p = true → p ≠ obj → (abs t').kids p = ((abs t).kids p).erase obj := by
  intro p hl hpo
  have lv' : ∀ x, x ≠ obj → live t x = true → live t' x = true := fun x hx h => by rw [f.lv, h]; simp [hx]
  refine kids_erase w w' ho hl (lv' p hpo hl) lv' (fun x hx _ => f.nx x hx) ?_
  rw [f.fi p hpo hl]
  by_cases h : Fi t p = obj
  · have := ((w.lP hl).fi (by rw [h]; exact live_ne_INV w.size_le ho)).1
    rw [h] at this
    rw [if_pos ⟨this.symm, h⟩, if_pos h]
  · rw [if_neg fun c => h c.2, if_neg h]

theorem Spliced.kids_after {t t' : ObjectTree} {obj arg a b : Nat} (s : Spliced t t' obj arg a b) (w : WF t) (w' : WF t')
    (ha : a ≠ INV) :
    ∀ p, live t p = true → (abs t').kids p = if p = obj then insertAfter a arg ((abs t).kids obj) else (abs t).kids p := by
  intro p hl
  have hlive := s.pay.live
  have hp := s.par
  have hinv : ∀ j, live t j = true → j ≠ INV := fun j hj => live_ne_INV w.size_le hj
  by_cases hpo : p = obj
  · subst hpo
    simp only [if_true]
    have hc := w.kids_chain hl
    apply w'.kids_of_chain (by rw [hlive]; exact hl)
    rw [s.fi, if_neg fun c => ha c.2]
    apply chain_insert (by rw [hlive]; exact s.lv) (by rw [s.nx, if_pos rfl, (s.na ha).2.2]) _ _ hc (w.chain_nodup _ _ hc)
    intro x hx
    obtain ⟨hxl, hxp⟩ := (w.kids_mem p hl x).1 hx
    have hxa : x ≠ arg := fun e => by rw [e, hp] at hxp; exact hinv _ hl hxp.symm
    exact ⟨by rw [hlive]; exact hxl, by rw [s.nx]; simp [hxa, ha]⟩
  · rw [if_neg hpo]
    exact s.frame.kids w w' hl hpo fun x e => by rw [e, hp]; exact (hinv _ hl).symm

theorem kids_fresh {t t' : ObjectTree} (w : WF t) (w' : WF t') {n : Nat} (hn : live t n = false)
    (same : ∀ x, x ≠ n → slot t' x = slot t x) (livex : ∀ x, x ≠ n → live t' x = live t x) {p : Nat}
    (hl : live t p = true) : (abs t').kids p = (abs t).kids p := by
  have ne : ∀ {x}, live t x = true → x ≠ n := fun hx e => by rw [e, hn] at hx; cases hx
  exact kids_same w w' (fun x hx => by rw [livex x (ne hx)]; exact hx) hl (by simp [Fi, same p (ne hl)])
    fun x hx _ => by simp [Nx, same x (ne hx)]

theorem Fresh.mem_ids {t t' : ObjectTree} {n : Nat} (fr : Fresh t t' n) (x : Nat) :
    x ∈ (abs t').ids ↔ (x ∈ (abs t).ids ∨ x = n) := by
  rw [C13.mem_ids, C13.mem_ids]
  by_cases hx : x = n
  · subst hx; simp [fr.liven]
  · rw [fr.livex x hx]; simp [hx]

end Firefly.C13

namespace Firefly.AmlParser.F
open Firefly.AmlTree Firefly.C13

abbrev K (t : ObjectTree) (p : Nat) : List Nat := (C13.abs t).kids p

theorem list_snoc_cases {α : Type} (l : List α) : l = [] ∨ ∃ l' a, l = l' ++ [a] :=
  (List.eq_nil_or_concat l).imp id fun ⟨l', a, e⟩ => ⟨l', a, e.trans List.concat_eq_append⟩

def lastOf (l : List Nat) : Nat := l.getLast?.getD INV

theorem lastOf_snoc (l : List Nat) (a : Nat) : lastOf (l ++ [a]) = a := by simp [lastOf]

theorem la_of_last {t : ObjectTree} (w : WF t) {c x : Nat} (hl : live t c = true) (hp : C13.P t c = x) (hx : x ≠ INV)
    (hn : Nx t c = INV) : La t x = c := by
  have := (w.lP hl).last (by rw [hp]; exact hx) hn
  rw [hp] at this; exact this

theorem first_of_kids {t : ObjectTree} (w : WF t) {p a : Nat} {l : List Nat} (hl : live t p = true) (hk : K t p = a :: l) :
    Fi t p = a := by
  have hc := w.kids_chain hl
  rw [show (C13.abs t).kids p = a :: l from hk] at hc
  exact hc.1

theorem fi_of_nil {t : ObjectTree} (w : WF t) {p : Nat} (hl : live t p = true) (hk : K t p = []) : Fi t p = INV :=
  (kids_nil_iff w hl).1 hk

theorem la_of_nil {t : ObjectTree} (w : WF t) {p : Nat} (hl : live t p = true) (hk : K t p = []) : La t p = INV :=
  (w.lP hl).ends.1 (fi_of_nil w hl hk)

theorem chain_nx {t : ObjectTree} : ∀ (pre : List Nat) (a y : Nat) (post : List Nat), Chain t (Nx t) a (pre ++ y :: post) →
    Nx t y = post.head?.getD INV ∧ live t y = true := by
  intro pre
  induction pre with
  | nil =>
    intro a y post hc
    obtain ⟨_, hy, hc'⟩ := hc
    refine ⟨?_, hy⟩
    cases post with
    | nil => exact hc'
    | cons z zs => exact hc'.1
  | cons b pre ih =>
    intro a y post hc
    obtain ⟨_, _, hc'⟩ := hc
    exact ih _ y post hc'

theorem chain_pv {t : ObjectTree} (w : WF t) : ∀ (pre : List Nat) (a y : Nat) (post : List Nat), pre ≠ [] →
    Chain t (Nx t) a (pre ++ y :: post) → Pv t y = pre.getLast?.getD INV := by
  intro pre
  induction pre with
  | nil => intro _ _ _ h; exact absurd rfl h
  | cons b pre ih =>
    intro a y post _ hc
    obtain ⟨_, hb, hc'⟩ := hc
    cases pre with
    | nil =>
      obtain ⟨hy, hyl, _⟩ := hc'
      have hne : Nx t b ≠ INV := by rw [hy]; exact live_ne_INV w.size_le hyl
      have := ((w.lP hb).nx hne).1
      rw [hy] at this
      simpa using this
    | cons b' pre' =>
      have := ih (Nx t b) y post (by simp) hc'
      simpa using this

theorem nx_of_kids {t : ObjectTree} (w : WF t) {p : Nat} (hl : live t p = true) {pre post : List Nat} {y : Nat}
    (hk : K t p = pre ++ y :: post) : Nx t y = post.head?.getD INV := by
  have hc := w.kids_chain hl
  rw [show (C13.abs t).kids p = pre ++ y :: post from hk] at hc
  exact (chain_nx pre _ y post hc).1

theorem pv_of_kids {t : ObjectTree} (w : WF t) {p : Nat} (hl : live t p = true) {pre post : List Nat} {y : Nat}
    (hk : K t p = pre ++ y :: post) : Pv t y = pre.getLast?.getD INV := by
  have hc := w.kids_chain hl
  rw [show (C13.abs t).kids p = pre ++ y :: post from hk] at hc
  cases pre with
  | nil =>
    obtain ⟨hf, hyl, _⟩ := hc
    have hne : Fi t p ≠ INV := by rw [hf]; exact live_ne_INV w.size_le hyl
    have := ((w.lP hl).fi hne).2
    rw [hf] at this
    simpa using this
  | cons b pre => exact chain_pv w (b :: pre) _ y post (by simp) hc

theorem la_of_kids {t : ObjectTree} (w : WF t) {p : Nat} (hl : live t p = true) {pre : List Nat} {y : Nat}
    (hk : K t p = pre ++ [y]) : La t p = y := by
  have hy := (w.kids_mem p hl y).1 (by rw [show (C13.abs t).kids p = pre ++ [y] from hk]; simp)
  have hnx := nx_of_kids w hl hk
  exact la_of_last w hy.1 hy.2 (live_ne_INV w.size_le hl) (by simpa using hnx)

theorem K_mem {t : ObjectTree} (w : WF t) {p : Nat} (hl : live t p = true) (k : Nat) :
    k ∈ K t p ↔ (live t k = true ∧ C13.P t k = p) := w.kids_mem p hl k

theorem la_eq_lastOf {t : ObjectTree} (w : WF t) {p : Nat} (hl : live t p = true) : La t p = lastOf (K t p) := by
  rcases list_snoc_cases (K t p) with e | ⟨l', a, e⟩
  · rw [e]; exact la_of_nil w hl e
  · rw [e, lastOf_snoc]; exact la_of_kids w hl e

end Firefly.AmlParser.F
