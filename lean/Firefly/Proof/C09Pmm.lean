import Firefly.Proof.Locked
import Firefly.Proof.PmmHistory
/-! The bitmap allocator as a lock-protected object: `AllocFrame` / `FreeFrame` as micro-step
operations of the machine of `Model/Locked.lean`, and what the sequential theorems of C01/C03 give
for every sequential run that the concurrent machine can be linearized to. -/
namespace Firefly.Locked.Pmm
open Firefly.Locked Firefly.Pmm

/-- thread-local scratch of a call: nothing yet / result of the scan (`AllocFrame`) / result of
`poolForFrame` (`FreeFrame`) / the value returned -/
inductive Scratch where
  | start
  | scanned (r : Option (Nat × Nat × Nat))
  | looked (r : Option Nat)
  | done (o : Out)
deriving Repr, DecidableEq

/-- `AllocFrame` between `Acquire` and `Release`: the scan, then the three writes -/
def allocOp : MicroOp Bitmap Scratch where
  init := .start
  steps := [
    fun x => (x.1, .scanned (allocScan x.1.pools 0)),
    fun x => match x.2 with
      | .scanned none => (x.1, .done .oom)
      | .scanned (some (i, blk, off)) =>
        match x.1.pools[i]? with
        | none => (x.1, .done .oom)
        | some p => ({ x.1 with pools := x.1.pools.set i (p.take blk off), reserved := inc32 x.1.reserved },
                     .done (.frame (p.start + (blk * 64 + off))))
      | other => (x.1, other)]

/-- `FreeFrame f` between `Acquire` and `Release`: `poolForFrame`, then the test and the three writes -/
def freeOp (f : Nat) : MicroOp Bitmap Scratch where
  init := .start
  steps := [
    fun x => (x.1, .looked (poolForFrame x.1.pools f)),
    fun x => match x.2 with
      | .looked none => (x.1, .done (.freeRes .notManaged))
      | .looked (some i) =>
        match x.1.pools[i]? with
        | none => (x.1, .done (.freeRes .panic))
        | some p =>
          match p.words[(f - p.start) / 64]? with
          | none => (x.1, .done (.freeRes .panic))
          | some w =>
            if w &&& bitMask (f - p.start) = 0 then (x.1, .done (.freeRes .doubleFree)) else
            ({ x.1 with pools := x.1.pools.set i (p.give (f - p.start)), reserved := dec32 x.1.reserved },
             .done (.freeRes .ok))
      | other => (x.1, other)]

def pmmSem : Op → MicroOp Bitmap Scratch
  | .alloc => allocOp
  | .free f => freeOp f

/-- executed alone, the micro-step operations are the sequential `AllocFrame` / `FreeFrame` of C01 -/
theorem pmmSem_run (o : Op) (bm : Bitmap) : (pmmSem o).run bm = ((stepOp bm o).1, .done (stepOp bm o).2) := by
  cases o with
  | alloc =>
    simp only [pmmSem, MicroOp.run, allocOp, exec, List.foldl_cons, List.foldl_nil, stepOp, alloc]
    rcases allocScan bm.pools 0 with _ | ⟨i, blk, off⟩
    · rfl
    · simp only
      cases bm.pools[i]? <;> rfl
  | free f =>
    simp only [pmmSem, MicroOp.run, freeOp, exec, List.foldl_cons, List.foldl_nil, stepOp, free]
    cases poolForFrame bm.pools f with
    | none => rfl
    | some i =>
      simp only
      cases bm.pools[i]? with
      | none => rfl
      | some p =>
        simp only
        cases p.words[(f - p.start) / 64]? with
        | none => rfl
        | some w => simp only; split <;> rfl

/-- the allocator shared by the threads; `client` decides what every thread does next -/
def pmmSys (client : Nat → List (Op × Scratch) → Option Op) : Sys Bitmap Scratch Op :=
  { sem := pmmSem, client := client }

def heldUpd (H : List Nat) (o : Op) (r : Scratch) : List Nat :=
  match r with
  | .done out => heldStep H o out
  | _ => H

/-- the frames a thread holds according to its own history: returned by one of its `AllocFrame`
calls and not passed to a successful `FreeFrame` of its own since -/
def heldOf (h : List (Op × Scratch)) : List Nat := h.foldl (fun H e => heldUpd H e.1 e.2) []

/-- caller contract: a thread frees only frames it holds.  Stronger than `Pmm.Contract` of C01/C03, which also lets a
caller pass a free or unmanaged frame (and be refused) -/
def WellBehaved (client : Nat → List (Op × Scratch) → Option Op) : Prop :=
  ∀ i h f, client i h = some (.free f) → f ∈ heldOf h

def globalHeld (tr : List (Nat × Op × Scratch)) : List Nat := tr.foldl (fun H e => heldUpd H e.2.1 e.2.2) []

theorem globalHeld_snoc (tr : List (Nat × Op × Scratch)) (i : Nat) (o : Op) (r : Scratch) :
    globalHeld (tr ++ [(i, o, r)]) = heldUpd (globalHeld tr) o r := by
  simp [globalHeld, List.foldl_append]

theorem heldOf_snoc (j i : Nat) (o : Op) (r : Scratch) (tr : List (Nat × Op × Scratch)) :
    heldOf (histOf j (tr ++ [(i, o, r)])) =
      if i = j then heldUpd (heldOf (histOf j tr)) o r else heldOf (histOf j tr) := by
  rw [histOf_append]
  by_cases h : i = j
  · simp [h, heldOf, List.foldl_append]
  · simp [h]

structure SeqInv (s0 bm : Bitmap) (tr : List (Nat × Op × Scratch)) : Prop where
  sim : Sim (isFree s0) bm (globalHeld tr)
  mem : ∀ f, f ∈ globalHeld tr ↔ ∃ j, f ∈ heldOf (histOf j tr)
  disj : ∀ j k f, f ∈ heldOf (histOf j tr) → f ∈ heldOf (histOf k tr) → j = k
  nodup : ∀ j, (heldOf (histOf j tr)).Nodup
  total : bm.total = s0.total
  reserved : bm.reserved = s0.reserved + (globalHeld tr).length

theorem seqInv_nil {s0 : Bitmap} (hI : Inv s0) : SeqInv s0 s0 [] :=
  ⟨sim_init hI, fun f => by simp [globalHeld, heldOf, histOf], fun j k f h => by simp [heldOf, histOf] at h,
   fun j => by simp [heldOf, histOf], rfl, by simp [globalHeld]⟩

/-- the per-thread lists `L` partition the list `G` -/
structure Parts (G : List Nat) (L : Nat → List Nat) : Prop where
  mem : ∀ f, f ∈ G ↔ ∃ j, f ∈ L j
  disj : ∀ j k f, f ∈ L j → f ∈ L k → j = k
  nodup : ∀ j, (L j).Nodup

theorem Parts.cons {G : List Nat} {L : Nat → List Nat} (h : Parts G L) {f : Nat} (hf : f ∉ G) (i : Nat) :
    Parts (f :: G) fun j => if i = j then f :: L j else L j := by
  have hfj : ∀ j, f ∉ L j := fun j hm => hf ((h.mem f).2 ⟨j, hm⟩)
  have hsub : ∀ j g, g ∈ (if i = j then f :: L j else L j) → g = f ∧ i = j ∨ g ∈ L j := by
    intro j g hg
    split at hg
    · next e => exact (List.mem_cons.1 hg).imp (fun hgf => ⟨hgf, e⟩) id
    · exact Or.inr hg
  refine ⟨fun g => ?_, fun j k g hj hk => ?_, fun j => ?_⟩
  · rw [List.mem_cons, h.mem g]
    constructor
    · rintro (rfl | ⟨j, hj⟩)
      · exact ⟨i, by simp⟩
      · refine ⟨j, ?_⟩
        split
        · exact List.mem_cons_of_mem _ hj
        · exact hj
    · rintro ⟨j, hj⟩
      exact (hsub j g hj).imp (·.1) fun hj => ⟨j, hj⟩
  · rcases hsub j g hj with ⟨rfl, rfl⟩ | hj' <;> rcases hsub k g hk with ⟨e, rfl⟩ | hk'
    · rfl
    · exact absurd hk' (hfj k)
    · exact absurd (e ▸ hj') (hfj j)
    · exact h.disj j k g hj' hk'
  · split
    · exact List.nodup_cons.2 ⟨hfj j, h.nodup j⟩
    · exact h.nodup j

theorem Parts.erase {G : List Nat} {L : Nat → List Nat} (h : Parts G L) (hG : G.Nodup) {f i : Nat}
    (hf : f ∈ L i) : Parts (G.erase f) fun j => if i = j then (L j).erase f else L j := by
  have hsub : ∀ j g, g ∈ (if i = j then (L j).erase f else L j) → g ∈ L j := by
    intro j g hg
    split at hg
    · exact List.mem_of_mem_erase hg
    · exact hg
  refine ⟨fun g => ?_, fun j k g hj hk => h.disj j k g (hsub j g hj) (hsub k g hk), fun j => ?_⟩
  · rw [hG.mem_erase_iff, h.mem g]
    constructor
    · rintro ⟨hne, j, hj⟩
      refine ⟨j, ?_⟩
      split
      · exact ((h.nodup j).mem_erase_iff).2 ⟨hne, hj⟩
      · exact hj
    · rintro ⟨j, hj⟩
      refine ⟨?_, j, hsub j g hj⟩
      rintro rfl
      split at hj
      · exact ((h.nodup j).mem_erase_iff.1 hj).1 rfl
      · next hij => exact hij (h.disj i j g hf hj)
  · split
    · exact (h.nodup j).erase f
    · exact h.nodup j

theorem seqInv_step {s0 bm : Bitmap} {tr : List (Nat × Op × Scratch)} (h : SeqInv s0 bm tr) (i : Nat) (o : Op)
    (hc : ∀ f, o = .free f → f ∈ heldOf (histOf i tr)) :
    SeqInv s0 (stepOp bm o).1 (tr ++ [(i, o, .done (stepOp bm o).2)]) := by
  obtain ⟨hsim, ht, hres, hfr, _, _⟩ := sim_step h.sim o fun f e => Or.inl ((h.mem f).2 ⟨i, hc f e⟩)
  have hpart : Parts (heldStep (globalHeld tr) o (stepOp bm o).2) fun j =>
      if i = j then heldStep (heldOf (histOf j tr)) o (stepOp bm o).2 else heldOf (histOf j tr) := by
    have hp : Parts (globalHeld tr) fun j => heldOf (histOf j tr) := ⟨h.mem, h.disj, h.nodup⟩
    rcases heldStep_eq o (stepOp bm o).2 with e | ⟨f, _, hout, e⟩ | ⟨f, rfl, _, e⟩
    · simp only [e, ite_self]; exact hp
    · simp only [e]; exact hp.cons (hfr f hout).2 i
    · simp only [e]; exact hp.erase h.sim.nodup (hc f rfl)
  have hres' := h.reserved
  refine ⟨?_, fun f => ?_, fun j k f => ?_, fun j => ?_, ht.trans h.total, ?_⟩
  · rw [globalHeld_snoc]; exact hsim
  · rw [globalHeld_snoc]; simp only [heldOf_snoc]; exact hpart.mem f
  · simp only [heldOf_snoc]; exact hpart.disj j k f
  · rw [heldOf_snoc]; exact hpart.nodup j
  · rw [globalHeld_snoc]
    show _ = _ + (heldStep (globalHeld tr) o (stepOp bm o).2).length
    omega

def held (s : State Bitmap Scratch Op) (j : Nat) : List Nat := heldOf (s.threads j).hist

/-- every reachable state of the concurrent allocator is explained by a sequential run (of the
operations that have completed) that satisfies `SeqInv` -/
theorem reachable_seqInv {client : Nat → List (Op × Scratch) → Option Op} (hwb : WellBehaved client)
    {s0 : Bitmap} (hI : Inv s0) {s : State Bitmap Scratch Op} (hr : Reachable (pmmSys client) s0 s) :
    ∃ pre, pre <+: s.log ∧ (∀ j, (s.threads j).hist = histOf j (seqRun (pmmSys client) s0 pre).2) ∧
      (s.holder = none → s.sh = (seqRun (pmmSys client) s0 pre).1) ∧
      SeqInv s0 (seqRun (pmmSys client) s0 pre).1 (seqRun (pmmSys client) s0 pre).2 :=
  reachable_seq (J := SeqInv s0) (seqInv_nil hI)
    (fun bm tr i o h hc => by
      show SeqInv s0 ((pmmSem o).run bm).1 (tr ++ [(i, o, ((pmmSem o).run bm).2)])
      rw [pmmSem_run]
      exact seqInv_step h i o fun f hf => hwb i _ f (hf ▸ hc)) hr

/-- `reachable_seqInv` in terms of the state alone: a bitmap `bm` (the shared one whenever nobody is inside the
allocator) and the frames `H` handed out of it, which are exactly the frames the threads hold -/
theorem reachable_held {client : Nat → List (Op × Scratch) → Option Op} (hwb : WellBehaved client)
    {s0 : Bitmap} (hI : Inv s0) {s : State Bitmap Scratch Op} (hr : Reachable (pmmSys client) s0 s) :
    ∃ bm H, (s.holder = none → s.sh = bm) ∧ Sim (isFree s0) bm H ∧ Parts H (held s) ∧
      bm.total = s0.total ∧ bm.reserved = s0.reserved + H.length := by
  obtain ⟨pre, _, hh, hsh, hinv⟩ := reachable_seqInv hwb hI hr
  have e : held s = fun j => heldOf (histOf j (seqRun (pmmSys client) s0 pre).2) := funext fun j => by rw [held, hh]
  exact ⟨_, _, hsh, hinv.sim, e ▸ ⟨hinv.mem, hinv.disj, hinv.nodup⟩, hinv.total, hinv.reserved⟩

end Firefly.Locked.Pmm
