import Firefly.Model.Vmm
import Firefly.Proof.Bits
/-! Bit-level and address-arithmetic lemmas for the vmm model: masks as `Nat` arithmetic, the entry
addresses that `walk` computes, and where they lie in the recursive window. -/
namespace Firefly.Vmm
open Firefly.Gen.C04 Firefly.Bits

theorem and_fff (x : W) : (x &&& 0xfff#64).toNat = x.toNat % 4096 := toNat_and_lowmask x 12 (by decide)
theorem and_7 (x : W) : (x &&& 7#64).toNat = x.toNat % 8 := toNat_and_lowmask x 3 (by decide)

theorem and_hwMask_toNat (x : W) : (x &&& hwMask).toNat = x.toNat % 2 ^ 52 / 4096 * 4096 := by
  rw [show hwMask = (BitVec.ofNat 64 (2 ^ 52 - 1)) &&& ~~~(4096#64 - 1) by decide, ← BitVec.and_assoc,
    toNat_and_mask12, toNat_and_lowmask x 52 (by decide)]

/-- the kernel's frame mask is the hardware's -/
theorem physMask_eq : physMask = hwMask := by decide

/-- kernel-side table index of `va` at level `L`, as `walk` computes it -/
def idxW (va : W) (L : Nat) : W := (va >>> levelShift L) &&& (((1 : W) <<< levelBits L) - 1)
/-- the same index as a number: bits `39-9L … 47-9L` of `va` -/
def kidx (va : W) (L : Nat) : Nat := va.toNat / 2 ^ (39 - 9 * L) % 512

theorem kidx_lt (va : W) (L : Nat) : kidx va L < 512 := Nat.mod_lt _ (by omega)

theorem hwIdx_eq (va : W) (s : Nat) : hwIdx va s = va.toNat / 2 ^ s % 512 := by
  unfold hwIdx
  rw [show (511#64 : W) = BitVec.ofNat 64 (2 ^ 9 - 1) from rfl, toNat_and_lowmask _ 9 (by decide), toNat_shr]

theorem hwIdx_kidx (va : W) (L : Nat) : hwIdx va (39 - 9 * L) = kidx va L := hwIdx_eq va _

theorem levelBits_eq {L : Nat} (hL : L ≤ 3) : levelBits L = 9 := by
  have : L = 0 ∨ L = 1 ∨ L = 2 ∨ L = 3 := by omega
  rcases this with rfl | rfl | rfl | rfl <;> rfl

theorem levelShift_eq {L : Nat} (hL : L ≤ 3) : levelShift L = 39 - 9 * L := by
  have : L = 0 ∨ L = 1 ∨ L = 2 ∨ L = 3 := by omega
  rcases this with rfl | rfl | rfl | rfl <;> rfl

theorem idxW_toNat (va : W) (L : Nat) (hL : L < 4) : (idxW va L).toNat = kidx va L := by
  rw [idxW, levelShift_eq (by omega), levelBits_eq (by omega), show ((1 : W) <<< 9) - 1 = 511#64 by decide]
  exact hwIdx_kidx va L

/-- the entry address `walk` computes at level `L` (add / shift-left recurrence from `pdtVirtualAddr`) -/
def E (va : W) : Nat → W
  | 0 => pdtVA + (idxW va 0 <<< pointerShift)
  | L + 1 => (E va L <<< levelBits L) + (idxW va (L + 1) <<< pointerShift)

/-! ### the index fields of window addresses

The hardware reads four 9-bit index fields of an address (field `i` at shift `12 + 9i`) and a 12-bit
offset.  `walk`'s recurrence moves every field up one slot (`<<< 9`) and puts the next index into the
word-offset bits (`+ idx <<< 3`). -/

theorem hwIdx_shl9 (x : W) (s : Nat) (hs : s ≤ 46) : hwIdx (x <<< 9) (s + 9) = hwIdx x s := by
  obtain ⟨t, ht⟩ : ∃ t, 55 = s + (9 + t) := ⟨46 - s, by omega⟩
  rw [hwIdx_eq, hwIdx_eq, toNat_shl, show 2 ^ 64 = 2 ^ 55 * 2 ^ 9 from rfl,
    Nat.mul_mod_mul_right, Nat.pow_add, Nat.mul_div_mul_right _ _ (by decide), ht, Nat.pow_add, Nat.mod_mul_right_div_self,
    Nat.pow_add, show (512 : Nat) = 2 ^ 9 from rfl, Nat.mod_mul_right_mod]

theorem toNat_add_low (x o : W) (hx : x.toNat % 4096 = 0) (ho : o.toNat < 4096) :
    (x + o).toNat = x.toNat + o.toNat := by
  have := x.isLt
  rw [BitVec.toNat_add]; omega

theorem ushr12_add_low {x o : W} (hx : x.toNat % 4096 = 0) (ho : o.toNat < 4096) : (x + o) >>> 12 = x >>> 12 := by
  apply BitVec.eq_of_toNat_eq
  obtain ⟨k, hk⟩ := Nat.dvd_of_mod_eq_zero hx
  rw [toNat_shr, toNat_shr, toNat_add_low x o hx ho, hk, Nat.mul_add_div (by decide), Nat.div_eq_of_lt ho, Nat.mul_div_cancel_left _ (by decide)]
  rfl

theorem hwIdx_add_low (x o : W) (hx : x.toNat % 4096 = 0) (ho : o.toNat < 4096) (t : Nat) :
    hwIdx (x + o) (12 + t) = hwIdx x (12 + t) := by
  rw [hwIdx_eq, hwIdx_eq, toNat_add_low x o hx ho, Nat.pow_add, ← Nat.div_div_eq_div_mul, ← Nat.div_div_eq_div_mul]
  congr 2
  omega

/-! an address at word `k` of its page: `x % 4096 = 8k` -/
theorem off_add {x o : W} {k : Nat} (hx : x.toNat % 4096 = 0) (ho : o.toNat = 8 * k) (hk : k < 512) :
    (x + o).toNat % 4096 = 8 * k := by
  rw [toNat_add_low x o hx (by omega), ho, Nat.add_mod, hx, Nat.zero_add, Nat.mod_mod, Nat.mod_eq_of_lt (by omega)]

theorem off_field {x : W} {k : Nat} (h : x.toNat % 4096 = 8 * k) : hwIdx x 3 = k := by
  rw [hwIdx_eq, ← Nat.mod_mul_right_div_self, show 2 ^ 3 * 512 = 4096 from rfl, h, show 2 ^ 3 = 8 from rfl,
    Nat.mul_div_cancel_left _ (by decide)]

theorem off_shl9 {x : W} {k : Nat} (h : x.toNat % 4096 = 8 * k) : (x <<< 9).toNat % 4096 = 0 := by
  have h8 : x.toNat % 8 = 0 := by rw [← Nat.mod_mod_of_dvd _ (by decide : 8 ∣ 4096), h, Nat.mul_mod_right]
  rw [toNat_shl, Nat.mod_mod_of_dvd _ (by decide : 4096 ∣ 2 ^ 64),
    show (4096 : Nat) = 8 * 2 ^ 9 from rfl, Nat.mul_mod_mul_right, h8, Nat.zero_mul]

/-- `a` lies in the recursive window at level `L` of `va`: of its four index fields the lowest `L` are
`va`'s indices above level `L`, the others are 511 (the recursive slot) -/
def InWin (a va : W) (L : Nat) : Prop :=
  ∀ i, i ≤ 3 → hwIdx a (12 + 9 * i) = if i < L then kidx va (L - 1 - i) else 511

theorem InWin.shl9 {x va : W} {L : Nat} (h : InWin x va L) (h3 : hwIdx x 3 = kidx va L) :
    InWin (x <<< 9) va (L + 1) := by
  intro i hi
  cases i with
  | zero => rw [if_pos (Nat.succ_pos L)]; exact (hwIdx_shl9 x 3 (by omega)).trans h3
  | succ i =>
    refine (hwIdx_shl9 x (12 + 9 * i) (by omega)).trans ((h i (by omega)).trans ?_)
    simp only [Nat.add_lt_add_iff_right, Nat.add_sub_cancel, Nat.sub_add_eq, Nat.sub_right_comm]

theorem InWin.add_low {x va : W} {L : Nat} (h : InWin x va L) (o : W) (hx : x.toNat % 4096 = 0) (ho : o.toNat < 4096) :
    InWin (x + o) va L :=
  fun i hi => (hwIdx_add_low x o hx ho _).trans (h i hi)

theorem idxW_shl3 (va : W) (L : Nat) (hL : L < 4) : (idxW va L <<< pointerShift).toNat = 8 * kidx va L := by
  have := kidx_lt va L
  rw [show pointerShift = 3 from rfl, toNat_shl, idxW_toNat va L hL]; omega

theorem E_inWin (va : W) : ∀ L, L ≤ 3 → InWin (E va L) va L ∧ (E va L).toNat % 4096 = 8 * kidx va L := by
  intro L
  induction L with
  | zero =>
    intro _
    have h0 : pdtVA.toNat % 4096 = 0 := by decide
    have ho := idxW_shl3 va 0 (by omega)
    have hk := kidx_lt va 0
    refine ⟨InWin.add_low (fun i hi => ?_) _ h0 (by omega), off_add h0 ho hk⟩
    rw [if_neg (Nat.not_lt_zero i)]
    have : i = 0 ∨ i = 1 ∨ i = 2 ∨ i = 3 := by omega
    rcases this with rfl | rfl | rfl | rfl <;> decide
  | succ L ih =>
    intro hL
    obtain ⟨hw, hoff⟩ := ih (by omega)
    have hk := kidx_lt va (L + 1)
    have ho := idxW_shl3 va (L + 1) (by omega)
    have hz : (E va L <<< 9).toNat % 4096 = 0 := off_shl9 hoff
    show InWin ((E va L <<< levelBits L) + _) va (L + 1) ∧ ((E va L <<< levelBits L) + _).toNat % 4096 = _
    rw [levelBits_eq (by omega)]
    exact ⟨(hw.shl9 (off_field hoff)).add_low _ hz (by omega), off_add hz ho hk⟩

theorem E_succ_toNat (va : W) (L : Nat) (hL : L < 3) :
    (E va (L + 1)).toNat = (E va L).toNat * 512 % 2 ^ 64 + 8 * kidx va (L + 1) := by
  have ho := idxW_shl3 va (L + 1) (by omega)
  have hk := kidx_lt va (L + 1)
  show ((E va L <<< levelBits L) + _).toNat = _
  rw [levelBits_eq (by omega), toNat_add_low _ _ (off_shl9 (E_inWin va L (by omega)).2) (by omega), ho,
    toNat_shl]

theorem E0_toNat (va : W) : (E va 0).toNat = 2 ^ 64 - 2 ^ 12 + 8 * kidx va 0 := by
  show (pdtVA + _).toNat = _
  have hk := kidx_lt va 0
  rw [toNat_add_low _ _ (by decide) (by rw [idxW_shl3 va 0 (by omega)]; omega), idxW_shl3 va 0 (by omega)]
  rfl

theorem E1_toNat (va : W) : (E va 1).toNat = 2 ^ 64 - 2 ^ 21 + 2 ^ 12 * kidx va 0 + 8 * kidx va 1 := by
  have := kidx_lt va 0
  have h : (E va 1).toNat = (E va 0).toNat * 512 % 2 ^ 64 + 8 * kidx va 1 := E_succ_toNat va 0 (by omega)
  rw [h, E0_toNat]; omega

theorem E2_toNat (va : W) :
    (E va 2).toNat = 2 ^ 64 - 2 ^ 30 + 2 ^ 21 * kidx va 0 + 2 ^ 12 * kidx va 1 + 8 * kidx va 2 := by
  have := kidx_lt va 0; have := kidx_lt va 1
  have h : (E va 2).toNat = (E va 1).toNat * 512 % 2 ^ 64 + 8 * kidx va 2 := E_succ_toNat va 1 (by omega)
  rw [h, E1_toNat]; omega

theorem E3_toNat (va : W) :
    (E va 3).toNat = 2 ^ 64 - 2 ^ 39 + 2 ^ 30 * kidx va 0 + 2 ^ 21 * kidx va 1 + 2 ^ 12 * kidx va 2 + 8 * kidx va 3 := by
  have := kidx_lt va 0; have := kidx_lt va 1; have := kidx_lt va 2
  have h : (E va 3).toNat = (E va 2).toNat * 512 % 2 ^ 64 + 8 * kidx va 3 := E_succ_toNat va 2 (by omega)
  rw [h, E2_toNat]; omega

end Firefly.Vmm
