import Firefly.Proof.AmlUnfold
import Firefly.Proof.AmlMerge
import Firefly.Proof.AmlArgOps
/-!
The strict (second-pass) mode of the object parser: `parseDeferred` on one deferred block never ends in `.panic`,
leaves a well-formed tree, and returns when the fuel is proportional to the size of the table (`Props/C12.lean`,
`deferred_block_no_panic_WF`, `deferred_block_total`).  Both come from one walk of the mutually recursive functions,
stated with a run predicate (`Rs`) that carries the fuel bound as a guard (`srp`, `parseDeferred_rs`); at the end, under `ST`,
the contracts once more with the guard discharged (`stp`).
-/

namespace Firefly.AmlParser.ST
open Firefly.AmlLex

/-! ## the fuel each function needs with `r` bytes left in the table -/

def nNP (r : Nat) : Nat := 16 * r + 1
def nNext (r : Nat) : Nat := 16 * r + 2
def nMA (r n : Nat) : Nat := nNext r + n + 1
def nTL (r : Nat) : Nat := nNext r + 1
def nStrict (r : Nat) : Nat := 16 * r + 2
def nTgt (r : Nat) : Nat := 16 * r + 1
def nArg (r : Nat) : Nat := 16 * r + 6
def nArgs (r j : Nat) : Nat := nArg r + (8 - j)
def nOA (r : Nat) : Nat := nArg r + 9

abbrev rem (d : Bytes) (s : PState) : Nat := d.size - s.r.offset

theorem rem_lt {a b n : Nat} (h1 : a < b) (h2 : b ≤ n) : (n - b) + 1 ≤ n - a := by omega

theorem need_tgt_oa {r r' f : Nat} (h : nTgt r ≤ f + 1) (hr : r' + 1 ≤ r) : nOA r' ≤ f := by
  unfold nTgt at h; unfold nOA nArg; omega
theorem need_strict_oa {r r' f : Nat} (h : nStrict r ≤ f + 1) (hr : r' + 1 ≤ r) : nOA r' ≤ f := by
  unfold nStrict at h; unfold nOA nArg; omega
theorem need_strict_np {r r' f : Nat} (h : nStrict r ≤ f + 1) (hr : r' ≤ r) : nNP r' ≤ f := by
  unfold nStrict at h; unfold nNP; omega
theorem need_np_ma {r r' f n : Nat} (h : nNP r ≤ f + 1) (hr : r' + 1 ≤ r) (hn : n ≤ 7) : nMA r' n ≤ f := by
  unfold nNP at h; unfold nMA nNext; omega
theorem need_ma_next {r f n : Nat} (h : nMA r n ≤ f + 1) : nNext r ≤ f := by
  unfold nMA at h; omega
theorem need_ma_ma {r r' f n : Nat} (h : nMA r (n + 1) ≤ f + 1) (hr : r' ≤ r) : nMA r' n ≤ f := by
  unfold nMA nNext at h ⊢; omega
theorem need_tl_next {r f : Nat} (h : nTL r ≤ f + 1) : nNext r ≤ f := by
  unfold nTL at h; omega
theorem need_tl_tl {r r' f : Nat} (h : nTL r ≤ f + 1) (hr : r' + 1 ≤ r) : nTL r' ≤ f := by
  unfold nTL nNext at h ⊢; omega
theorem need_next_np {r f : Nat} (h : nNext r ≤ f + 1) : nNP r ≤ f := by
  unfold nNext at h; unfold nNP; omega
theorem need_next_oa {r r' f : Nat} (h : nNext r ≤ f + 1) (hr : r' + 1 ≤ r) : nOA r' ≤ f := by
  unfold nNext at h; unfold nOA nArg; omega
theorem need_arg_strict {r f : Nat} (h : nArg r ≤ f + 1) : nStrict r ≤ f := by
  unfold nArg at h; unfold nStrict; omega
theorem need_arg_tl {r f : Nat} (h : nArg r ≤ f + 1) : nTL r ≤ f := by
  unfold nArg at h; unfold nTL nNext; omega
theorem need_arg_tgt {r f : Nat} (h : nArg r ≤ f + 1) : nTgt r ≤ f := by
  unfold nArg at h; unfold nTgt; omega
theorem need_args_arg {r j f : Nat} (h : nArgs r j ≤ f + 1) (hj : j < 8) : nArg r ≤ f := by
  unfold nArgs at h; omega
theorem need_args_next {r r' j f : Nat} (h : nArgs r j ≤ f + 1) (hr : r' ≤ r) (hj : j < 8) : nArgs r' (j + 1) ≤ f := by
  unfold nArgs nArg at h ⊢; omega
theorem need_oa_args {r f : Nat} (h : nOA r ≤ f + 1) : nArgs r 0 ≤ f := by
  unfold nOA at h; unfold nArgs; omega

end Firefly.AmlParser.ST

namespace Firefly.AmlParser.S
open Firefly.AmlLex Firefly.AmlTree Firefly.C13 Firefly.AmlParser Firefly.AmlParser.G Firefly.AmlParser.ST
open Firefly.Gen.C12

/-! ## the `Method` invariant

Every live `Method` object other than the one whose lexical arguments are being read has a second argument that
holds an integer — what `parseNamePathOrMethodCall` dereferences without a check (`ArgAt(target, 1).value.(uint64)`). -/

/-- `m` is complete: it has a first and a second argument and the second holds an integer -/
def Sh (t : ObjectTree) (m : Nat) : Prop :=
  ∃ v, live t (Fi t m) = true ∧ live t (Nx t (Fi t m)) = true ∧ (slot t (Nx t (Fi t m))).value = .u64 v

/-- every live `Method` other than `ex` and outside of `X` is complete.  `X` = the incomplete `Method` objects a
rejected earlier table left behind: unnamed and outside of every scope that is parsed, so that no lookup finds
them (`UnF` below) -/
def MS (X : Nat → Prop) (ex : Option Nat) (t : ObjectTree) : Prop :=
  ∀ m, live t m = true → (slot t m).opcode = opMethod → some m ≠ ex → ¬ X m → Sh t m

variable {X : Nat → Prop} {T : Nat → Prop}

theorem MS.weaken {t : ObjectTree} (h : MS X none t) (ex : Option Nat) : MS X ex t :=
  fun m hl ho _ hx => h m hl ho (by intro hc; cases hc) hx

theorem Sh.transfer {t t' : ObjectTree} {m : Nat} (h : Sh t m) (hfi : Fi t' m = Fi t m)
    (hnx : Nx t' (Fi t m) = Nx t (Fi t m)) (hl : ∀ x, live t x = true → live t' x = true)
    (hv : (slot t' (Nx t (Fi t m))).value = (slot t (Nx t (Fi t m))).value) : Sh t' m := by
  obtain ⟨v, h1, h2, h3⟩ := h
  refine ⟨v, ?_, ?_, ?_⟩
  · rw [hfi]; exact hl _ h1
  · rw [hfi, hnx]; exact hl _ h2
  · rw [hfi, hnx, hv]; exact h3

theorem Sh.parents {t : ObjectTree} (w : WF t) {m : Nat} (hm : live t m = true) (h : Sh t m) :
    C13.P t (Fi t m) = m ∧ C13.P t (Nx t (Fi t m)) = m ∧ Fi t m ≠ INV ∧ Nx t (Fi t m) ≠ INV := by
  obtain ⟨v, h1, h2, _⟩ := h
  have n1 : Fi t m ≠ INV := live_ne_INV w.size_le h1
  have n2 : Nx t (Fi t m) ≠ INV := live_ne_INV w.size_le h2
  have p1 := ((w.lP hm).fi n1).1
  have p2 := ((w.lP h1).nx n2).2
  exact ⟨p1, by rw [p2, p1], n1, n2⟩

theorem Sh.keep {t t' : ObjectTree} {m : Nat} (h : Sh t m) (w : WF t) (hm : live t m = true) (a : KeepsArgs t t' m) : Sh t' m := by
  obtain ⟨p1, p2, _⟩ := h.parents w hm
  obtain ⟨v, h1, h2, h3⟩ := h
  have c1 := a.kid _ h1 p1
  have c2 := a.kid _ h2 p2
  exact ⟨v, by rw [a.fi]; exact c1.1, by rw [a.fi, c1.2.1]; exact c2.1, by rw [a.fi, c1.2.1, pay_value c2.2.2.1]; exact h3⟩

theorem Sh.append_links {t t' : ObjectTree} (w : WF t) {obj arg m : Nat} (hm : live t m = true) (h : Sh t m)
    (ha : C13.P t arg = INV) (ho : live t obj = true)
    (hNx : ∀ x, Nx t' x = if x = arg then INV else if x = La t obj ∧ La t obj ≠ INV then arg else Nx t x)
    (hFi : ∀ x, Fi t' x = if x = obj ∧ La t obj = INV then arg else Fi t x) :
    Fi t' m = Fi t m ∧ Nx t' (Fi t m) = Nx t (Fi t m) := by
  obtain ⟨p1, p2, n1, n2⟩ := h.parents w hm
  have hm0 : m ≠ INV := live_ne_INV w.size_le hm
  constructor
  · -- `m = obj` without arguments contradicts the first argument
    rw [hFi, if_neg]
    exact fun hc => w.la_ne hm n1 (hc.1 ▸ hc.2)
  · rw [hNx, if_neg (fun hc => hm0 (by rw [← p1, hc, ha])), if_neg]
    intro hc
    have := ((w.lP ho).la hc.2).2
    rw [← hc.1] at this
    exact n2 this

theorem Sh.append {t t' : ObjectTree} (w : WF t) {obj arg m : Nat} (hm : live t m = true) (h : Sh t m)
    (ha : C13.P t arg = INV) (ho : live t obj = true)
    (hl : ∀ x, live t' x = live t x) (sp : SamePay t t')
    (hNx : ∀ x, Nx t' x = if x = arg then INV else if x = La t obj ∧ La t obj ≠ INV then arg else Nx t x)
    (hFi : ∀ x, Fi t' x = if x = obj ∧ La t obj = INV then arg else Fi t x) : Sh t' m := by
  obtain ⟨e1, e2⟩ := h.append_links w hm ha ho hNx hFi
  exact h.transfer e1 e2 (fun x hx => by rw [hl]; exact hx) (pay_value (sp.pay _))

theorem Sh.detach {t t' : ObjectTree} (w : WF t) {obj arg m : Nat} (hm : live t m = true) (h : Sh t m)
    (ha : live t arg = true) (hp : C13.P t arg = obj)
    (hne : m = obj → arg ≠ Fi t m ∧ arg ≠ Nx t (Fi t m))
    (hl : ∀ x, live t' x = live t x) (sp : SamePay t t')
    (hNx : ∀ x, Nx t' x = if x = arg then INV else if x = Pv t arg ∧ Pv t arg ≠ INV then Nx t arg else Nx t x)
    (hFi : ∀ x, Fi t' x = if x = obj ∧ Fi t obj = arg then Nx t arg else Fi t x) : Sh t' m := by
  obtain ⟨p1, p2, n1, n2⟩ := h.parents w hm
  have hne' : arg ≠ Fi t m ∧ arg ≠ Nx t (Fi t m) := by
    by_cases hmo : m = obj
    · exact hne hmo
    · constructor
      · intro e; rw [e, p1] at hp; exact hmo hp
      · intro e; rw [e, p2] at hp; exact hmo hp
  apply h.transfer
  · rw [hFi]
    split
    · rename_i hc
      exfalso
      rw [hc.1] at hne'
      exact hne'.1 hc.2.symm
    · rfl
  · rw [hNx, if_neg (fun e => hne'.1 e.symm)]
    split
    · rename_i hc
      exfalso
      have := ((w.lP ha).pv hc.2).1
      rw [← hc.1] at this
      exact hne'.2 this.symm
    · rfl
  · intro x hx; rw [hl]; exact hx
  · exact pay_value (sp.pay _)

theorem Sh.setAt {t : ObjectTree} (w : WF t) {x m : Nat} (f : Obj → Obj) (hm : live t m = true) (h : Sh t m)
    (sl : SameLinks t (setAt t x f)) (hv : (f (slot t x)).value = (slot t x).value ∨ C13.P t x = INV) :
    Sh (setAt t x f) m := by
  obtain ⟨_, p2, _, _⟩ := h.parents w hm
  have hm0 : m ≠ INV := live_ne_INV w.size_le hm
  apply h.transfer (sl.fi m) (sl.nx _) (fun y hy => by rw [sl.live]; exact hy)
  rw [slot_setAt']
  split
  · rename_i hc
    rcases hv with hv | hv
    · rw [← hc.1]; exact hv
    · rw [← hc.1, hv] at p2; exact absurd p2.symm hm0
  · rfl

theorem Sh.argAt {t : ObjectTree} (w : WF t) {m : Nat} (hm : live t m = true) (h : Sh t m) :
    t.ArgAt (some m) 1 = .ok (some (Nx t (Fi t m))) := by
  obtain ⟨v, h1, h2, _⟩ := h
  rw [w.argAt_eq 1 hm]
  -- the argument list starts with the two live objects `Fi`, `Nx Fi`
  have hc := w.kids_chain hm
  cases hk : (abs t).kids m with
  | nil => rw [hk] at hc; exact absurd hc (live_ne_INV w.size_le h1)
  | cons a l =>
    rw [hk] at hc
    obtain ⟨e, _, hc⟩ := hc
    subst e
    cases l with
    | nil => exact absurd hc (live_ne_INV w.size_le h2)
    | cons b l => rw [hc.1]; rfl

theorem MS.ofSome {t : ObjectTree} {c : Nat} (h : MS X (some c) t) (hc : (slot t c).opcode ≠ opMethod) : MS X none t := by
  intro m hl ho _ hx
  exact h m hl ho (by intro e; cases e; exact hc ho) hx

theorem MS.fresh {ex : Option Nat} {n : Nat} {s s' : PState} (hms : MS X ex s.tree) (h : Fresh1 n s s')
    (hn : (slot s'.tree n).opcode = opMethod → ex = some n) : MS X ex s'.tree := by
  intro m hl ho hex hx
  by_cases hmn : m = n
  · subst hmn; exact absurd (hn ho).symm hex
  · have hl0 : live s.tree m = true := by rw [← h.livex m hmn]; exact hl
    have hsh := hms m hl0 (by rw [← h.old m hmn]; exact ho) hex hx
    obtain ⟨v, h1, h2, _⟩ := hsh
    have hne : ∀ x, live s.tree x = true → x ≠ n := fun x hx => h.ne hx
    apply Sh.transfer ⟨v, h1, h2, ‹_›⟩
    · unfold Fi; rw [h.old m hmn]
    · unfold Nx; rw [h.old _ (hne _ h1)]
    · intro x hx; rw [h.livex x (hne x hx)]; exact hx
    · rw [h.old _ (hne _ h2)]

theorem MS.pay {ex : Option Nat} {obj : Nat} {s s' : PState} (hms : MS X ex s.tree) (w : WF s.tree) (h : PayOnly obj s s')
    (hp : C13.P s.tree obj = INV ∨ (slot s.tree (C13.P s.tree obj)).opcode ≠ opMethod) : MS X ex s'.tree := by
  intro m hl ho hex hx
  have hl0 : live s.tree m = true := by rw [← h.links.live]; exact hl
  have ho0 : (slot s.tree m).opcode = opMethod := by
    by_cases hm : m = obj
    · rw [hm] at ho ⊢; exact h.mth.1 ho
    · rw [← h.others m hm]; exact ho
  refine (hms m hl0 ho0 hex hx).keep w hl0 (h.keepsArgs fun e => ?_)
  rcases hp with hp | hp
  · exact live_ne_INV w.size_le hl0 (by rw [← e]; exact hp)
  · exact hp (by rw [e]; exact ho0)

theorem MS.ofLinks {ex : Option Nat} {t t' : ObjectTree} (hms : MS X ex t) (hl : ∀ x, live t' x = live t x) (sp : SamePay t t')
    (h : ∀ m, live t m = true → (slot t m).opcode = opMethod → some m ≠ ex → ¬ X m → Sh t m → Sh t' m) : MS X ex t' := by
  intro m hm hop hex hx
  have hm0 : live t m = true := by rw [← hl]; exact hm
  have hop0 : (slot t m).opcode = opMethod := by rw [← pay_opcode (sp.pay m)]; exact hop
  exact h m hm0 hop0 hex hx (hms m hm0 hop0 hex hx)

theorem MS.append {ex : Option Nat} {t t' : ObjectTree} (hms : MS X ex t) (w : WF t) {obj arg : Nat}
    (ha : C13.P t arg = INV) (ho : live t obj = true)
    (hl : ∀ x, live t' x = live t x) (sp : SamePay t t')
    (hNx : ∀ x, Nx t' x = if x = arg then INV else if x = La t obj ∧ La t obj ≠ INV then arg else Nx t x)
    (hFi : ∀ x, Fi t' x = if x = obj ∧ La t obj = INV then arg else Fi t x) : MS X ex t' :=
  hms.ofLinks hl sp (fun _ hm _ _ _ hsh => hsh.append w hm ha ho hl sp hNx hFi)

theorem MS.detach {ex : Option Nat} {t t' : ObjectTree} (hms : MS X ex t) (w : WF t) {obj arg : Nat}
    (ha : live t arg = true) (hp : C13.P t arg = obj)
    (hne : ∀ m, m = obj → (slot t m).opcode = opMethod → some m ≠ ex → ¬ X m → arg ≠ Fi t m ∧ arg ≠ Nx t (Fi t m))
    (hl : ∀ x, live t' x = live t x) (sp : SamePay t t')
    (hNx : ∀ x, Nx t' x = if x = arg then INV else if x = Pv t arg ∧ Pv t arg ≠ INV then Nx t arg else Nx t x)
    (hFi : ∀ x, Fi t' x = if x = obj ∧ Fi t obj = arg then Nx t arg else Fi t x) : MS X ex t' :=
  hms.ofLinks hl sp (fun m hm hop hex hx hsh => hsh.detach w hm ha hp (fun e => hne m e hop hex hx) hl sp hNx hFi)

theorem MS.spliced {ex : Option Nat} {t t' : ObjectTree} (hms : MS X ex t) (w : WF t) {obj arg : Nat}
    (A : Spliced t t' obj arg (La t obj) INV) : MS X ex t' :=
  hms.append w A.par A.lo A.pay.live A.pay A.nx A.fi

theorem MS.unlinked {ex : Option Nat} {t t' : ObjectTree} (hms : MS X ex t) (w : WF t) {obj arg : Nat}
    (hne : ∀ m, m = obj → (slot t m).opcode = opMethod → some m ≠ ex → ¬ X m → arg ≠ Fi t m ∧ arg ≠ Nx t (Fi t m))
    (E : Unlinked t t' obj arg) : MS X ex t' :=
  hms.detach w E.lv E.par hne E.pay.live E.pay E.nx E.fi

theorem MS.frm {ex : Option Nat} {s s' : PState} (hms : MS X ex s.tree) (w : WF s.tree) (fr : FrmS T s s')
    (hT : ∀ m, live s.tree m = true → (slot s.tree m).opcode = opMethod → some m ≠ ex → ¬ T m) : MS X ex s'.tree := by
  intro m hl ho hex hx
  cases hl0 : live s.tree m with
  | false => exact absurd ho (fr.newOp m hl0 hl)
  | true =>
    have ho0 := (fr.kfr.mK m hl0).1 ho
    exact (hms m hl0 ho0 hex hx).keep w hl0 (fr.frm.keepsArgs w hl0 (hT m hl0 ho0 hex))

/-- no `Method` object is on the scope stack: objects are never appended to a method through the stack -/
def StackNM (s : PState) : Prop := ∀ x ∈ s.scopeStack.toList, (slot s.tree x).opcode ≠ opMethod

/-- the invariant of the parser state in the strict mode -/
structure SP (d : Bytes) (s : PState) : Prop where
  fp : FP d s
  ab : s.allBlocks = true
  nm : StackNM s

theorem topOf_push (s : PState) (x : Nat) {s' : PState} (h : s'.scopeStack = s.scopeStack.push x) : topOf s' = x := by
  unfold topOf; rw [h]; simp

theorem StackNM.step {s s' : PState} {d : Bytes} (h : StackNM s) (hf : FP d s)
    (hmK : ∀ x, live s.tree x = true → ((slot s'.tree x).opcode = opMethod ↔ (slot s.tree x).opcode = opMethod))
    (hst : ∀ x ∈ s'.scopeStack.toList, x ∈ s.scopeStack.toList ∨ (slot s'.tree x).opcode ≠ opMethod) : StackNM s' := by
  intro x hx
  rcases hst x hx with h0 | h0
  · exact fun hq => h x h0 ((hmK x (hf.scopes x h0)).1 hq)
  · exact h0

theorem anc_old {t t' : ObjectTree} (w : WF t) (w' : WF t') (hl : ∀ y, live t y = true → live t' y = true)
    (hp : ∀ y, live t y = true → C13.P t' y = C13.P t y) {a r0 : Nat} (hr : live t r0 = true) (h : anc t' a r0) : anc t a r0 :=
  (anc_congr w w'.size_le hr (fun y hy => ⟨hl y (anc_left_live hy), hp y (anc_left_live hy)⟩) a).1 h

theorem not_anc_INV {t : ObjectTree} (w : WF t) (a : Nat) : ¬ anc t a INV :=
  fun h => live_ne_INV w.size_le (anc_live h) rfl

theorem anc_trans {t : ObjectTree} (w : WF t) {a b c : Nat} (hbc : anc t b c) (hab : anc t a b) : anc t a c :=
  anc_induct w.size_le hbc (I := fun y => anc t a y → anc t a c) id (fun y hy ih _ hp => ih (by
    by_cases e : y = a
    · exact e ▸ w.anc_self hy
    · exact (w.anc_step hy e).2 hp)) hab

theorem closest_anc {t : ObjectTree} (w : WF t) (named : Nat → Option Bool)
    (hn : ∀ i, live t i = true → (named (slot t i).infoIndex).isSome = true) (i : Nat) (hl : live t i = true) :
    ∃ r, t.ClosestNamedAncestor named (some i) = .ok r ∧ (r = INV ∨ anc t r i) := by
  obtain ⟨l, r, hc, er, hr⟩ := w.closestNamedAncestor_mem named hn hl
  exact ⟨r, er, hr.imp_right fun hr => ⟨_ :: l, ⟨rfl, hl, hc⟩, List.mem_cons_of_mem _ hr⟩⟩

/-- the objects of `X` are live, and those that are methods have no name, do not enclose the root and do not
enclose `ref`: no lookup from a scope at or below `ref` finds them -/
def UnF (X : Nat → Prop) (s : PState) (ref : Nat) : Prop :=
  ∀ g, X g → live s.tree g = true ∧ ((slot s.tree g).opcode = opMethod →
    (slot s.tree g).name.b0 = 0 ∧ ¬ anc s.tree g 0 ∧ ¬ anc s.tree g ref)

theorem UnF.notFresh {s : PState} {ref c : Nat} (h : UnF X s ref) (hc : live s.tree c = false) : ¬ X c := by
  intro hx
  rw [(h c hx).1] at hc; cases hc

theorem UnF.toINV {s : PState} {ref : Nat} (h : UnF X s ref) (w : WF s.tree) : UnF X s INV :=
  fun g hg => ⟨(h g hg).1, fun ho => ⟨((h g hg).2 ho).1, ((h g hg).2 ho).2.1, not_anc_INV w _⟩⟩

theorem UnF.notSelf {s : PState} {ref : Nat} (h : UnF X s ref) (w : WF s.tree) (hl : live s.tree ref = true)
    (ho : (slot s.tree ref).opcode = opMethod) : ¬ X ref :=
  fun hx => ((h ref hx).2 ho).2.2 (w.anc_self hl)

theorem UnF.ofTree {s s' : PState} {ref : Nat} (h : UnF X s ref) (ht : s'.tree = s.tree) : UnF X s' ref := by
  intro g hg; rw [ht]; exact h g hg

theorem UnF.grow {s s' : PState} {ref c : Nat} (h : UnF X s ref) (g : SGrow T c s s') (w : WF s.tree) (w' : WF s'.tree)
    (hroot : live s.tree 0 = true) (hr : ref = INV ∨ live s.tree ref = true) : UnF X s' ref := by
  intro x hx
  obtain ⟨hl, hm⟩ := h x hx
  refine ⟨g.oldLive x hl, fun ho' => ?_⟩
  have ho := (g.kfr.mK x hl).1 ho'
  obtain ⟨hn, h0, hrf⟩ := hm ho
  refine ⟨by rw [g.kfr.nameK x hl ho]; exact hn, fun ha => h0 (anc_old w w' g.oldLive g.oldP hroot ha), ?_⟩
  rcases hr with hr | hr
  · rw [hr]; exact not_anc_INV w' _
  · exact fun ha => hrf (anc_old w w' g.oldLive g.oldP hr ha)

theorem UnF.child {s : PState} {ref c : Nat} (h : UnF X s ref) (w : WF s.tree) (hc : live s.tree c = true)
    (hp : C13.P s.tree c = ref) (hx : ¬ X c) : UnF X s c := by
  intro g hg
  obtain ⟨hl, hm⟩ := h g hg
  exact ⟨hl, fun ho => ⟨(hm ho).1, (hm ho).2.1, not_anc_child w hc hp (fun e => hx (e ▸ hg)) (hm ho).2.2⟩⟩

theorem UnF.new {d : Bytes} {s s' : PState} {ref n c : Nat} (hu : UnF X s ref) (g : SGrow T c s s') (h : FP d s) (h' : FP d s')
    (hr : ref = INV ∨ live s.tree ref = true) (hn : live s.tree n = false) (hl : live s'.tree n = true)
    (hp : C13.P s'.tree n = ref) : UnF X s' n :=
  (hu.grow g h.tree.wf h'.tree.wf h.tree.root hr).child h'.tree.wf hl hp (hu.notFresh hn)

/-- the name lookup of `parseNamePathOrMethodCall` from the scope `i`: what it finds is live and, if it is a `Method`, not in
`X`.  `Find` does not enter an unnamed object, and no method of `X` encloses the root or the scope the search starts from -/
theorem UnF.lookup {d : Bytes} {s : PState} {i : Nat} (hu : UnF X s i) (h : FP d s) (hl : live s.tree i = true) (expr : List UInt8)
    (he : ∀ b, expr[0]? = some b → b ≠ 0) :
    ∃ a r, s.tree.ClosestNamedAncestor namedInfo (some i) = .ok a ∧ s.tree.Find a expr = .ok r ∧
      (r = INV ∨ (live s.tree r = true ∧ ((slot s.tree r).opcode = opMethod → ¬ X r))) := by
  have w := h.tree.wf
  obtain ⟨a, ea, ha⟩ := closest_anc w namedInfo (fun j hj => namedInfo_some (h.tree.info j hj)) i hl
  obtain ⟨r, er, hr⟩ := find_ok w a expr h.tree.root (ha.imp id anc_left_live)
  refine ⟨a, r, ea, er, hr.imp_right fun hrl => ⟨hrl, fun ho hx => ?_⟩⟩
  obtain ⟨hn0, h00, href⟩ := (hu r hx).2 ho
  exact (find_avoid w h.tree.root hn0 h00 a (ha.imp id fun h0 => ⟨anc_left_live h0, fun q => href (anc_trans w h0 q)⟩) expr
    (fun _ => he) r er (live_ne_INV w.size_le hrl)).2 (w.anc_self hrl)

/-- `if p.r.EOF() { p.popPkgEnd() }` followed by `k` -/
theorem eofPop_rs {d : Bytes} {β : Type} {g : Prop} {k : Unit → P β} {s : PState} (h : FP d s) {R : β → PState → Prop}
    (hk : ∀ s', FP d s' → s'.tree = s.tree → s'.scopeStack = s.scopeStack → (∀ {T : Nat → Prop}, SGrow T 0 s s') →
      Rs g (k ()) s' R) :
    Rs g (lex eof >>= fun b => if b = true then popPkgEnd d >>= k else k ()) s R := by
  refine Rs.step (lex_eof_ex s) ?_
  cases s.r.eof with
  | true =>
    obtain ⟨_, s2, e2, h2, ht2, hsc2, ho2, hsame2⟩ := popPkgEnd_stepS h
    rw [if_pos rfl]
    exact Rs.step e2 (hk s2 h2 ht2 hsc2 (SGrow.ofSame ht2 (Nat.le_of_eq ho2.symm) hsame2))
  | false =>
    rw [if_neg (by decide)]
    exact hk s h rfl rfl (SGrow.refl s)

theorem scopeEnter_ex (x : Nat) (s : PState) : scopeEnter x s = .ok ((), { s with scopeStack := s.scopeStack.push x }) := rfl

def ParNM (s : PState) (curObj : Nat) : Prop :=
  C13.P s.tree curObj = INV ∨ (slot s.tree (C13.P s.tree curObj)).opcode ≠ opMethod

/-- the method invariant while argument `j` of `curObj` (table row `info`) is read: a `Method` gets its name and
its flags first -/
def MSx (X : Nat → Prop) (s : PState) (info curObj j : Nat) : Prop :=
  if info = methodInfo then
    (j ≤ 1 → MS X (some curObj) s.tree ∧ Fi s.tree curObj = INV ∧ La s.tree curObj = INV) ∧
    (j = 2 → MS X (some curObj) s.tree ∧ La s.tree curObj = Fi s.tree curObj ∧ live s.tree (Fi s.tree curObj) = true) ∧
    (3 ≤ j → MS X none s.tree)
  else MS X none s.tree

/-- what every strict-mode function leaves behind (`ok` = it reported success) -/
def PostS (d : Bytes) (T : Nat → Prop) (c : Nat) (s s' : PState) (ok extra : Prop) : Prop :=
  FP d s' ∧ SGrow T c s s' ∧ s.scopeStack.size ≤ s'.scopeStack.size ∧ (ok → s'.scopeStack = s.scopeStack ∧ extra)

/-- panic-freedom (and what they guarantee) of the mutually recursive functions with fuel `f` in the strict mode -/
structure SNP (X : Nat → Prop) (d : Bytes) (f : Nat) : Prop where
  next : ∀ {s : PState}, SP d s → MS X none s.tree → UnF X s (topOf s) → s.scopeStack.size ≠ 0 → Bud d 0 s →
    NPs (parseNextObject d f) s (fun res s' => PostS d (TTop s) 0 s s' (res ≠ .failed) (MS X none s'.tree))
  namePath : ∀ {s : PState}, SP d s → MS X none s.tree → UnF X s (topOf s) → s.scopeStack.size ≠ 0 → Bud d 0 s →
    NPs (parseNamePathOrMethodCall d f) s (fun res s' => PostS d (TTop s) 0 s s' (res ≠ .failed)
      (MS X none s'.tree ∧ live s.tree (La s'.tree (topOf s)) = false ∧ live s'.tree (La s'.tree (topOf s)) = true))
  termList : ∀ {s : PState}, SP d s → MS X none s.tree → UnF X s (topOf s) → s.scopeStack.size ≠ 0 → Bud d 0 s →
    NPs (termListLoop d f) s (fun b s' => PostS d (TTop s) 0 s s' (b = true) (MS X none s'.tree))
  methodArgs : ∀ {s : PState} (n : Nat), SP d s → MS X none s.tree → UnF X s (topOf s) → s.scopeStack.size ≠ 0 → Bud d 0 s →
    NPs (methodArgsLoop d f n) s (fun b s' => PostS d (TTop s) 0 s s' (b = true) (MS X none s'.tree))
  objArgs : ∀ {s : PState} (curObj : Nat), SP d s → live s.tree curObj = true →
    rowFacts (slot s.tree curObj).infoIndex = true → Att s (slot s.tree curObj).infoIndex curObj → Bud d 14 s →
    MSx X s (slot s.tree curObj).infoIndex curObj 0 → UnF X s curObj →
    ((slot s.tree curObj).opcode = opMethod → (slot s.tree curObj).infoIndex = methodInfo) → ParNM s curObj →
    NPs (parseObjectArgs d f curObj) s (fun res s' => PostS d (TCur s curObj) 14 s s' (res ≠ .failed) (MS X none s'.tree))
  args : ∀ {s : PState} (info curObj j : Nat), SP d s → live s.tree curObj = true → InfoOK info → rowFacts info = true →
    j ≤ argCnt info → Bud d (2 * (7 - j)) s → Att s info curObj → PrevOK s info curObj j → MSx X s info curObj j →
    UnF X s curObj →
    ((slot s.tree curObj).opcode = opMethod → info = methodInfo) → ParNM s curObj →
    NPs (parseArgs d f info curObj j) s (fun res s' => PostS d (TCur s curObj) (2 * (7 - j)) s s' (res ≠ .failed) (MS X none s'.tree))
  arg : ∀ {s : PState} (info curObj argType : Nat) (ex : Option Nat), SP d s → live s.tree curObj = true → InfoOK info →
    Bud d 2 s →
    (argType = argTypeFieldList → C13.P s.tree curObj ≠ INV ∧ live s.tree (La s.tree curObj) = true ∧
      ∃ v, (slot s.tree (La s.tree curObj)).value = .u64 v) →
    MS X ex s.tree → UnF X s curObj → (¬ Leaf argType → ex = none) →
    ((slot s.tree curObj).opcode = opMethod → Leaf argType ∨ argType = argTypeTermList) → ParNM s curObj →
    NPs (parseArg d f info curObj argType) s (fun a s' => PostS d (TCur s curObj) 2 s s' (a.2 ≠ .failed) (MS X ex s'.tree) ∧
      RetOK s s' a.1 ∧ (Leaf argType → ∀ x, live s.tree x = true → slot s'.tree x = slot s.tree x) ∧
      (argType = argTypeByteData → a.2 = .ok → ∃ x v, a.1 = some x ∧ (slot s'.tree x).value = .u64 v) ∧
      (argType = argTypePkgLen → a.1 = none) ∧ (isSimpleArg argType = true → a.2 = .ok → ∃ x, a.1 = some x) ∧
      (Leaf argType → a.2 = .ok ∨ a.2 = .failed))
  strictTermArg : ∀ {s : PState} (curObj : Nat), SP d s → live s.tree curObj = true →
    (slot s.tree curObj).opcode ≠ opMethod → MS X none s.tree → UnF X s curObj → Bud d 2 s →
    NPs (parseStrictTermArg d f curObj) s (fun a s' => PostS d (fun x => x = curObj) 2 s s' (a.2 ≠ .failed) (MS X none s'.tree) ∧
      RetOK s s' a.1)
  target : ∀ {s : PState}, SP d s → MS X none s.tree → UnF X s INV → Bud d 1 s →
    NPs (parseTarget d f) s (fun a s' => PostS d (fun _ => False) 1 s s' (a.2 ≠ .failed) (MS X none s'.tree) ∧ RetOK s s' a.1)

/-- what `parseArg(info, curObj, argType)` returning `a` guarantees: the common part, the returned object, and what
the caller needs to know of a leaf argument (`parseArgs` reads the name and the flags of a `Method` through these) -/
structure ArgPost (X : Nat → Prop) (d : Bytes) (s : PState) (curObj argType : Nat) (ex : Option Nat)
    (a : Option Nat × PRes) (s' : PState) : Prop where
  post : PostS d (TCur s curObj) 2 s s' (a.2 ≠ .failed) (MS X ex s'.tree)
  ret : RetOK s s' a.1
  frame : Leaf argType → ∀ x, live s.tree x = true → slot s'.tree x = slot s.tree x
  byteData : argType = argTypeByteData → a.2 = .ok → ∃ x v, a.1 = some x ∧ (slot s'.tree x).value = .u64 v
  pkgLen : argType = argTypePkgLen → a.1 = none
  simple : isSimpleArg argType = true → a.2 = .ok → ∃ x, a.1 = some x
  leafRes : Leaf argType → a.2 = .ok ∨ a.2 = .failed

theorem ArgPost.ofNonLeaf {d : Bytes} {s s' : PState} {curObj argType : Nat} {ex : Option Nat} {a : Option Nat × PRes}
    (hnl : ¬ Leaf argType) (p : PostS d (TCur s curObj) 2 s s' (a.2 ≠ .failed) (MS X ex s'.tree)) (r : RetOK s s' a.1) :
    ArgPost X d s curObj argType ex a s' :=
  ⟨p, r, fun hl => absurd hl hnl, fun hq => absurd (Or.inl (by rw [hq]; decide)) hnl, fun hq => absurd (Or.inr hq) hnl,
    fun hq => absurd (Or.inl hq) hnl, fun hl => absurd hl hnl⟩

/-! The contracts with the fuel bound as a guard, one per function: what the walk below proves by induction on the fuel;
`SNP` is what they say without the guards. -/

def NextC (X : Nat → Prop) (d : Bytes) (f : Nat) : Prop :=
  ∀ {s : PState}, SP d s → MS X none s.tree → UnF X s (topOf s) → s.scopeStack.size ≠ 0 → Bud d 0 s →
    Rs (nNext (rem d s) ≤ f) (parseNextObject d f) s (fun res s' =>
      PostS d (TTop s) 0 s s' (res ≠ .failed) (MS X none s'.tree) ∧ (res = .ok → s.r.offset < s'.r.offset))

def NamePathC (X : Nat → Prop) (d : Bytes) (f : Nat) : Prop :=
  ∀ {s : PState}, SP d s → MS X none s.tree → UnF X s (topOf s) → s.scopeStack.size ≠ 0 → Bud d 0 s →
    Rs (nNP (rem d s) ≤ f) (parseNamePathOrMethodCall d f) s (fun res s' => PostS d (TTop s) 0 s s' (res ≠ .failed)
      (MS X none s'.tree ∧ live s.tree (La s'.tree (topOf s)) = false ∧ live s'.tree (La s'.tree (topOf s)) = true) ∧
      (res = .ok → s.r.offset < s'.r.offset))

def TermListC (X : Nat → Prop) (d : Bytes) (f : Nat) : Prop :=
  ∀ {s : PState}, SP d s → MS X none s.tree → UnF X s (topOf s) → s.scopeStack.size ≠ 0 → Bud d 0 s →
    Rs (nTL (rem d s) ≤ f) (termListLoop d f) s (fun b s' => PostS d (TTop s) 0 s s' (b = true) (MS X none s'.tree))

def MethodArgsC (X : Nat → Prop) (d : Bytes) (f : Nat) : Prop :=
  ∀ {s : PState} (n : Nat), SP d s → MS X none s.tree → UnF X s (topOf s) → s.scopeStack.size ≠ 0 → Bud d 0 s →
    Rs (nMA (rem d s) n ≤ f) (methodArgsLoop d f n) s (fun b s' => PostS d (TTop s) 0 s s' (b = true) (MS X none s'.tree))

def ObjArgsC (X : Nat → Prop) (d : Bytes) (f : Nat) : Prop :=
  ∀ {s : PState} (curObj : Nat), SP d s → ObjPre d s curObj →
    MSx X s (slot s.tree curObj).infoIndex curObj 0 → UnF X s curObj →
    ((slot s.tree curObj).opcode = opMethod → (slot s.tree curObj).infoIndex = methodInfo) → ParNM s curObj →
    Rs (nOA (rem d s) ≤ f) (parseObjectArgs d f curObj) s (fun res s' =>
      PostS d (TCur s curObj) 14 s s' (res ≠ .failed) (MS X none s'.tree))

def ArgsC (X : Nat → Prop) (d : Bytes) (f : Nat) : Prop :=
  ∀ {s : PState} (info curObj j : Nat), SP d s → ArgsPre d s info curObj j → MSx X s info curObj j → UnF X s curObj →
    ((slot s.tree curObj).opcode = opMethod → info = methodInfo) → ParNM s curObj →
    Rs (nArgs (rem d s) j ≤ f) (parseArgs d f info curObj j) s (fun res s' =>
      PostS d (TCur s curObj) (2 * (7 - j)) s s' (res ≠ .failed) (MS X none s'.tree))

def ArgC (X : Nat → Prop) (d : Bytes) (f : Nat) : Prop :=
  ∀ {s : PState} (info curObj argType : Nat) (ex : Option Nat), SP d s → ArgPre d s info curObj argType →
    MS X ex s.tree → UnF X s curObj → (¬ Leaf argType → ex = none) →
    ((slot s.tree curObj).opcode = opMethod → Leaf argType ∨ argType = argTypeTermList) → ParNM s curObj →
    Rs (nArg (rem d s) ≤ f) (parseArg d f info curObj argType) s (ArgPost X d s curObj argType ex)

def StrictTermArgC (X : Nat → Prop) (d : Bytes) (f : Nat) : Prop :=
  ∀ {s : PState} (curObj : Nat), SP d s → live s.tree curObj = true →
    (slot s.tree curObj).opcode ≠ opMethod → MS X none s.tree → UnF X s curObj → Bud d 2 s →
    Rs (nStrict (rem d s) ≤ f) (parseStrictTermArg d f curObj) s (fun a s' =>
      PostS d (fun x => x = curObj) 2 s s' (a.2 ≠ .failed) (MS X none s'.tree) ∧ RetOK s s' a.1)

def TargetC (X : Nat → Prop) (d : Bytes) (f : Nat) : Prop :=
  ∀ {s : PState}, SP d s → MS X none s.tree → UnF X s INV → Bud d 1 s →
    Rs (nTgt (rem d s) ≤ f) (parseTarget d f) s (fun a s' =>
      PostS d (fun _ => False) 1 s s' (a.2 ≠ .failed) (MS X none s'.tree) ∧ RetOK s s' a.1)

structure SRP (X : Nat → Prop) (d : Bytes) (f : Nat) : Prop where
  next : NextC X d f
  namePath : NamePathC X d f
  termList : TermListC X d f
  methodArgs : MethodArgsC X d f
  objArgs : ObjArgsC X d f
  args : ArgsC X d f
  arg : ArgC X d f
  strictTermArg : StrictTermArgC X d f
  target : TargetC X d f

theorem SP.step {d : Bytes} {s s' : PState} (h : SP d s) (hf : FP d s') (g : SGrow T c s s')
    (hst : ∀ x ∈ s'.scopeStack.toList, x ∈ s.scopeStack.toList ∨ (slot s'.tree x).opcode ≠ opMethod) : SP d s' :=
  ⟨hf, by rw [g.same.1]; exact h.ab, h.nm.step h.fp g.kfr.mK hst⟩

theorem SP.same {d : Bytes} {c : Nat} {s s' : PState} (h : SP d s) (hf : FP d s') (g : SGrow T c s s')
    (hsc : s'.scopeStack = s.scopeStack) : SP d s' :=
  h.step hf g (fun x hx => Or.inl (by rw [← hsc]; exact hx))

theorem SP.push {d : Bytes} {s : PState} (hS : SP d s) {x : Nat} (hx : live s.tree x = true)
    (hnm : (slot s.tree x).opcode ≠ opMethod) : SP d { s with scopeStack := s.scopeStack.push x } := by
  have mem : ∀ y ∈ (s.scopeStack.push x).toList, y ∈ s.scopeStack.toList ∨ y = x := fun y hy => by
    rwa [Array.toList_push, List.mem_append, List.mem_singleton] at hy
  exact ⟨⟨hS.fp.inv, hS.fp.tree, fun y hy => (mem y hy).elim (hS.fp.scopes y) fun e => e ▸ hx⟩, hS.ab,
    fun y hy => (mem y hy).elim (hS.nm y) fun e => e ▸ hnm⟩

/-- `p.scopeEnter(x.index)` for a live object `x` that is not a method, then `k`: `k` runs from `s` with `x` pushed, a
state whose tree and reader are those of `s` by `rfl` -/
theorem scopeEnterObj_rs {d : Bytes} {β : Type} {g : Prop} {k : Unit → P β} {s : PState} (hS : SP d s) {x : Nat}
    (hx : live s.tree x = true) (hnm : (slot s.tree x).opcode ≠ opMethod) {R : β → PState → Prop}
    (hk : SP d { s with scopeStack := s.scopeStack.push x } → topOf { s with scopeStack := s.scopeStack.push x } = x →
      Rs g (k ()) { s with scopeStack := s.scopeStack.push x } R) :
    Rs g (getObj x >>= fun o => scopeEnter o.index >>= k) s R := by
  refine Rs.step (getObj_live hx) ?_
  rw [hS.fp.tree.wf.index_eq x (live_lt hx)]
  exact Rs.step (scopeEnter_ex x s) (hk (hS.push hx hnm) (topOf_push s x rfl))

theorem SGrow.ofPush {s : PState} (x : Nat) : SGrow T 0 s { s with scopeStack := s.scopeStack.push x } :=
  SGrow.ofSame rfl (Nat.le_refl _) ⟨rfl, rfl, rfl⟩

theorem PostS.imp {d : Bytes} {c : Nat} {s s' : PState} {ok ok' extra : Prop} (p : PostS d T c s s' ok extra) (h : ok' → ok) :
    PostS d T c s s' ok' extra := ⟨p.1, p.2.1, p.2.2.1, fun hq => p.2.2.2 (h hq)⟩

theorem PostS.via {d : Bytes} {T' : Nat → Prop} {c c' : Nat} {s s1 s' : PState} {ok extra : Prop} (p : PostS d T' c' s1 s' ok extra)
    (hsc : s1.scopeStack = s.scopeStack) (g : SGrow T c s s') : PostS d T c s s' ok extra :=
  ⟨p.1, g, by rw [← hsc]; exact p.2.2.1, fun hq => ⟨by rw [(p.2.2.2 hq).1, hsc], (p.2.2.2 hq).2⟩⟩

theorem PostS.same {d : Bytes} {c : Nat} {s s' : PState} {ok extra : Prop} (h' : FP d s') (g : SGrow T c s s')
    (hsc : s'.scopeStack = s.scopeStack) (hex : ok → extra) : PostS d T c s s' ok extra :=
  ⟨h', g, by rw [hsc]; exact Nat.le_refl _, fun hq => ⟨hsc, hex hq⟩⟩

theorem PostS.seq {d : Bytes} {s s1 s2 : PState} {ok2 extra1 extra : Prop}
    (p1 : PostS d (TTop s) 0 s s1 True extra1) (p2 : PostS d (TTop s1) 0 s1 s2 ok2 extra) :
    PostS d (TTop s) 0 s s2 ok2 extra := by
  obtain ⟨_, g1, hz1, hk1⟩ := p1
  obtain ⟨h2, g2, hz2, hk2⟩ := p2
  have hst := (hk1 trivial).1
  have htop : topOf s1 = topOf s := by unfold topOf; rw [hst]
  have g2' : SGrow (TTop s) 0 s1 s2 := by
    have : TTop s1 = TTop s := by unfold TTop; rw [htop]
    rw [← this]; exact g2
  exact ⟨h2, g1.trans g2', by rw [← hst]; exact hz2, fun hq => ⟨by rw [(hk2 hq).1, hst], (hk2 hq).2⟩⟩

theorem after_next {d : Bytes} {s s1 : PState} (hS : SP d s) (hu : UnF X s (topOf s)) (hne : s.scopeStack.size ≠ 0)
    (hb : Bud d 0 s) (p : PostS d (TTop s) 0 s s1 True (MS X none s1.tree)) :
    SP d s1 ∧ MS X none s1.tree ∧ UnF X s1 (topOf s1) ∧ s1.scopeStack.size ≠ 0 ∧ Bud d 0 s1 := by
  obtain ⟨h1, g1, _, hk⟩ := p
  obtain ⟨hst, hms1⟩ := hk trivial
  obtain ⟨_, htopl, _⟩ := scopeCurrent_top hS.fp hne
  have htop : topOf s1 = topOf s := by unfold topOf; rw [hst]
  refine ⟨hS.same h1 g1 hst, hms1, ?_, by rw [hst]; exact hne, ?_⟩
  · rw [htop]; exact hu.grow g1 hS.fp.tree.wf h1.tree.wf hS.fp.tree.root (Or.inr htopl)
  · have := budS hb g1 h1.inv.1 (Nat.le_refl _)
    exact this

theorem MS.close {t : ObjectTree} {c : Nat} (h : MS X (some c) t) (hc : Sh t c) : MS X none t := by
  intro m hl ho _ hx
  by_cases hm : m = c
  · rw [hm]; exact hc
  · exact h m hl ho (by intro e; cases e; exact hm rfl) hx

/-- the exception of the method invariant while argument `j` is read: the `Method` whose name and flags are being read -/
def exOf (info curObj j : Nat) : Option Nat := if info = methodInfo ∧ j < 3 then some curObj else none

theorem exOf_method {info curObj j : Nat} (hi : info = methodInfo) (h3 : j < 3) : exOf info curObj j = some curObj :=
  if_pos ⟨hi, h3⟩

theorem exOf_none {info curObj j : Nat} (hq : ¬ (info = methodInfo ∧ j < 3)) : exOf info curObj j = none := if_neg hq

theorem method_leaf {j : Nat} (h3 : j < 3) : Leaf (argAt methodInfo j) := by
  obtain ⟨_, a0, a1, a2, _⟩ := method_row
  have : j = 0 ∨ j = 1 ∨ j = 2 := by omega
  rcases this with hq | hq | hq <;> subst hq
  · exact Or.inr a0
  · exact Or.inl (by rw [a1]; decide)
  · exact Or.inl (by rw [a2]; decide)

theorem exOf_nonLeaf {info curObj j : Nat} (hnl : ¬ Leaf (argAt info j)) : exOf info curObj j = none :=
  exOf_none (fun hq => hnl (hq.1 ▸ method_leaf hq.2))

theorem MSx.other {s : PState} {info c j : Nat} (hq : ¬ (info = methodInfo ∧ j < 3)) :
    MSx X s info c j ↔ MS X none s.tree := by
  unfold MSx
  by_cases hi : info = methodInfo
  · rw [if_pos hi]
    have h3 : 3 ≤ j := Nat.le_of_not_lt (fun h => hq ⟨hi, h⟩)
    exact ⟨fun h => h.2.2 h3, fun h => ⟨fun h1 => by omega, fun h2 => by omega, fun _ => h⟩⟩
  · rw [if_neg hi]

theorem MSx.method01 {s : PState} {info c j : Nat} (hi : info = methodInfo) (hj : j ≤ 1) :
    MSx X s info c j ↔ MS X (some c) s.tree ∧ Fi s.tree c = INV ∧ La s.tree c = INV := by
  unfold MSx
  rw [if_pos hi]
  exact ⟨fun h => h.1 hj, fun h => ⟨fun _ => h, fun h2 => by omega, fun h3 => by omega⟩⟩

theorem MSx.method2 {s : PState} {info c : Nat} (hi : info = methodInfo) :
    MSx X s info c 2 ↔ MS X (some c) s.tree ∧ La s.tree c = Fi s.tree c ∧ live s.tree (Fi s.tree c) = true := by
  unfold MSx
  rw [if_pos hi]
  exact ⟨fun h => h.2.1 rfl, fun h => ⟨fun h1 => by omega, fun _ => h, fun h3 => by omega⟩⟩

theorem MSx.toEx {s : PState} {info curObj j : Nat} (h : MSx X s info curObj j) : MS X (exOf info curObj j) s.tree := by
  by_cases hq : info = methodInfo ∧ j < 3
  · rw [exOf_method hq.1 hq.2]
    by_cases h1 : j ≤ 1
    · exact ((MSx.method01 hq.1 h1).1 h).1
    · exact ((MSx.method2 hq.1).1 ((by omega : j = 2) ▸ h)).1
  · rw [exOf_none hq]; exact (MSx.other hq).1 h

theorem MSx.toSome {s : PState} {info curObj j : Nat} (h : MSx X s info curObj j) : MS X (some curObj) s.tree := by
  have := h.toEx
  unfold exOf at this
  split at this
  · exact this
  · exact this.weaken _

theorem MSx.ofBlank' {s : PState} {info c : Nat} (h : MS X (some c) s.tree)
    (hnm : info ≠ methodInfo → (slot s.tree c).opcode ≠ opMethod) (w : WF s.tree) (hl : live s.tree c = true)
    (hfi : Fi s.tree c = INV) : MSx X s info c 0 := by
  by_cases hi : info = methodInfo
  · exact (MSx.method01 hi (Nat.zero_le _)).2 ⟨h, hfi, (w.lP hl).ends.1 hfi⟩
  · exact (MSx.other (fun hq => hi hq.1)).2 (h.ofSome (hnm hi))

theorem MSx.ofBlank {s : PState} {info c : Nat} (h : MS X none s.tree) (w : WF s.tree) (hl : live s.tree c = true)
    (hfi : Fi s.tree c = INV) : MSx X s info c 0 := by
  by_cases hi : info = methodInfo
  · exact (MSx.method01 hi (Nat.zero_le _)).2 ⟨h.weaken _, hfi, (w.lP hl).ends.1 hfi⟩
  · exact (MSx.other (fun hq => hi hq.1)).2 h

theorem MSx.close {s : PState} {info curObj : Nat} (h : MSx X s info curObj (argCnt info)) : MS X none s.tree :=
  (MSx.other (fun hq => by have := hq.2; rw [hq.1, method_row.1] at this; omega)).1 h

/-- the phase machine of the argument loop: argument `j` of `curObj` returned `(a1, a2)` under the contract of `parseArg` with the
exception of phase `j`, and the object it returned, if any, was appended to `curObj`.  On `ok` the invariant of phase `j + 1`
holds: a `Method` reads its package length (no object), its name (the first argument), its flags (the second, an integer), and
is complete with them.  On any other result but `failed` no exception is left, since a leaf argument returns `ok` or `failed` -/
theorem MSx.next {d : Bytes} {s s1 s2 : PState} {info curObj j : Nat} {a1 : Option Nat} {a2 : PRes} (hmsx : MSx X s info curObj j)
    (w : WF s.tree) (hc : live s.tree curObj = true)
    (p : ArgPost X d s curObj (argAt info j) (exOf info curObj j) (a1, a2) s1) (hung : ArgHung curObj a1 s1 s2) :
    (a2 = .ok → MSx X s2 info curObj (j + 1)) ∧ (a2 ≠ .ok → a2 ≠ .failed → MS X none s2.tree) := by
  obtain ⟨⟨h1, g1, _, hok1⟩, hret, hleaf, hbd, hpkn, hsim, hlf⟩ := p
  dsimp only at hok1 hret hbd hpkn hsim hlf
  -- the invariant with the exception of phase `j`, behind the `append`
  have hms2 : a2 ≠ .failed → MS X (exOf info curObj j) s2.tree := fun hnf => by
    cases a1 with
    | none => cases hung; exact (hok1 hnf).2
    | some x => exact (hok1 hnf).2.spliced h1.tree.wf hung.2
  by_cases hq : info = methodInfo ∧ j < 3
  · obtain ⟨hi, h3⟩ := hq
    rw [hi] at hleaf hbd hpkn hsim hlf
    have hl := hleaf (method_leaf h3) curObj hc
    refine ⟨fun hok => ?_, fun hnok hnf => ((hlf (method_leaf h3)).elim hnok hnf).elim⟩
    have hm := hms2 (by rw [hok]; decide)
    rw [exOf_method hi h3] at hm
    obtain ⟨_, r0, r1, r2, _⟩ := method_row
    have hj : j = 0 ∨ j = 1 ∨ j = 2 := by omega
    rcases hj with rfl | rfl | rfl
    · -- the package length: no object
      cases hpkn r0
      cases hung
      obtain ⟨_, f0, l0⟩ := (MSx.method01 hi (Nat.zero_le _)).1 hmsx
      exact (MSx.method01 hi (Nat.le_refl _)).2 ⟨hm, by unfold Fi; rw [hl]; exact f0, by unfold La; rw [hl]; exact l0⟩
    · -- the name: the first argument
      obtain ⟨x, rfl⟩ := hsim (by rw [r1]; decide) hok
      obtain ⟨_, A⟩ := hung
      obtain ⟨_, _, l0⟩ := (MSx.method01 hi (Nat.le_refl _)).1 hmsx
      have hla1 : La s1.tree curObj = INV := by unfold La; rw [hl]; exact l0
      refine (MSx.method2 hi).2 ⟨hm, ?_, ?_⟩
      · rw [A.la_last, A.fi, if_pos ⟨rfl, hla1⟩]
      · rw [A.fi, if_pos ⟨rfl, hla1⟩, A.pay.live]; exact (hret x rfl).2.1
    · -- the flags: the second argument, behind the name
      obtain ⟨x, v, rfl, hv⟩ := hbd r2 hok
      obtain ⟨_, A⟩ := hung
      obtain ⟨q1, q2, _⟩ := hret x rfl
      obtain ⟨_, lf, lv⟩ := (MSx.method2 hi).1 hmsx
      have ha : La s1.tree curObj = Fi s.tree curObj := by rw [← lf]; unfold La; rw [hl]
      have hn0 : La s1.tree curObj ≠ INV := ha ▸ live_ne_INV w.size_le lv
      have hfi2 : Fi s2.tree curObj = Fi s.tree curObj := by rw [A.fi_keep hn0]; unfold Fi; rw [hl]
      have hnx2 : Nx s2.tree (Fi s.tree curObj) = x :=
        ha ▸ A.nx_left hn0 (fun e => by rw [← e, ha, lv] at q1; cases q1)
      refine (MSx.other (fun h => by omega)).2 (hm.close ⟨v, ?_, ?_, ?_⟩)
      · rw [hfi2, A.pay.live]; exact g1.oldLive _ lv
      · rw [hfi2, hnx2, A.pay.live]; exact q2
      · rw [hfi2, hnx2, pay_value (A.pay.pay _)]; exact hv
  · rw [exOf_none hq] at hms2
    exact ⟨fun hok => (MSx.other (fun h => hq ⟨h.1, by omega⟩)).2 (hms2 (by rw [hok]; decide)), fun _ hnf => hms2 hnf⟩

theorem SGrow.lastK {c : Nat} {s s' : PState} (g : SGrow T c s s') (w' : WF s'.tree) {n : Nat} (hn : live s.tree n = true)
    (hp : C13.P s.tree n ≠ INV) (hT : ¬ T (C13.P s.tree n)) (hnx : Nx s.tree n = INV) : La s'.tree (C13.P s.tree n) = n := by
  have := (w'.lP (g.oldLive _ hn)).last (by rw [g.oldP _ hn]; exact hp) (by rw [(g.kidK n hn hp hT).1]; exact hnx)
  rwa [g.oldP _ hn] at this

theorem ParNM.grow {c : Nat} {s s' : PState} {curObj : Nat} (h : ParNM s curObj) (g : SGrow T c s s') (w : WF s.tree)
    (hc : live s.tree curObj = true) : ParNM s' curObj := by
  unfold ParNM at h ⊢
  rw [g.oldP _ hc]
  rcases h with hq | hq
  · exact Or.inl hq
  · by_cases hpi : C13.P s.tree curObj = INV
    · exact Or.inl hpi
    · exact Or.inr (fun ho => hq ((g.kfr.mK _ (w.live_p hc hpi)).1 ho))

/-- `scopeExit()` after a call that worked under `x`, pushed on the scope stack `st` -/
theorem scopeExit_post {d : Bytes} {c : Nat} {sA sB : PState} {st : Array Nat} {x : Nat} {ok extra : Prop}
    (hsc : sA.scopeStack = st.push x) (p : PostS d (TTop sA) c sA sB ok extra) :
    ∃ sC, scopeExit sB = .ok ((), sC) ∧ FP d sC ∧ sC.tree = sB.tree ∧ SGrow (fun y => y = x) c sA sC ∧
      st.size ≤ sC.scopeStack.size ∧ (ok → sC.scopeStack = st ∧ extra) := by
  obtain ⟨hB, gB, hszB, hokB⟩ := p
  have hszA : sA.scopeStack.size = st.size + 1 := by rw [hsc, Array.size_push]
  obtain ⟨sC, eC, hC, hsC⟩ := scopeExit_step hB (by omega)
  have gBC : SGrow (TTop sA) 0 sB sC := SGrow.ofSame (by rw [hsC]) (by rw [hsC]; exact Nat.le_refl _) (by rw [hsC]; exact ⟨rfl, rfl, rfl⟩)
  refine ⟨sC, eC, hC, by rw [hsC], ?_, ?_, fun hq => ⟨?_, (hokB hq).2⟩⟩
  · have := gB.trans gBC
    have htop : topOf sA = x := by unfold topOf; rw [hsc, Array.back?_push]; rfl
    rw [show TTop sA = fun y => y = x from by unfold TTop; rw [htop]] at this
    exact this
  · rw [hsC]; show st.size ≤ sB.scopeStack.pop.size; rw [Array.size_pop]; omega
  · rw [hsC]; show sB.scopeStack.pop = st; rw [(hokB hq).1, hsc, Array.pop_push]

theorem _root_.Firefly.AmlParser.S.HungNew.ms {s s1 s2 : PState} {n p : Nat} (k : HungNew T s s1 s2 n p) (w : WF s1.tree)
    {ex : Option Nat} (hms : MS X ex s.tree) (hn : (slot s1.tree n).opcode = opMethod → ex = some n) : MS X ex s2.tree :=
  (hms.fresh k.fresh hn).spliced w k.spl

/-! ## the walk: one step of each function, given the contracts for less fuel -/

theorem target_stepS {d : Bytes} (hd : d.size + 268435456 ≤ 4294967296) {f : Nat} (ih : SRP X d f) :
    TargetC X d (f + 1) := by
  intro s hS hms hu hb
  have h := hS.fp
  refine parseTarget_rs (by omega) h hb ?_ ?_ ?_
  · intro n s6 res h6 f6 hk
    exact ⟨PostS.same h6 (SGrow.ofFresh1 f6) f6.scope (fun _ => hms.fresh f6 (fun hq => by rw [hq, isK_method] at hk; cases hk)),
      fun a ha => by cases ha; exact ⟨f6.nlive, f6.liven, f6.pn⟩⟩
  · intro r2 res h2 hlt
    exact ⟨PostS.same h2 ((SGrow.ofLex rfl (Nat.le_of_lt hlt)).weaken (by decide)) rfl (fun _ => hms), fun a ha => by cases ha⟩
  · intro r2 n s4 h2 hlt f4 pre htop
    have h4 := pre.fp
    have hnm : (slot s4.tree n).opcode ≠ opMethod := fun hq => by rw [hq, method_ops.2.2.2] at htop; cases htop
    have g4 : SGrow (fun _ => False) 1 { s with r := r2 } s4 := SGrow.ofFresh1 f4
    have g14 : SGrow (fun _ => False) 1 s s4 := (SGrow.ofLex rfl (Nat.le_of_lt hlt)).trans g4
    have := ih.objArgs (s := s4) n (hS.same h4 g14 f4.scope) pre
      (MSx.ofBlank (MS.fresh (s := { s with r := r2 }) hms f4 (fun hq => absurd hq hnm)) h4.tree.wf f4.liven f4.fin)
      (hu.new g14 h h4 (Or.inl rfl) f4.nlive f4.liven f4.pn)
      (fun hq => absurd hq hnm) (Or.inl f4.pn)
    refine this.mono (fun hf => need_tgt_oa hf (rem_lt (Nat.lt_of_lt_of_le hlt g4.off) h4.inv.1)) ?_
    intro res s5 p5
    have g5 := p5.2.1
    exact ⟨p5.via f4.scope ((SGrow.absorb rfl hlt (g4.thenCur g5 h2.tree.wf f4.nlive (Or.inl f4.pn)) (by decide)).weaken (by decide)),
      fun a ha => by cases ha; exact ⟨f4.nlive, g5.oldLive _ f4.liven, by rw [g5.oldP _ f4.liven]; exact f4.pn⟩⟩

theorem strictTermArg_stepS {d : Bytes} (hd : d.size + 268435456 ≤ 4294967296) {f : Nat} (ih : SRP X d f) :
    StrictTermArgC X d (f + 1) := by
  intro s curObj hS hc hnm hms hu hb
  have hd' : d.size + 1024 ≤ 4294967296 := by omega
  have h := hS.fp
  have w := h.tree.wf
  unfold parseStrictTermArg
  refine Rs.step (lex_offset_ex s) ?_
  obtain ⟨opr, s2, e2, h2, ⟨hr2, r2, en, hi2, hR⟩, hs2⟩ := lex_step (rel_peekNextOpcode d hd') h
  refine Rs.step e2 ?_
  rw [show s2 = s by rw [hs2, hr2]]
  refine Rs.ite (fun hnok => ?_) fun hok => ?_
  · -- a name: a method call or a reference, parsed with `curObj` as the scope and taken off again
    refine scopeEnterObj_rs hS hc hnm fun hSA htopA => ?_
    have := ih.namePath hSA hms (by rw [htopA]; exact hu) (by rw [Array.size_push]; exact Nat.succ_ne_zero _) (hb.mono (by decide))
    refine Rs.bind this (fun hf => need_strict_np hf (Nat.le_refl _)) ?_
    intro res sB ⟨pB, _⟩
    obtain ⟨sC, eC, hC, htC, gAC, hszC, hokC⟩ := scopeExit_post rfl pB
    refine Rs.step eC ?_
    have gC : SGrow (fun x => x = curObj) 0 s sC := (SGrow.ofPush curObj).trans gAC
    rw [htopA] at hokC
    refine Rs.ite (fun hres => ?_) fun hres => ?_
    · obtain ⟨hscC, q2, q3, q4⟩ := hokC (by rw [hres]; decide)
      have hcC : live sC.tree curObj = true := gC.oldLive _ hc
      refine Rs.step (getObj_live hcC) ?_
      rw [show (slot sC.tree curObj).lastArgIndex = La sB.tree curObj by rw [htC]; rfl]
      have htl : live sC.tree (La sB.tree curObj) = true := by rw [htC]; exact q4
      refine Rs.step (objectAt_live' htl) ?_
      refine Rs.step (derefP_some_ex _) ?_
      have hlaP : C13.P sC.tree (La sB.tree curObj) = curObj :=
        ((hC.tree.wf.lP hcC).la (live_ne_INV hC.tree.wf.size_le (htC ▸ htl))).1 |> (htC ▸ ·)
      have hnew : live s.tree (La sB.tree curObj) = false := q3
      obtain ⟨sD, eD, hD, hsD, ED, gD, hlD, hPD⟩ := unhang_step hC gC rfl hcC hnew htl hlaP
      refine Rs.step eD ?_
      have hnmC : (slot sC.tree curObj).opcode ≠ opMethod := fun hq => hnm ((gC.kfr.mK curObj hc).1 hq)
      have hmsD : MS X none sD.tree :=
        (htC ▸ q2 : MS X none sC.tree).unlinked hC.tree.wf (fun m hm ho _ => absurd (hm ▸ ho) hnmC) ED
      refine Rs.step (a := some (La sB.tree curObj)) (s1 := sD) rfl ?_
      refine eofPop_rs hD ?_
      intro sE hE htE hscE gDE
      exact Rs.pure ⟨PostS.same hE ((gD.trans gDE).weaken (by decide)) (by rw [hscE, hsD]; exact hscC)
        (fun _ => by rw [htE]; exact hmsD), fun a ha => by cases ha; exact ⟨hnew, by rw [htE]; exact hlD, by rw [htE]; exact hPD⟩⟩
    · refine Rs.step (a := none) (s1 := sC) rfl ?_
      refine eofPop_rs hC ?_
      intro sE hE htE hscE gCE
      refine Rs.pure ⟨⟨hE, (gC.trans gCE).weaken (by decide), by rw [hscE]; exact hszC, fun hq => ?_⟩, fun a ha => by cases ha⟩
      obtain ⟨q1, q2, _, _⟩ := hokC hq
      exact ⟨by rw [hscE, q1], by rw [htE, htC]; exact q2⟩
  · have hok : opr.2 = .ok := Classical.byContradiction hok
    rcases hR with ⟨hf, _, _⟩ | ⟨_, hbad, hpk, hlt, _⟩
    · rw [hok] at hf; cases hf
    refine Rs.ite (fun _ => Rs.pure ⟨PostS.same h ((SGrow.refl s).weaken (by decide)) rfl (fun hq => absurd rfl hq),
      fun a ha => by cases ha⟩) fun hty => ?_
    have hnmo : opr.1 ≠ opMethod := by
      intro hq
      apply hty
      rw [hq, method_ops.1, method_ops.2.1, method_ops.2.2.1]
      decide
    obtain ⟨hrow, hinfo, _⟩ := op_facts hbad
    -- the opcode is consumed; from here the state is `s` with the reader behind it
    refine Rs.step (lex_eq (s := s) en) ?_
    have h3 : FP d { s with r := r2 } := h.withR hi2
    refine newObjectAt_rs h3 opr.1 _ ((hb.consume (s1 := { s with r := r2 }) rfl hlt h3.inv.1).mono (k' := 1) (by decide)).size_lt
      hinfo ?_
    intro n s5 h5 f5 hop5 hinfo5
    have hn1 : live s.tree n = false := f5.nlive
    obtain ⟨s6, e6, h6, k6⟩ := hang_step (T := fun x => x = curObj) h3 h5 f5 hc rfl
    refine Rs.step e6 ?_
    have hc6 : live s6.tree curObj = true := k6.sg.oldLive _ hc
    have hop6 : (slot s6.tree n).opcode = opr.1 := by rw [pay_opcode k6.pay]; exact hop5
    have hnm6 : (slot s6.tree curObj).opcode ≠ opMethod := fun hq => hnm ((k6.sg.kfr.mK curObj hc).1 hq)
    have g16 : SGrow (fun x => x = curObj) 1 s s6 := (SGrow.ofLex rfl (Nat.le_of_lt hlt)).trans k6.sg
    have := ih.objArgs (s := s6) n (hS.same h6 g16 k6.scope)
      (.ofNew hb h6 hlt h3.inv.1 k6.sg k6.liven (by rw [pay_info k6.pay]; exact hinfo5) hrow
        (Or.inl (by rw [k6.par]; exact live_ne_INV w.size_le hc)))
      (MSx.ofBlank (k6.ms h5.tree.wf hms (fun hq => absurd (hop5 ▸ hq) hnmo)) h6.tree.wf
        k6.liven (k6.fin hc))
      (hu.new g16 h h6 (Or.inr hc) hn1 k6.liven k6.par)
      (fun hq => absurd (hop6 ▸ hq) hnmo) (Or.inr (by rw [k6.par]; exact hnm6))
    refine Rs.bind this (fun hf => need_strict_oa hf (rem_lt (Nat.lt_of_lt_of_le hlt k6.sg.off) h6.inv.1)) ?_
    intro res s7 ⟨h7, g7, hsz7, hok7⟩
    have g37 := k6.sg.thenCur g7 h3.tree.wf f5.nlive (Or.inr k6.par)
    have hn7 : live s7.tree n = true := g7.oldLive _ k6.liven
    have hP7n : C13.P s7.tree n = curObj := by rw [g7.oldP _ k6.liven]; exact k6.par
    obtain ⟨s8, e8, h8, hs8, E8, g38, hn8, hP8n⟩ := unhang_step h7 g37 rfl (g7.oldLive _ hc6) f5.nlive hn7 hP7n
    refine Rs.step e8 ?_
    refine eofPop_rs h8 ?_
    intro s9 h9 ht9 hsc9 g89
    refine Rs.pure ⟨⟨h9, (SGrow.absorb rfl hlt (g38.trans g89) (by decide)).weaken (by decide), ?_, fun hq => ?_⟩,
      fun a ha => by cases ha; exact ⟨hn1, by rw [ht9]; exact hn8, by rw [ht9]; exact hP8n⟩⟩
    · rw [hsc9, hs8]; show s.scopeStack.size ≤ s7.scopeStack.size; rw [← k6.scope]; exact hsz7
    · obtain ⟨q1, q2⟩ := hok7 hq
      refine ⟨by rw [hsc9, hs8]; show s7.scopeStack = _; rw [q1, k6.scope], ?_⟩
      rw [ht9]
      have hnm7 : (slot s7.tree curObj).opcode ≠ opMethod := fun hq => hnm6 ((g7.kfr.mK curObj hc6).1 hq)
      exact q2.unlinked h7.tree.wf (fun m hm ho _ => absurd (hm ▸ ho) hnm7) E8

theorem namePath_stepS {d : Bytes} (hd : d.size + 268435456 ≤ 4294967296) {f : Nat} (ih : SRP X d f) :
    NamePathC X d (f + 1) := by
  intro s hS hms hu hne hb
  have hd' : d.size + 1024 ≤ 4294967296 := by omega
  have h := hS.fp
  have w := h.tree.wf
  unfold parseNamePathOrMethodCall
  -- behind the name the state is `s` with the reader `r2`: tree, stacks and mode are those of `s` by `rfl`
  refine Rs.step (lex_offset_ex s) (Rs.lex (rel_parseNameString' d hd') h fun sr r2 h2 ⟨hR2, hlead2⟩ => ?_)
  have g12 : ∀ {T : Nat → Prop}, SGrow T 0 s { s with r := r2 } := SGrow.ofLex rfl hR2.2.1
  have fail2 : PostS d (TTop s) 0 s { s with r := r2 } (PRes.failed ≠ .failed)
      (MS X none s.tree ∧ live s.tree (La s.tree (topOf s)) = false ∧ live s.tree (La s.tree (topOf s)) = true) :=
    PostS.same h2 g12 rfl (fun hq => absurd rfl hq)
  refine Rs.ite (fun _ => Rs.pure ⟨fail2, fun hq => by cases hq⟩) fun hok => ?_
  have hsrok : sr.2 = .ok := Classical.byContradiction hok
  have hlt : s.r.offset < r2.offset := by
    rcases hR2.2.2.2 with ⟨_, hlt⟩ | hf
    · exact hlt
    · exact absurd (by rw [hf]; decide) hok
  refine Rs.step (allBlocks_ex _) (Rs.ite (fun hc => absurd hc (by show ¬ (!s.allBlocks) = true; rw [hS.ab]; decide)) fun _ => ?_)
  obtain ⟨_, htopl, htopm⟩ := scopeCurrent_top h hne
  refine Rs.step (scopeCurrent_same h2 rfl hne) ?_
  refine Rs.step (a := s.tree) (s1 := { s with r := r2 }) rfl ?_
  -- an incomplete method left behind by an earlier table is not what the lookup returns
  obtain ⟨anc0, ti, eanc, eti, hti⟩ := hu.lookup h htopl (sliceExpr d sr.1) (hlead2 hsrok)
  refine Rs.step (liftR_ex eanc _) (Rs.step (liftR_ex eti _) ?_)
  refine Rs.ite (fun _ => Rs.pure ⟨fail2, fun hq => by cases hq⟩) fun hinv => ?_
  obtain ⟨htil, hnotX⟩ := hti.resolve_left hinv
  refine Rs.step (objectAt_live' htil) ?_
  have hb2 : Bud d 16 { s with r := r2 } := hb.consume rfl hlt h2.inv.1
  refine newObjectAt_rs h2 opIntResolvedNamePath _ (hb2.mono (k' := 1) (by decide)).size_lt
    (infoOK_const (by decide)) ?_
  intro n s4 h4 f4 hop4 _
  obtain ⟨s5, e5, h5, hp5, hsl5, _⟩ := upd_step h4 f4.liven (fun o => { o with value := .idx ti }) (fun _ => rfl) Iff.rfl
    (h4.tree.info _ f4.liven)
  refine Rs.step e5 ?_
  have f5 := f4.thenPay hp5
  have hop5 : (slot s5.tree n).opcode = opIntResolvedNamePath := by rw [hsl5]; exact hop4
  refine Rs.step (scopeCurrent_same h5 f5.scope hne) ?_
  refine Rs.step (derefP_some_ex _) ?_
  have hn1 : live s.tree n = false := f5.nlive
  obtain ⟨s6, e6, h6, k6⟩ := hang_step (T := TTop s) h2 h5 f5 htopl rfl
  refine Rs.step e6 ?_
  have hti6 : live s6.tree ti = true := k6.sg.oldLive _ htil
  refine Rs.step (derefP_some_ex _) ?_
  refine Rs.step (getObj_live hti6) ?_
  have hms6 : MS X none s6.tree :=
    k6.ms h5.tree.wf hms (fun hq => absurd (hop5 ▸ hq) (by decide))
  have hsc6 : s6.scopeStack = s.scopeStack := k6.scope
  -- the byte read pays for the new object, which need not be listed
  have fin : ∀ {c : Nat} {s' : PState}, SGrow (TTop s) c { s with r := r2 } s' → c ≤ 16 → SGrow (TTop s) 0 s s' :=
    fun g hc => SGrow.absorb rfl hlt g hc
  refine Rs.ite (fun _ => Rs.pure ⟨PostS.same h6 (fin k6.sg (by decide)) hsc6 (fun _ => ⟨hms6, by rw [k6.la]; exact ⟨hn1, k6.liven⟩⟩),
    fun _ => Nat.lt_of_lt_of_le hlt k6.sg.off⟩) fun hmeth => ?_
  -- a method call: the arguments follow
  have hmeth : (slot s6.tree ti).opcode = opMethod := Classical.byContradiction hmeth
  have hop6 : (slot s6.tree n).opcode = opIntResolvedNamePath := by rw [pay_opcode k6.pay]; exact hop5
  obtain ⟨_, s7, e7, h7, hp7, _, hsl7⟩ := setOpcode_tot h6 k6.liven opIntMethodCall (by decide) (by decide) (by rw [hop6]; decide)
  refine Rs.step e7 ?_
  have hobj7 : live s7.tree n = true := by rw [hp7.links.live]; exact k6.liven
  obtain ⟨s8, e8, h8, hp8, hsl8, _⟩ := upd_step h7 hobj7
    (fun o => { o with infoIndex := pOpcodeTableIndex opIntMethodCall true }) (fun _ => rfl) Iff.rfl
    (by dsimp only; exact infoOK_const (by decide)) (.ofNotK (by rw [hsl7]; exact (by decide : isK opIntMethodCall = false)) (by rw [hsl7]; exact (by decide : isK opIntMethodCall = false)))
  refine Rs.step e8 ?_
  have hobj8 : live s8.tree n = true := by rw [hp8.links.live]; exact hobj7
  have hp68 : PayOnly n s6 s8 := hp7.trans hp8
  have htopnm : (slot s6.tree (topOf s)).opcode ≠ opMethod := fun hq => hS.nm _ htopm ((k6.sg.kfr.mK _ htopl).1 hq)
  have hms8 : MS X none s8.tree := hms6.pay h6.tree.wf hp68 (Or.inr (by rw [k6.par]; exact htopnm))
  have g28 : SGrow (TTop s) 1 { s with r := r2 } s8 :=
    k6.sg.thenCur (SGrow.ofPay hp68 (Or.inr (Or.inr rfl)) (Or.inl rfl) k6.liven) h2.tree.wf f5.nlive (Or.inr k6.par)
  have hsc8 : s8.scopeStack = s.scopeStack := by rw [hp68.scope, hsc6]
  have g18 : SGrow (TTop s) 1 s s8 := g12.trans g28
  have hS8 : SP d s8 := hS.same h8 g18 hsc8
  have hop8 : (slot s8.tree n).opcode = opIntMethodCall := by rw [hsl8, hsl7]
  refine scopeEnterObj_rs hS8 hobj8 (by rw [hop8]; decide) fun hS9 htop9 => ?_
  refine Rs.step (a := s8.tree) rfl ?_
  -- the flags of the method
  have hti8 : live s8.tree ti = true := hp68.links.live ti ▸ hti6
  have htin : ti ≠ n := fun e => by rw [e, f5.nlive] at htil; cases htil
  have hsh := hms8 ti hti8 (by rw [hp68.others ti htin]; exact hmeth) (by intro hq; cases hq)
    (hnotX ((k6.sg.kfr.mK ti htil).1 hmeth))
  refine Rs.step (liftR_ex (hsh.argAt h8.tree.wf hti8) _) ?_
  refine Rs.step (derefP_some_ex _) ?_
  obtain ⟨v, _, hc2l, hc2v⟩ := hsh
  refine Rs.step (u64Value_ex (live_lt hc2l) hc2v) ?_
  have hP8n : C13.P s8.tree n = topOf s := by rw [hp68.links.p]; exact k6.par
  have hu8 : UnF X s8 n := hu.new g18 h h8 (Or.inr htopl) hn1 hobj8 hP8n
  have := ih.methodArgs (v &&& 7) hS9 hms8 (by rw [htop9]; exact hu8) (by rw [Array.size_push]; exact Nat.succ_ne_zero _)
    ((budS hb2 g28 h8.inv.1 (by decide)).mono (by decide))
  refine Rs.bind this (fun hf => need_np_ma hf (rem_lt (Nat.lt_of_lt_of_le hlt g28.off) h8.inv.1) Nat.and_le_right) ?_
  intro b s10 p10
  have g10 := p10.2.1
  obtain ⟨s11, e11, h11, ht11, g911, hsz11, hok11⟩ := scopeExit_post rfl p10
  have g211 := (g28.trans (SGrow.ofPush n)).thenNew g911 h2.tree.wf (fun x e => Or.inr (e ▸ f5.nlive))
  rw [hsc8] at hsz11 hok11
  cases b with
  | false =>
    rw [if_pos (show (!false) = true from rfl)]
    exact Rs.step e11 (Rs.pure ⟨⟨h11, fin g211 (by decide), hsz11, fun hq => absurd rfl hq⟩, fun hq => by cases hq⟩)
  | true =>
    rw [if_neg (by decide)]
    obtain ⟨q1, q2⟩ := hok11 rfl
    refine Rs.step e11 (Rs.pure ⟨⟨h11, fin g211 (by decide), hsz11, fun _ => ⟨q1, by rw [ht11]; exact q2, ?_⟩⟩,
      fun _ => Nat.lt_of_lt_of_le hlt g211.off⟩)
    -- `n` is still the last argument of the scope: the loop worked under `n`
    have hla := g10.lastK p10.1.tree.wf hobj8 (by rw [hP8n]; exact live_ne_INV w.size_le htopl)
      (fun e => f5.ne htopl ((hP8n.symm.trans e).trans htop9)) (by rw [hp68.links.nx]; exact k6.nx)
    rw [ht11, ← hP8n, hla]
    exact ⟨hn1, g10.oldLive _ hobj8⟩

/-- the rest of a loop after `parseNextObject` returned `res` -/
theorem loop_rest {d : Bytes} {g g' : Prop} {s s1 : PState} {res : PRes} {rest : P Bool} (hS : SP d s)
    (hu : UnF X s (topOf s)) (hne : s.scopeStack.size ≠ 0) (hb : Bud d 0 s)
    (p1 : PostS d (TTop s) 0 s s1 (res ≠ .failed) (MS X none s1.tree)) (hg : res = .ok → g → g')
    (ih : SP d s1 → MS X none s1.tree → UnF X s1 (topOf s1) → s1.scopeStack.size ≠ 0 → Bud d 0 s1 →
      Rs g' rest s1 (fun b s' => PostS d (TTop s1) 0 s1 s' (b = true) (MS X none s'.tree))) :
    Rs g (if res ≠ .ok then pure false else rest) s1 (fun b s' => PostS d (TTop s) 0 s s' (b = true) (MS X none s'.tree)) := by
  refine Rs.ite (fun _ => Rs.pure (p1.imp (fun hq => by cases hq))) fun hok => ?_
  have hok : res = .ok := Classical.byContradiction hok
  have p1' : PostS d (TTop s) 0 s s1 True (MS X none s1.tree) := p1.imp (fun _ => by rw [hok]; decide)
  obtain ⟨hS1, hms1, hu1, hne1, hb1⟩ := after_next hS hu hne hb p1'
  exact (ih hS1 hms1 hu1 hne1 hb1).mono (hg hok) (fun b s2 p2 => PostS.seq p1' p2)

theorem methodArgs_stepS {d : Bytes} {f : Nat} (ih : SRP X d f) : MethodArgsC X d (f + 1) := by
  intro s n hS hms hu hne hb
  unfold methodArgsLoop
  cases n with
  | zero => exact Rs.pure (PostS.same hS.fp (SGrow.refl s) rfl (fun _ => hms))
  | succ n =>
    refine Rs.bind (ih.next hS hms hu hne hb) need_ma_next ?_
    intro res s1 ⟨p1, _⟩
    exact loop_rest hS hu hne hb p1 (fun _ hf => need_ma_ma hf (Nat.sub_le_sub_left p1.2.1.off _)) (ih.methodArgs n)

theorem termList_stepS {d : Bytes} {f : Nat} (ih : SRP X d f) : TermListC X d (f + 1) := by
  intro s hS hms hu hne hb
  unfold termListLoop
  refine Rs.step (lex_eof_ex s) (Rs.ite (fun _ => Rs.pure (PostS.same hS.fp (SGrow.refl s) rfl (fun _ => hms))) fun _ => ?_)
  refine Rs.bind (ih.next hS hms hu hne hb) need_tl_next ?_
  intro res s1 ⟨p1, hprog⟩
  exact loop_rest hS hu hne hb p1 (fun hok hf => need_tl_tl hf (rem_lt (hprog hok) p1.1.inv.1)) ih.termList

theorem next_stepS {d : Bytes} (hd : d.size + 268435456 ≤ 4294967296) {f : Nat} (ih : SRP X d f) :
    NextC X d (f + 1) := by
  intro s hS hms hu hne hb
  have h := hS.fp
  have w := h.tree.wf
  obtain ⟨_, htopl, htopm⟩ := scopeCurrent_top h hne
  refine parseNextObject_rs (by omega) h hne hb ?_ ?_ ?_
  · refine (ih.namePath hS hms hu hne hb).mono need_next_np ?_
    intro res s' ⟨p, hpr⟩
    exact ⟨⟨p.1, p.2.1, p.2.2.1, fun hq => ⟨(p.2.2.2 hq).1, (p.2.2.2 hq).2.1⟩⟩, hpr⟩
  · intro r2 h2 hlt
    exact ⟨PostS.same h2 (SGrow.ofLex rfl (Nat.le_of_lt hlt)) rfl (fun _ => hms), fun _ => hlt⟩
  · intro r2 n s4 s6 h2 hlt h4 k pre hinfo6 _ _
    have h6 := pre.fp
    -- the table row of `n` says whether it is a `Method`
    have hcons : (slot s6.tree n).opcode = opMethod → (slot s6.tree n).infoIndex = methodInfo := fun hq => by rw [hinfo6, hq]; rfl
    have htopnm : (slot s6.tree (topOf s)).opcode ≠ opMethod := fun hq => hS.nm _ htopm ((k.sg.kfr.mK _ htopl).1 hq)
    have g16 : SGrow (TTop s) 1 s s6 := (SGrow.ofLex rfl (Nat.le_of_lt hlt)).trans k.sg
    have := ih.objArgs (s := s6) n (hS.same h6 g16 k.scope) pre
      (MSx.ofBlank' (k.ms h4.tree.wf (hms.weaken (some n)) (fun _ => rfl))
        (fun hi hq => hi (hcons hq)) h6.tree.wf pre.lv (k.fin htopl))
      (hu.new g16 h h6 (Or.inr htopl) k.fresh.nlive pre.lv k.par)
      hcons (Or.inr (by rw [k.par]; exact htopnm))
    refine this.mono (fun hf => need_next_oa hf (rem_lt (Nat.lt_of_lt_of_le hlt k.sg.off) h6.inv.1)) ?_
    intro res s7 p7
    have g7 := p7.2.1
    exact ⟨p7.via k.scope (SGrow.absorb rfl hlt (k.sg.thenCur g7 h2.tree.wf k.fresh.nlive (Or.inr k.par)) (by decide)),
      fun _ => by have : r2.offset ≤ s6.r.offset := k.sg.off; have := g7.off; omega⟩

/-- `case pArgTypeTermList:` in the strict mode: a new scope block under `curObj`, the objects up to the package end,
the block taken off again -/
theorem termListArg_rs {d : Bytes} {f : Nat} (ih : SRP X d f) {s : PState} (curObj : Nat) (hS : SP d s)
    (hc : live s.tree curObj = true) (hb : Bud d 2 s) (hms : MS X none s.tree) (hu : UnF X s curObj) :
    Rs (nTL (rem d s) ≤ f) (do
        let scope ← newScopeBlock
        if !(← allBlocks) then pure (some scope, .shortCircuit) else do
        tree (·.append curObj scope)
        if !(← termListLoop d f) then pure (none, .failed) else do
        scopeExit
        tree (·.detach curObj scope)
        pure (some scope, .ok) : P (Option Nat × PRes)) s
      (fun a s' => PostS d (TCur s curObj) 2 s s' (a.2 ≠ .failed) (MS X none s'.tree) ∧ RetOK s s' a.1) := by
  have h := hS.fp
  have w := h.tree.wf
  -- the state behind `newScopeBlock` is `sm` with `scope` pushed: its tree and its reader are those of `sm` by `rfl`
  obtain ⟨scope, _, sm, e1, h1, _, fm, rfl, hopm, _, hrm, _⟩ := newScopeBlock_step h (hb.mono (k' := 1) (by decide)).size_lt
  have g1 : SGrow (TCur s curObj) 1 s _ := (Eff.ofScopeBlock fm).sg
  refine Rs.step e1 (Rs.step (allBlocks_ex _) ?_)
  refine Rs.ite (fun hq => absurd hq (by show ¬ (!sm.allBlocks) = true; rw [fm.same.1, hS.ab]; decide)) fun _ => ?_
  have hns : live s.tree scope = false := fm.nlive
  have hc1 : live sm.tree curObj = true := g1.oldLive _ hc
  have hms1 : MS X none sm.tree := hms.fresh fm (fun hq => absurd (hopm ▸ hq) (by decide))
  obtain ⟨s2, e2, h2, hs2, A, g2⟩ := append_stepS w h1 g1 (Or.inl rfl) hc hns fm.liven fm.pn
  refine Rs.step e2 ?_
  have hsc2 : s2.scopeStack = s.scopeStack.push scope := by rw [hs2]; show sm.scopeStack.push scope = _; rw [fm.scope]
  have hr2 : s2.r = s.r := by rw [hs2]; exact hrm
  have hsc2l : live s2.tree scope = true := by rw [A.pay.live]; exact fm.liven
  have hP2s : C13.P s2.tree scope = curObj := by rw [A.p, if_pos rfl]
  have hop2 : (slot s2.tree scope).opcode = opIntScopeBlock := by rw [pay_opcode (A.pay.pay scope)]; exact hopm
  have hS2 : SP d s2 := hS.step h2 g2 (fun x hx => by
    rw [hsc2, Array.toList_push, List.mem_append, List.mem_singleton] at hx
    exact hx.imp id fun e => by rw [e, hop2]; decide)
  have htop2 : topOf s2 = scope := topOf_push s scope hsc2
  have hu2 : UnF X s2 (topOf s2) := by
    rw [htop2]
    exact hu.new g2 h h2 (Or.inr hc) hns hsc2l hP2s
  have := ih.termList (s := s2) hS2 (hms1.spliced h1.tree.wf A) hu2 (by rw [hsc2, Array.size_push]; exact Nat.succ_ne_zero _)
    ((budS hb g2 h2.inv.1 (by decide)).mono (by decide))
  refine Rs.bind this (fun hf => by show nTL (d.size - s2.r.offset) ≤ f; rw [hr2]; exact hf) ?_
  intro b s3 p3
  have g3 := p3.2.1
  cases b with
  | false =>
    rw [if_pos (show (!false) = true from rfl)]
    refine Rs.pure ⟨⟨p3.1, (g2.thenNew g3 w (fun x e => Or.inr ((htop2 ▸ e : x = scope) ▸ hns))).weaken (by decide), ?_,
      fun hq => absurd rfl hq⟩, fun a ha => by cases ha⟩
    have := p3.2.2.1
    rw [hsc2, Array.size_push] at this
    omega
  | true =>
    rw [if_neg (by decide)]
    obtain ⟨s4, e4, h4, ht4, g24, _, hok4⟩ := scopeExit_post hsc2 p3
    obtain ⟨hsc4, q2⟩ := hok4 rfl
    refine Rs.step e4 ?_
    have hc2 : live s2.tree curObj = true := by rw [A.pay.live]; exact hc1
    have hc4 : live s4.tree curObj = true := by rw [ht4]; exact g3.oldLive _ hc2
    have hl4 : live s4.tree scope = true := by rw [ht4]; exact g3.oldLive _ hsc2l
    have hP4s : C13.P s4.tree scope = curObj := by rw [ht4, g3.oldP _ hsc2l]; exact hP2s
    have g04 : SGrow (TCur s curObj) 1 s s4 := g2.thenNew g24 w (fun x e => Or.inr (e ▸ hns))
    obtain ⟨s5, e5, h5, hs5, E5, g05, hl5, hP5⟩ := unhang_step h4 g04 (Or.inl rfl) hc4 hns hl4 hP4s
    refine Rs.step e5 (Rs.pure ⟨PostS.same h5 (g05.weaken (by decide)) (by rw [hs5]; exact hsc4) (fun _ => ?_),
      fun a ha => by cases ha; exact ⟨hns, hl5, hP5⟩⟩)
    -- a method keeps its name and its flags in front of the block
    refine (ht4 ▸ q2 : MS X none s4.tree).unlinked h4.tree.wf ?_ E5
    intro m hmo ho4 _ _
    subst hmo
    have ho : (slot s.tree m).opcode = opMethod := (g04.kfr.mK m hc).1 ho4
    have hxm : ¬ X m := hu.notSelf w hc ho
    obtain ⟨p1, _, _, _⟩ := (hms m hc ho (by intro hq; cases hq) hxm).parents w hc
    obtain ⟨v, l1, l2, _⟩ := hms m hc ho (by intro hq; cases hq) hxm
    have hcs : m ≠ scope := fm.ne hc
    -- its first two arguments through the fresh block, the `append` and the loop under `scope`
    have f1 : Fi sm.tree m = Fi s.tree m := by unfold Fi; rw [fm.old m hcs]
    have n1 : Nx sm.tree (Fi s.tree m) = Nx s.tree (Fi s.tree m) := by unfold Nx; rw [fm.old _ (fm.ne l1)]
    obtain ⟨f2, n2⟩ := (hms1 m hc1 ((g1.kfr.mK m hc).2 ho) (by intro hq; cases hq) hxm).append_links h1.tree.wf hc1 fm.pn hc1 A.nx A.fi
    have hnT : ¬ TTop s2 m := fun hq => hcs (htop2 ▸ hq : m = scope)
    have hp2 : C13.P s2.tree (Fi s.tree m) = m := by rw [g2.oldP _ l1]; exact p1
    have f4 : Fi s4.tree m = Fi s.tree m := by rw [ht4, g3.fiK m hc2 hnT, f2, f1]
    have n4 : Nx s4.tree (Fi s.tree m) = Nx s.tree (Fi s.tree m) := by
      rw [ht4, (g3.kidK _ (g2.oldLive _ l1) (by rw [hp2]; exact live_ne_INV w.size_le hc) (by rw [hp2]; exact hnT)).1, ← f1, n2,
        f1, n1]
    rw [f4, n4]
    exact ⟨fun e => fm.ne l1 e.symm, fun e => fm.ne l2 e.symm⟩

theorem arg_stepS {d : Bytes} (hd : d.size + 268435456 ≤ 4294967296) {f : Nat} (ih : SRP X d f) :
    ArgC X d (f + 1) := by
  intro s info curObj argType ex hS pre hms hu hex hmeth hpar
  have hd' : d.size + 1024 ≤ 4294967296 := by omega
  have ⟨h, hc, hinfo, hb, hfl⟩ := pre
  have w := h.tree.wf
  have hszlt : s.tree.pool.size < INV := (hb.mono (k' := 1) (by decide)).size_lt
  unfold parseArg
  refine Rs.ite (fun hsimple => ?_) fun hsimple => Rs.ite (fun hbl => ?_) fun _ => Rs.ite (fun hpk => ?_) fun hpk => ?_
  · obtain ⟨n, res, s', e, h', f', hnm', hpr, hv⟩ := parseSimpleArg_tot hd' h hszlt hsimple
    have post : PostS d (TCur s curObj) 2 s s' (res ≠ .failed) (MS X ex s'.tree) :=
      PostS.same h' ((SGrow.ofFresh1 f').weaken (by decide)) f'.scope
        (fun _ => hms.fresh f' (fun hq => by rw [hq, isK_method] at hnm'; cases hnm'))
    have hnpk : argType ≠ argTypePkgLen := fun hq => by rw [hq] at hsimple; exact absurd hsimple (by decide)
    exact Rs.of_eq e ⟨post, fun x hx => (by cases hx; exact ⟨f'.nlive, f'.liven, f'.pn⟩),
      fun _ x hx => f'.old x (f'.ne hx), fun hbd _ => (hv (Or.inl hbd)).elim fun v hv => ⟨_, v, rfl, hv⟩,
      fun hq => absurd hq hnpk, fun _ _ => ⟨_, rfl⟩, fun _ => hpr.elim (fun hq => Or.inl hq.1) Or.inr⟩
  · have hnl : ¬ Leaf argType := fun hl => hl.elim hsimple fun hq => absurd (hbl.symm.trans hq) (by decide)
    have hexn := hex hnl
    subst hexn
    unfold parseByteListArg
    refine Rs.step (reader_ex s) (Rs.ite (fun _ => Rs.pure (.ofNonLeaf hnl
      (PostS.same h ((SGrow.refl s).weaken (by decide)) rfl (fun hq => absurd rfl hq)) (fun a ha => by cases ha))) fun hover => ?_)
    obtain ⟨n, s1, e1, h1, f1, hr1, hop1, _⟩ := newObject_step h opIntByteList hszlt (infoOK_const (by decide))
    refine Rs.step e1 ?_
    refine Rs.step (reader_ex s1) ?_
    have hi1 := h.inv.1; have hi2 := h.inv.2
    rw [show u32 (s1.r.pkgEnd + 4294967296 - s1.r.offset) = s.r.pkgEnd - s.r.offset by rw [hr1, u32_sub (by omega) (by omega)]]
    obtain ⟨_, s2, e2, h2, hp2, _⟩ := parseByteList_tot hd' h1 f1.liven (s.r.pkgEnd - s.r.offset) (by rw [hr1]; omega)
      (by rw [hop1]; decide)
    have f2 := f1.thenPay hp2
    refine Rs.step e2 (Rs.pure (.ofNonLeaf hnl (PostS.same h2 ((SGrow.ofFresh1 f2).weaken (by decide)) f2.scope
      (fun _ => hms.fresh f2 (fun hq => ?_))) (fun a ha => by cases ha; exact ⟨f2.nlive, f2.liven, f2.pn⟩)))
    have := hp2.mth.1 hq
    rw [hop1] at this
    exact absurd this (by decide)
  · obtain ⟨a, s', e, h', ha, hsc', ⟨g', _, _⟩, _, _, _, hstrict⟩ := parsePkgLenArg_skip hd h info curObj hc hinfo
    obtain ⟨ht', hres'⟩ := hstrict hS.ab
    exact Rs.of_eq e ⟨PostS.same h' (g'.sg.weaken (by decide)) hsc' (fun _ => by rw [ht']; exact hms),
      fun x hx => (by rw [ha] at hx; cases hx), fun _ x _ => (by rw [ht']),
      fun hq => (by rw [hpk] at hq; cases hq), fun _ => ha, fun hq => absurd hq hsimple, fun _ => hres'⟩
  · have hnl : ¬ Leaf argType := fun hl => hl.elim hsimple hpk
    have hexn := hex hnl
    subst hexn
    -- what is left takes arguments of its own; a `Method` has none of these but the `TermList`
    have hnmc : argType ≠ argTypeTermList → (slot s.tree curObj).opcode ≠ opMethod :=
      fun htl ho => (hmeth ho).elim hnl htl
    refine Rs.ite (fun hfld => ?_) fun _ => Rs.ite (fun hta => ?_) fun _ => Rs.ite (fun htl => ?_) fun htl => ?_
    · obtain ⟨hp, hla, hv⟩ := hfl hfld
      obtain ⟨res, s', e, h', g', hsc', _, fr⟩ := parseFieldElements_tot (T := TCur s curObj) hd h curObj hc hp hla hv hb
        (Or.inl rfl) (Or.inr rfl)
      refine Rs.step e (Rs.pure (.ofNonLeaf hnl (PostS.same h' g' hsc' (fun _ => ?_)) (fun x hx => by cases hx)))
      refine hms.frm w fr (fun m hm ho _ hT => ?_)
      rcases hT with hT | hT
      · exact hnmc (by rw [hfld]; decide) (hT ▸ ho)
      · exact hpar.elim hp (fun hq => hq (hT ▸ ho))
    · refine Rs.step (allBlocks_ex s) ?_
      rw [hS.ab, if_pos rfl]
      refine (ih.strictTermArg curObj hS hc (hnmc (by rcases hta with hq | hq <;> rw [hq] <;> decide)) hms hu hb).mono
        need_arg_strict ?_
      intro a s' ⟨p, hret⟩
      exact .ofNonLeaf hnl (p.via rfl (p.2.1.mono w (fun x _ hT => Or.inl hT))) hret
    · exact (termListArg_rs ih curObj hS hc hb hms hu).mono need_arg_tl (fun a s' p => .ofNonLeaf hnl p.1 p.2)
    · refine (ih.target hS hms (hu.toINV w) (hb.mono (by decide))).mono need_arg_tgt ?_
      intro a s' ⟨p, hret⟩
      exact .ofNonLeaf hnl (p.via rfl ((p.2.1.mono w (fun x _ hT => False.elim hT)).weaken (by decide))) hret

theorem args_stepS {d : Bytes} {f : Nat} (ih : SRP X d f) : ArgsC X d (f + 1) := by
  intro s info curObj j hS pre hmsx hu hcons hpar
  have h := hS.fp
  have hc := pre.lv
  have w := h.tree.wf
  have hcnt := rowFacts_cnt pre.row
  refine parseArgs_rs pre (A := ArgPost X d s curObj (argAt info j) (exOf info curObj j))
    (fun he => PostS.same h ((SGrow.refl s).weaken (Nat.zero_le _)) rfl (fun _ => (he ▸ hmsx).close))
    (fun hlt pa => (ih.arg info curObj (argAt info j) (exOf info curObj j) hS pa hmsx.toEx hu exOf_nonLeaf
      (fun ho => by rw [hcons ho] at hlt ⊢; exact method_arg_kinds hlt) hpar).mono (fun hf => need_args_arg hf (by omega))
      (fun _ _ p => p))
    (fun a s1 p => ⟨p.post.1, p.post.2.1, p.ret, p.byteData⟩) (fun hlt a1 a2 s1 s2 p hung h2 g2 => ?_)
  have hj8 : j < 8 := by omega
  have hnext := hmsx.next w hc p hung
  obtain ⟨_, _, hsz1, hok1⟩ := p.post
  dsimp only at hok1
  have hsc2 : s2.scopeStack = s1.scopeStack := by rw [hung.eq]
  constructor
  · intro hok p2
    have hst2 : s2.scopeStack = s.scopeStack := by rw [hsc2, (hok1 (by rw [hok]; decide)).1]
    have := ih.args info curObj (j + 1) (hS.same h2 g2 hst2) p2 (hnext.1 hok)
      (hu.grow g2 w h2.tree.wf h.tree.root (Or.inr hc)) (fun hq => hcons ((g2.kfr.mK _ hc).1 hq)) (hpar.grow g2 w hc)
    refine this.mono (fun hf => need_args_next hf (Nat.sub_le_sub_left g2.off _) hj8) ?_
    exact fun res s3 p3 => p3.via hst2 (pre.comp hlt g2 p3.2.1)
  · intro hok
    exact ⟨h2, g2.weaken (by omega), by rw [hsc2]; exact hsz1, fun hq => ⟨by rw [hsc2]; exact (hok1 hq).1, hnext.2 hok hq⟩⟩

theorem objArgs_stepS {d : Bytes} {f : Nat} (ih : SRP X d f) : ObjArgsC X d (f + 1) := by
  intro s curObj hS pre hmsx hu hcons hpar
  have h := hS.fp
  have hc := pre.lv
  refine parseObjectArgs_rs pre ?_ ?_
  · -- a constant: only the value of `curObj` changes
    intro res s' hk h' hp
    have hnm : (slot s.tree curObj).opcode ≠ opMethod := fun hq => by rw [hq, isK_method] at hk; cases hk
    exact PostS.same h' ((SGrow.ofPay hp (Or.inr (Or.inr rfl)) (Or.inl rfl) hc).weaken (by decide)) hp.scope
      (fun _ => (hmsx.toSome.ofSome hnm).pay h.tree.wf hp hpar)
  · refine (ih.args _ curObj 0 hS pre.args hmsx hu hcons hpar).mono need_oa_args ?_
    intro res s' p
    exact p.imp (fun hq hf => hq (by rw [hf]; decide))

theorem srp {d : Bytes} (hd : d.size + 268435456 ≤ 4294967296) (f : Nat) : SRP X d f := by
  induction f with
  | zero =>
    refine ⟨?_, ?_, ?_, ?_, ?_, ?_, ?_, ?_, ?_⟩
    · intro s _ _ _ _ _; unfold parseNextObject; exact Rs.fuel (by unfold nNext; omega)
    · intro s _ _ _ _ _; unfold parseNamePathOrMethodCall; exact Rs.fuel (by unfold nNP; omega)
    · intro s _ _ _ _ _; unfold termListLoop; exact Rs.fuel (by unfold nTL nNext; omega)
    · intro s n _ _ _ _ _; unfold methodArgsLoop; exact Rs.fuel (by unfold nMA nNext; omega)
    · intro s c _ _ _ _ _ _; unfold parseObjectArgs; exact Rs.fuel (by unfold nOA nArg; omega)
    · intro s i c j _ _ _ _ _ _; unfold parseArgs; exact Rs.fuel (by unfold nArgs nArg; omega)
    · intro s i c a ex _ _ _ _ _ _ _; unfold parseArg; exact Rs.fuel (by unfold nArg; omega)
    · intro s c _ _ _ _ _ _; unfold parseStrictTermArg; exact Rs.fuel (by unfold nStrict; omega)
    · intro s _ _ _ _; unfold parseTarget; exact Rs.fuel (by unfold nTgt; omega)
  | succ f ih =>
    exact ⟨next_stepS hd ih, namePath_stepS hd ih, termList_stepS ih, methodArgs_stepS ih, objArgs_stepS ih, args_stepS ih,
      arg_stepS hd ih, strictTermArg_stepS hd ih, target_stepS hd ih⟩

/-- the strict-mode functions never end in `.panic`, for every amount of fuel -/
theorem snp {d : Bytes} (hd : d.size + 268435456 ≤ 4294967296) (f : Nat) : SNP X d f :=
  have h := srp (X := X) hd f
  ⟨fun hS hms hu hne hb => (h.next hS hms hu hne hb).1.mono (fun _ _ p => p.1),
    fun hS hms hu hne hb => (h.namePath hS hms hu hne hb).1.mono (fun _ _ p => p.1),
    fun hS hms hu hne hb => (h.termList hS hms hu hne hb).1,
    fun n hS hms hu hne hb => (h.methodArgs n hS hms hu hne hb).1,
    fun c hS hc hrow hatt hb hmsx hu hcons hpar => (h.objArgs c hS ⟨hS.fp, hc, hrow, hatt, hb⟩ hmsx hu hcons hpar).1,
    fun i c j hS hc hinfo hrow hj hb hatt hprev hmsx hu hcons hpar =>
      (h.args i c j hS ⟨hS.fp, hc, hinfo, hrow, hj, hb, hatt, hprev⟩ hmsx hu hcons hpar).1,
    fun i c a ex hS hc hinfo hb hfl hms hu hex hmeth hpar => (h.arg i c a ex hS ⟨hS.fp, hc, hinfo, hb, hfl⟩ hms hu hex hmeth hpar).1.mono
      (fun _ _ p => ⟨p.post, p.ret, p.frame, p.byteData, p.pkgLen, p.simple, p.leafRes⟩),
    fun c hS hc hnm hms hu hb => (h.strictTermArg c hS hc hnm hms hu hb).1,
    fun hS hms hu hb => (h.target hS hms hu hb).1⟩

theorem popAllPkgEnds_ex {d : Bytes} (n : Nat) : ∀ {s : PState}, FP d s →
    ∃ (a : Unit) (s' : PState), popAllPkgEnds d n s = .ok (a, s') ∧ FP d s' ∧ s'.tree = s.tree ∧ s'.scopeStack = s.scopeStack := by
  induction n with
  | zero => intro s h; unfold popAllPkgEnds; exact pure_ex ⟨h, rfl, rfl⟩
  | succ n ih =>
    intro s h
    unfold popAllPkgEnds
    have e0 : stackSizes s = .ok ((s.pkgEndStack.size, s.scopeStack.size), s) := rfl
    refine bind_ex e0 ?_
    split
    · exact pure_ex ⟨h, rfl, rfl⟩
    · obtain ⟨_, s1, e1, h1, ht1, hsc1, _, _⟩ := popPkgEnd_stepS h
      refine bind_ex e1 ?_
      obtain ⟨_, s2, e2, h2, ht2, hsc2⟩ := ih h1
      exact ⟨(), s2, e2, h2, by rw [ht2, ht1], by rw [hsc2, hsc1]⟩

/-- what `parseDeferred` needs to know about the deferred object -/
structure BlockOK (s : PState) (obj : Nat) : Prop where
  live : live s.tree obj = true
  row : rowFacts (slot s.tree obj).infoIndex = true
  notMethod : (slot s.tree obj).opcode ≠ opMethod ∧ (slot s.tree obj).infoIndex ≠ methodInfo
  attached : C13.P s.tree obj ≠ INV
  parent : (slot s.tree (C13.P s.tree obj)).opcode ≠ opMethod

/-- what one deferred block leaves: the frame of the whole block (only the argument lists of `obj` and of its parent
change; opcode kinds, names and rows of `Method`s, `Scope`s and scope blocks stay), at most 16 new objects per table
byte, and on success the method invariant and the scope stack -/
def BlockPost (X : Nat → Prop) (d : Bytes) (s : PState) (obj : Nat) (res : PRes) (s' : PState) : Prop :=
  FP d s' ∧ Frm (TCur s obj) s s' ∧ s'.tree.pool.size ≤ s.tree.pool.size + 16 * d.size + 14 ∧
  (res = .ok → MS X none s'.tree ∧ s'.scopeStack = s.scopeStack)

theorem BlockPost.old {d : Bytes} {s s' : PState} {obj : Nat} {res : PRes} (p : BlockPost X d s obj res s') :
    FP d s' ∧ (∀ x, live s.tree x = true → live s'.tree x = true ∧ C13.P s'.tree x = C13.P s.tree x) ∧
      (res = .ok → MS X none s'.tree ∧ s'.scopeStack = s.scopeStack) :=
  ⟨p.1, fun x hx => ⟨p.2.1.oldLive x hx, p.2.1.oldP x hx⟩, p.2.2.2⟩

/-- **One deferred block**, with the fuel bound as a guard: `C12.deferred_block_no_panic_WF` and `C12.deferred_block_total`
(`Props/C12.lean`, where the claim is spelled out in the terms of the parser) are its two halves -/
theorem parseDeferred_rs {d : Bytes} (hd : d.size + 268435456 ≤ 4294967296) (fuel : Nat) {s : PState} (obj : Nat)
    (h : FP d s) (hnm : StackNM s) (hms : MS X none s.tree) (hu : UnF X s obj) (hobj : BlockOK s obj)
    (hbud : s.tree.pool.size + 16 * d.size + 16 ≤ INV) :
    Rs (16 * d.size + 15 ≤ fuel) (parseDeferred d fuel obj) s (BlockPost X d s obj) := by
  unfold parseDeferred
  refine Rs.step (getObj_live hobj.live) ?_
  refine Rs.step (a := ()) (s1 := { s with allBlocks := true }) rfl ?_
  refine Rs.step (a := s.streamEnd) (s1 := { s with allBlocks := true }) rfl ?_
  -- the state in which the arguments are parsed: `s` in the strict mode with the reader inside the table; tree and
  -- stacks are those of `s` by `rfl`
  have main : ∀ r4, FP d { s with allBlocks := true, r := r4 } →
      Rs (16 * d.size + 15 ≤ fuel) (do
        if (← parseObjectArgs d fuel obj) ≠ .ok then pure .failed else do
        popAllPkgEnds d ((← stackSizes).1 + 1)
        pure PRes.ok : P PRes) { s with allBlocks := true, r := r4 } (BlockPost X d s obj) := by
    intro r4 h4
    have hi4 : r4.offset ≤ d.size := h4.inv.1
    have := (srp (X := X) hd fuel).objArgs obj ⟨h4, rfl, hnm⟩
      ⟨h4, hobj.live, hobj.row, Or.inl hobj.attached, by unfold Bud; show s.tree.pool.size + 16 * (d.size - r4.offset) + 14 ≤ INV; omega⟩
      (by unfold MSx; rw [if_neg hobj.notMethod.2]; exact hms) hu (fun hq => absurd hq hobj.notMethod.1) (Or.inr hobj.parent)
    refine Rs.bind this (fun hfuel => by unfold nOA nArg rem; omega) ?_
    intro res s5 ⟨h5, g5, _, hok5⟩
    have f5 : Frm (TCur s obj) s s5 := (Frm.ofTree (s := s) (s' := { s with allBlocks := true, r := r4 }) rfl).trans g5.frm
    have hsz5 : s5.tree.pool.size ≤ s.tree.pool.size + 16 * d.size + 14 := by
      have hb : s5.tree.pool.size + 16 * r4.offset ≤ s.tree.pool.size + 16 * s5.r.offset + 14 := g5.budget
      have := h5.inv.1
      omega
    refine Rs.ite (fun _ => Rs.pure ⟨h5, f5, hsz5, fun hq => by cases hq⟩) fun hres => ?_
    refine Rs.step (a := (s5.pkgEndStack.size, s5.scopeStack.size)) (s1 := s5) rfl ?_
    obtain ⟨_, s6, e6, h6, ht6, hsc6⟩ := popAllPkgEnds_ex (s5.pkgEndStack.size + 1) h5
    refine Rs.step e6 (Rs.pure ⟨h6, f5.trans (.ofTree ht6), by rw [ht6]; exact hsz5, fun _ => ?_⟩)
    obtain ⟨q1, q2⟩ := hok5 (by rw [Classical.byContradiction hres]; decide)
    exact ⟨by rw [ht6]; exact q2, by rw [hsc6, q1]⟩
  have h1 : FP d { s with allBlocks := true } := ⟨h.inv, h.tree, h.scopes⟩
  refine Rs.lex (rel_setPkgEnd d s.streamEnd) h1 fun _ r2 h2 _ => ?_
  refine Rs.lex (rel_setOffset d (u32 ((slot s.tree obj).amlOffset + 1))) h2 fun _ r3 h3 _ => ?_
  refine Rs.ite (fun _ => Rs.lex (rel_readByte d) h3 fun _ r4 h4 _ => main r4 h4) fun _ => main r3 h3

/-! ## the executable checks of the hypotheses (run by the replay oracle in front of every deferred block) -/

unseal rowFacts argAt argCnt in
theorem rowOKb_eq (i : Nat) : rowOKb i = rowFacts i := rfl

theorem shB_sound {t : ObjectTree} {m : Nat} (h : shB t m = true) : Sh t m := by
  unfold shB at h
  simp only [Bool.and_eq_true] at h
  obtain ⟨⟨h1, h2⟩, h3⟩ := h
  cases hv : (slot t (Nx t (Fi t m))).value with
  | u64 v => exact ⟨v, h1, h2, hv⟩
  | _ => rw [hv] at h3; cases h3

/-- the incomplete methods of `t` -/
def Inc (t : ObjectTree) : Nat → Prop := fun m => live t m = true ∧ (slot t m).opcode = opMethod ∧ ¬ Sh t m

theorem ms_inc (t : ObjectTree) : MS (Inc t) none t := by
  intro m hl ho _ hx
  apply Classical.byContradiction
  intro hsh
  exact hx ⟨hl, ho, hsh⟩

theorem unfB_sound {s : PState} {ref : Nat} (w : WF s.tree) (hroot : live s.tree 0 = true) (hr : live s.tree ref = true)
    (h : unfB s.tree ref = true) : UnF (Inc s.tree) s ref := by
  unfold unfB at h
  simp only [List.all_eq_true, List.mem_range, Bool.or_eq_true, Bool.not_eq_true', Bool.and_eq_false_imp,
    Bool.and_eq_true, beq_iff_eq] at h
  intro g ⟨hl, ho, hns⟩
  refine ⟨hl, fun _ => ?_⟩
  rcases h g (live_lt hl) with (h0 | h0) | h0
  · have := h0 hl
    simp only [beq_eq_false_iff_ne, ne_eq] at this
    exact absurd ho this
  · exact absurd (shB_sound h0) hns
  · obtain ⟨⟨hn, ha0⟩, har⟩ := h0
    exact ⟨hn, w.not_anc hroot ha0, w.not_anc hr har⟩

theorem stackNMb_sound {s : PState} (h : stackNMb s = true) : StackNM s := by
  unfold stackNMb at h
  simp only [List.all_eq_true, bne_iff_ne, ne_eq] at h
  exact h

theorem fpB_sound {d : Bytes} {s : PState} (h : fpB d s = true) : FP d s := by
  unfold fpB at h
  simp only [Bool.and_eq_true, decide_eq_true_eq, List.all_eq_true, List.mem_range, Bool.or_eq_true, Bool.not_eq_true'] at h
  obtain ⟨⟨⟨⟨⟨h1, h2⟩, hw⟩, hroot⟩, hall⟩, hsc⟩ := h
  refine ⟨⟨h1, h2⟩, ⟨by unfold wfCheck at hw; exact wfCert_sound' hw, ?_, hroot⟩, hsc⟩
  intro x hx
  rcases hall x (live_lt hx) with h0 | h0
  · rw [hx] at h0; cases h0
  · exact h0

theorem blockOKb_sound {s : PState} {obj : Nat} (h : blockOKb s obj = true) : BlockOK s obj := by
  unfold blockOKb at h
  simp only [Bool.and_eq_true, bne_iff_ne, ne_eq] at h
  obtain ⟨⟨⟨⟨⟨h1, h2⟩, h3⟩, h4⟩, h5⟩, h6⟩ := h
  exact ⟨h1, by rw [← rowOKb_eq]; exact h2, ⟨h3, h4⟩, h5, h6⟩

/-- an input on which the oracle's audit of a block is silent satisfies the hypotheses of `parseDeferred_rs` -/
theorem blockAudit_sound {d : Bytes} {s : PState} {obj : Nat} (h : blockAudit d s obj = []) :
    FP d s ∧ StackNM s ∧ MS (Inc s.tree) none s.tree ∧ UnF (Inc s.tree) s obj ∧ BlockOK s obj ∧
    s.tree.pool.size + 16 * d.size + 16 ≤ INV := by
  unfold blockAudit at h
  simp only [List.append_eq_nil_iff] at h
  obtain ⟨⟨⟨⟨h1, h2⟩, h3⟩, h4⟩, h5⟩ := h
  have hfp : FP d s := by
    apply fpB_sound
    by_cases hq : fpB d s = true
    · exact hq
    · rw [if_neg hq] at h1; cases h1
  have hbo : BlockOK s obj := by
    apply blockOKb_sound
    by_cases hq : blockOKb s obj = true
    · exact hq
    · rw [if_neg hq] at h4; cases h4
  refine ⟨hfp, stackNMb_sound ?_, ms_inc _, unfB_sound hfp.tree.wf hfp.tree.root hbo.live ?_, hbo, ?_⟩
  · by_cases hq : stackNMb s = true
    · exact hq
    · rw [if_neg hq] at h2; cases h2
  · by_cases hq : unfB s.tree obj = true
    · exact hq
    · rw [if_neg hq] at h3; cases h3
  · by_cases hq : s.tree.pool.size + 16 * d.size + 16 ≤ INV
    · exact hq
    · rw [if_neg hq] at h5; cases h5

end Firefly.AmlParser.S

/-! ## the total contracts: the guarded statements of `srp` with the fuel guard discharged -/

namespace Firefly.AmlParser.ST
open Firefly.AmlLex Firefly.AmlTree Firefly.C13 Firefly.AmlParser Firefly.AmlParser.G Firefly.AmlParser.S
open Firefly.Gen.C12

variable {X : Nat → Prop}

/-- totality (and what they guarantee) of the mutually recursive functions with fuel `f` in the strict mode -/
structure STP (X : Nat → Prop) (d : Bytes) (f : Nat) : Prop where
  next : ∀ {s : PState}, SP d s → MS X none s.tree → UnF X s (topOf s) → s.scopeStack.size ≠ 0 → Bud d 0 s →
    nNext (rem d s) ≤ f →
    TPs (parseNextObject d f) s (fun res s' => PostS d (TTop s) 0 s s' (res ≠ .failed) (MS X none s'.tree) ∧
      (res = .ok → s.r.offset < s'.r.offset))
  namePath : ∀ {s : PState}, SP d s → MS X none s.tree → UnF X s (topOf s) → s.scopeStack.size ≠ 0 → Bud d 0 s →
    nNP (rem d s) ≤ f →
    TPs (parseNamePathOrMethodCall d f) s (fun res s' => PostS d (TTop s) 0 s s' (res ≠ .failed)
      (MS X none s'.tree ∧ live s.tree (La s'.tree (topOf s)) = false ∧ live s'.tree (La s'.tree (topOf s)) = true) ∧
      (res = .ok → s.r.offset < s'.r.offset))
  termList : ∀ {s : PState}, SP d s → MS X none s.tree → UnF X s (topOf s) → s.scopeStack.size ≠ 0 → Bud d 0 s →
    nTL (rem d s) ≤ f →
    TPs (termListLoop d f) s (fun b s' => PostS d (TTop s) 0 s s' (b = true) (MS X none s'.tree))
  methodArgs : ∀ {s : PState} (n : Nat), SP d s → MS X none s.tree → UnF X s (topOf s) → s.scopeStack.size ≠ 0 → Bud d 0 s →
    nMA (rem d s) n ≤ f →
    TPs (methodArgsLoop d f n) s (fun b s' => PostS d (TTop s) 0 s s' (b = true) (MS X none s'.tree))
  objArgs : ∀ {s : PState} (curObj : Nat), SP d s → live s.tree curObj = true →
    rowFacts (slot s.tree curObj).infoIndex = true → Att s (slot s.tree curObj).infoIndex curObj → Bud d 14 s →
    MSx X s (slot s.tree curObj).infoIndex curObj 0 → UnF X s curObj →
    ((slot s.tree curObj).opcode = opMethod → (slot s.tree curObj).infoIndex = methodInfo) → ParNM s curObj →
    nOA (rem d s) ≤ f →
    TPs (parseObjectArgs d f curObj) s (fun res s' => PostS d (TCur s curObj) 14 s s' (res ≠ .failed) (MS X none s'.tree))
  args : ∀ {s : PState} (info curObj j : Nat), SP d s → live s.tree curObj = true → InfoOK info → rowFacts info = true →
    j ≤ argCnt info → Bud d (2 * (7 - j)) s → Att s info curObj → PrevOK s info curObj j → MSx X s info curObj j →
    UnF X s curObj →
    ((slot s.tree curObj).opcode = opMethod → info = methodInfo) → ParNM s curObj →
    nArgs (rem d s) j ≤ f →
    TPs (parseArgs d f info curObj j) s (fun res s' => PostS d (TCur s curObj) (2 * (7 - j)) s s' (res ≠ .failed) (MS X none s'.tree))
  arg : ∀ {s : PState} (info curObj argType : Nat) (ex : Option Nat), SP d s → live s.tree curObj = true → InfoOK info →
    Bud d 2 s →
    (argType = argTypeFieldList → C13.P s.tree curObj ≠ INV ∧ live s.tree (La s.tree curObj) = true ∧
      ∃ v, (slot s.tree (La s.tree curObj)).value = .u64 v) →
    MS X ex s.tree → UnF X s curObj → (¬ Leaf argType → ex = none) →
    ((slot s.tree curObj).opcode = opMethod → Leaf argType ∨ argType = argTypeTermList) → ParNM s curObj →
    nArg (rem d s) ≤ f →
    TPs (parseArg d f info curObj argType) s (fun a s' => PostS d (TCur s curObj) 2 s s' (a.2 ≠ .failed) (MS X ex s'.tree) ∧
      RetOK s s' a.1 ∧ (Leaf argType → ∀ x, live s.tree x = true → slot s'.tree x = slot s.tree x) ∧
      (argType = argTypeByteData → a.2 = .ok → ∃ x v, a.1 = some x ∧ (slot s'.tree x).value = .u64 v) ∧
      (argType = argTypePkgLen → a.1 = none) ∧ (isSimpleArg argType = true → a.2 = .ok → ∃ x, a.1 = some x) ∧
      (Leaf argType → a.2 = .ok ∨ a.2 = .failed))
  strictTermArg : ∀ {s : PState} (curObj : Nat), SP d s → live s.tree curObj = true →
    (slot s.tree curObj).opcode ≠ opMethod → MS X none s.tree → UnF X s curObj → Bud d 2 s →
    nStrict (rem d s) ≤ f →
    TPs (parseStrictTermArg d f curObj) s (fun a s' => PostS d (fun x => x = curObj) 2 s s' (a.2 ≠ .failed) (MS X none s'.tree) ∧
      RetOK s s' a.1)
  target : ∀ {s : PState}, SP d s → MS X none s.tree → UnF X s INV → Bud d 1 s →
    nTgt (rem d s) ≤ f →
    TPs (parseTarget d f) s (fun a s' => PostS d (fun _ => False) 1 s s' (a.2 ≠ .failed) (MS X none s'.tree) ∧ RetOK s s' a.1)

/-- with enough fuel the strict-mode functions return -/
theorem stp {d : Bytes} (hd : d.size + 268435456 ≤ 4294967296) (f : Nat) : STP X d f :=
  have h := srp (X := X) hd f
  ⟨fun hS hms hu hne hb => (h.next hS hms hu hne hb).2,
    fun hS hms hu hne hb => (h.namePath hS hms hu hne hb).2,
    fun hS hms hu hne hb => (h.termList hS hms hu hne hb).2,
    fun n hS hms hu hne hb => (h.methodArgs n hS hms hu hne hb).2,
    fun c hS hc hrow hatt hb hmsx hu hcons hpar => (h.objArgs c hS ⟨hS.fp, hc, hrow, hatt, hb⟩ hmsx hu hcons hpar).2,
    fun i c j hS hc hinfo hrow hj hb hatt hprev hmsx hu hcons hpar =>
      (h.args i c j hS ⟨hS.fp, hc, hinfo, hrow, hj, hb, hatt, hprev⟩ hmsx hu hcons hpar).2,
    fun i c a ex hS hc hinfo hb hfl hms hu hex hmeth hpar hf =>
      ((h.arg i c a ex hS ⟨hS.fp, hc, hinfo, hb, hfl⟩ hms hu hex hmeth hpar).2 hf).mono
        (fun _ _ p => ⟨p.post, p.ret, p.frame, p.byteData, p.pkgLen, p.simple, p.leafRes⟩),
    fun c hS hc hnm hms hu hb => (h.strictTermArg c hS hc hnm hms hu hb).2,
    fun hS hms hu hb => (h.target hS hms hu hb).2⟩

end Firefly.AmlParser.ST
