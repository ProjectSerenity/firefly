import Firefly.Proof.AmlLinks
import Firefly.Proof.AmlFragRows
import Firefly.Proof.AmlPasses
/-!
`connectNamedObjArgs`, piece by piece: what the reverse loop over a child list does at a childless object, at a scope block,
at a named object whose row has no term argument, and at a `Name` object whose data object is its next sibling.
-/
namespace Firefly.AmlParser.F
open Firefly.AmlLex Firefly.AmlTree Firefly.C13 Firefly.Gen.C12

theorem loop_inv (d : Bytes) (f : Nat) (obj : Nat) (s : PState) : connectNamedLoop d (f + 1) obj INV s = .ok (PRes.ok, s) := by
  rw [connectNamedLoop, if_pos inv_eq]; rfl

theorem cn_leaf (d : Bytes) (f : Nat) {s : PState} (w : WF s.tree) {y : Nat} (hl : live s.tree y = true) (hk : K s.tree y = []) :
    connectNamedObjArgs d (f + 2) y s = .ok (PRes.ok, s) := by
  rw [revVisit_eq (connectNamed_rev d) w hl (f + 1), hk]
  exact loop_inv d f y s

/-- the loop body leaves alone what is not a named object of this table with arguments, and every scope block -/
theorem cn_step_skip (d : Bytes) {s : PState} {obj y fl : Nat} (hl : live s.tree y = true)
    (hfl : opFlags (slot s.tree y).infoIndex = some fl)
    (h : hasFlag fl flagNamed = false ∨ (slot s.tree y).tableHandle ≠ s.tableHandle ∨ Fi s.tree y = INV ∨
      (slot s.tree y).opcode = opIntScopeBlock) : connectNamedStep d obj y s = .ok (.inr (), s) := by
  unfold connectNamedStep
  rw [bind_run (getObj_live hl), hfl, bind_run (optP_ex fl s), bind_run (tableHandle_ex s), if_pos ?_]
  · rfl
  · rcases h with h | h | h | h
    · exact Or.inl (by rw [h]; rfl)
    · exact Or.inr (Or.inl h)
    · exact Or.inr (Or.inr (Or.inl h))
    · exact Or.inr (Or.inr (Or.inr h))

theorem cn_step_leaf (d : Bytes) {s : PState} {obj y : Nat} (hl : live s.tree y = true)
    (hi : InfoOK (slot s.tree y).infoIndex) (hfi : Fi s.tree y = INV) :
    connectNamedStep d obj y s = .ok (.inr (), s) := by
  obtain ⟨fl, hfl⟩ := opFlags_of_info hi
  exact cn_step_skip d hl hfl (.inr (.inr (.inl hfi)))

theorem cn_iter (d : Bytes) (f : Nat) {s s1 s2 : PState} {obj y : Nat} (w : WF s.tree) (hl : live s.tree y = true)
    (hl2 : live s2.tree y = true) (hrec : connectNamedObjArgs d f y s = .ok (PRes.ok, s1))
    (hstep : connectNamedStep d obj y s1 = .ok (.inr (), s2)) :
    connectNamedLoop d (f + 1) obj y s = connectNamedLoop d f obj (Pv s2.tree y) s2 := by
  conv => lhs; rw [connectNamedLoop]
  have hy : y ≠ invalidIndex := live_ne_INV w.size_le hl
  rw [if_neg hy]
  rw [deref_run hl]
  rw [w.index_eq y (live_lt hl), bind_run hrec]
  rw [if_neg (by decide), bind_run hstep]
  show (prevOf y >>= fun a => connectNamedLoop d f obj a) s2 = _
  rw [bind_run (prevOf_live hl2)]

theorem cn_leaves (d : Bytes) {s : PState} {p : Nat} (w : WF s.tree) (h0 : live s.tree p = true) :
    ∀ (n : Nat) (l rest : List Nat) (f : Nat), l.length = n → K s.tree p = l ++ rest →
      (∀ y ∈ l, K s.tree y = [] ∧ InfoOK (slot s.tree y).infoIndex) → n + 2 ≤ f →
      connectNamedLoop d f p (lastOf l) s = .ok (PRes.ok, s) := by
  intro n
  induction n with
  | zero =>
    intro l rest f hn _ _ hf
    have : l = [] := List.eq_nil_of_length_eq_zero hn
    subst this
    obtain ⟨f', rfl⟩ : ∃ f', f = f' + 1 := ⟨f - 1, by omega⟩
    exact loop_inv d f' p s
  | succ n ih =>
    intro l rest f hn hk hl hf
    rcases list_snoc_cases l with e | ⟨l', y, e⟩
    · rw [e] at hn; cases hn
    · subst e
      obtain ⟨f', rfl⟩ : ∃ f', f = f' + 3 := ⟨f - 3, by omega⟩
      have hy := hl y (by simp)
      have hyl : live s.tree y = true := ((K_mem w h0 y).1 (by rw [hk]; simp)).1
      rw [lastOf_snoc]
      rw [cn_iter d (f' + 2) w hyl hyl (cn_leaf d f' w hyl hy.1) (cn_step_leaf d hyl hy.2 (fi_of_nil w hyl hy.1))]
      have hpv : Pv s.tree y = lastOf l' := pv_of_kids w h0 (pre := l') (post := rest) (by rw [hk]; simp)
      rw [hpv]
      exact ih l' (y :: rest) (f' + 2) (by simpa using hn) (by rw [hk]; simp) (fun z hz => hl z (by simp [hz])) (by omega)

/-- an unconnected `Name` object: nothing to connect below it (its name path is childless) -/
theorem cn_x (d : Bytes) (f : Nat) {s : PState} (w : WF s.tree) {x c : Nat} (hx : live s.tree x = true)
    (hkx : K s.tree x = [c]) (hkc : K s.tree c = []) (hic : InfoOK (slot s.tree c).infoIndex) :
    connectNamedObjArgs d (f + 4) x s = .ok (PRes.ok, s) := by
  rw [revVisit_eq (connectNamed_rev d) w hx (f + 3), hkx]
  exact cn_leaves d w hx 1 [c] [] (f + 3) rfl (by rw [hkx]; rfl) (fun y hy => by rw [List.mem_singleton.1 hy]; exact ⟨hkc, hic⟩)
    (by omega)

theorem cn_step_sb (d : Bytes) {s : PState} {obj sb : Nat} (hl : live s.tree sb = true)
    (hop : (slot s.tree sb).opcode = opIntScopeBlock) (hinf : (slot s.tree sb).infoIndex = pOpcodeTableIndex opIntScopeBlock true) :
    connectNamedStep d obj sb s = .ok (.inr (), s) := by
  obtain ⟨fl, hfl⟩ := opFlags_of_info info_502
  exact cn_step_skip d hl (by rw [hinf]; exact hfl) (.inr (.inr (.inr hop)))

/-- the loop body on a named object of this table whose first argument is a name path of one segment: the object gets
the segment as its name; what remains is to compare the number of its arguments with the row -/
theorem cn_step_head (d : Bytes) {op : Nat} {fl : Nat} (hfl : opFlags (pOpcodeTableIndex op true) = some fl)
    (hnm : hasFlag fl flagNamed = true) (hsb : op ≠ opIntScopeBlock)
    {s : PState} {p x c off : Nat} {rest : List Nat} {seg : List UInt8} (w : WF s.tree)
    (hx : live s.tree x = true) (hc : live s.tree c = true)
    (hop : (slot s.tree x).opcode = op) (hinf : (slot s.tree x).infoIndex = pOpcodeTableIndex op true)
    (hth : (slot s.tree x).tableHandle = s.tableHandle) (hkx : K s.tree x = c :: rest)
    (hval : (slot s.tree c).value = .bytes off 4) (hb : BytesAt d off seg) (hsg : seg.length = 4) :
    ∃ s1, s1 = { s with tree := s1.tree } ∧ Upd s.tree s1.tree x (fun o => { o with name := Name.ofList seg }) ∧
      connectNamedStep d p x s = (do
        let argCount ← optP (opArgCount (pOpcodeTableIndex op true))
        let termArgIndex ← firstTermArg (pOpcodeTableIndex op true) argCount 0 argCount
        let n ← numArgs x
        if n = argCount ∨ termArgIndex ≥ argCount then pure (.inr ())
        else if (← attachSiblingsAsArgs p x false (argCount - termArgIndex) (← nextOf x)) ≠ .ok then
          pure (.inl .failed)
        else pure (.inr ()) : P (Sum PRes Unit)) s1 := by
  refine ⟨{ s with tree := setAt s.tree x _ }, rfl, upd_setAt s.tree (live_lt hx) _ (fun _ => rfl) Iff.rfl, ?_⟩
  unfold connectNamedStep
  rw [bind_run (getObj_live hx), hinf, hfl, bind_run (optP_ex fl s), bind_run (tableHandle_ex s)]
  have hfi : Fi s.tree x = c := first_of_kids w hx hkx
  have hcond : ¬ ((!hasFlag fl flagNamed) = true ∨ (slot s.tree x).tableHandle ≠ s.tableHandle ∨
      (slot s.tree x).firstArgIndex = invalidIndex ∨ (slot s.tree x).opcode = opIntScopeBlock) := by
    rw [hnm, hth, hop]
    intro hq
    rcases hq with hq | hq | hq | hq
    · cases hq
    · exact hq rfl
    · have : Fi s.tree x = INV := hq
      rw [hfi] at this
      exact live_ne_INV w.size_le hc this
    · exact hsb hq
  rw [if_neg hcond]
  have hfi' : (slot s.tree x).firstArgIndex = c := hfi
  rw [hfi', deref_run hc, hval]
  simp only [valBytes]
  rw [if_neg (by decide)]
  have hsl : sliceBytes d off 4 = seg := by rw [← hsg]; exact sliceBytes_of_bytesAt hb
  have hdrop : List.drop (4 - Gen.C12.amlNameLen) (sliceBytes d off 4) = seg := by rw [hsl]; rfl
  rw [hdrop, bind_run (updObj_ex _ (live_lt hx))]

/-- the loop body on a named object whose first argument is its name path and whose row has no term argument: it gets its
name; its arguments stay as they are -/
theorem cn_step_named (d : Bytes) (op : Nat) {ex df : Bool} {ac : Nat} {args : List Nat}
    (hrow : rowSummary op = some (true, ex, df, ac, args))
    (hnoterm : ∀ k, k < ac → args.getD k 0 ≠ argTypeTermArg ∧ args.getD k 0 ≠ argTypeDataRefObj) (hsb : op ≠ opIntScopeBlock)
    {s : PState} {p x c off : Nat} {rest : List Nat} {seg : List UInt8} (w : WF s.tree)
    (hx : live s.tree x = true) (hc : live s.tree c = true)
    (hop : (slot s.tree x).opcode = op) (hinf : (slot s.tree x).infoIndex = pOpcodeTableIndex op true)
    (hth : (slot s.tree x).tableHandle = s.tableHandle) (hkx : K s.tree x = c :: rest)
    (hval : (slot s.tree c).value = .bytes off 4) (hb : BytesAt d off seg) (hsg : seg.length = 4) :
    ∃ s', connectNamedStep d p x s = .ok (.inr (), s') ∧ s' = { s with tree := s'.tree } ∧
      Upd s.tree s'.tree x (fun o => { o with name := Name.ofList seg }) := by
  obtain ⟨fl, a1, a2, a3, a4, a5, a6, a7, a8⟩ := rowSummary_spec hrow
  obtain ⟨s1, hs1, u, e⟩ := cn_step_head d a1 a2 hsb (p := p) w hx hc hop hinf hth hkx hval hb hsg
  refine ⟨s1, ?_, hs1, u⟩
  · have w1' : WF s1.tree := wf_of_sameLinks w u.links
    have hx1 : live s1.tree x = true := by rw [u.links.live]; exact hx
    rw [e, a5, bind_run (optP_ex ac s1)]
    have hno : ∀ j, j < ac → argAt (pOpcodeTableIndex op true) j ≠ argTypeTermArg ∧ argAt (pOpcodeTableIndex op true) j ≠ argTypeDataRefObj := by
      intro j hj
      rw [a8 j hj]
      exact hnoterm j hj
    rw [bind_run (firstTermArg_noTerm a6 ac hno ac 0 s1 (by omega)), bind_run (numArgs_kids w1' hx1)]
    rw [if_pos (Or.inr (Nat.le_refl _))]
    rfl

/-- the loop body on a `Name` object `x` whose data object `k`, childless, is its next sibling under the parent `p` -/
theorem cn_step_name (d : Bytes) {s : PState} {p x c k off : Nat} {sg : List UInt8} (w : WF s.tree)
    (h0 : live s.tree p = true) (hx : live s.tree x = true) (hc : live s.tree c = true) (hk : live s.tree k = true)
    (hop : (slot s.tree x).opcode = 8) (hinf : (slot s.tree x).infoIndex = pOpcodeTableIndex 8 true)
    (hth : (slot s.tree x).tableHandle = s.tableHandle) (hkx : K s.tree x = [c])
    (hval : (slot s.tree c).value = .bytes off 4) (hb : BytesAt d off sg) (hsg : sg.length = 4)
    (hpx : C13.P s.tree x = p) (hpk : C13.P s.tree k = p) (hkk : K s.tree k = []) (hnx : Nx s.tree x = k) (hxk : x ≠ k) :
    ∃ s', connectNamedStep d p x s = .ok (.inr (), s') ∧ s' = { s with tree := s'.tree } ∧ WF s'.tree ∧
      (∀ y, live s'.tree y = live s.tree y) ∧ (∀ y, C13.P s'.tree y = if y = k then x else C13.P s.tree y) ∧
      (∀ q, live s.tree q = true → K s'.tree q = if q = x then [c, k] else if q = p then (K s.tree p).erase k else K s.tree q) ∧
      (∀ y, y ≠ x → Pay (slot s'.tree y) = Pay (slot s.tree y)) ∧
      Pay (slot s'.tree x) = Pay { slot s.tree x with name := Name.ofList sg } ∧
      s'.tree.pool.size = s.tree.pool.size := by
  obtain ⟨fl, a1, a2, a3, a4, a5, a6, a7, a8⟩ := rowSummary_spec row_8
  obtain ⟨s1, hs1, u, e⟩ := cn_step_head d a1 a2 (by decide) (p := p) w hx hc hop hinf hth hkx hval hb hsg
  have sl := u.links
  have w1' : WF s1.tree := wf_of_sameLinks w sl
  have hl1 := sl.live
  have hx1 : live s1.tree x = true := by rw [hl1]; exact hx
  have hk1 : live s1.tree k = true := by rw [hl1]; exact hk
  have hK1 : ∀ q, live s.tree q = true → K s1.tree q = K s.tree q := fun q hq => kids_sameLinks w sl hq
  rw [e, a5, bind_run (optP_ex 2 s1)]
  have eft : firstTermArg (pOpcodeTableIndex 8 true) 2 0 2 s1 = .ok (1, s1) := by
    rw [firstTermArg, if_pos (by decide), opArg_of_info a6 0, a8 0 (by decide), bind_run (optP_ex _ s1)]
    rw [if_neg (by decide)]
    rw [firstTermArg, if_pos (by decide), opArg_of_info a6 1, a8 1 (by decide), bind_run (optP_ex _ s1)]
    rw [if_pos (by decide)]
    rfl
  rw [bind_run eft, bind_run (numArgs_kids w1' hx1), hK1 x hx, hkx]
  rw [if_neg (show ¬ (([c] : List Nat).length = 2 ∨ 1 ≥ 2) by simp)]
  have hnx1 : Nx s1.tree x = k := by rw [sl.nx]; exact hnx
  rw [bind_run (nextOf_live hx1), hnx1]
  -- `k` moves under the `Name` object
  obtain ⟨t2, t3, e2, e3, w3, sp3, hl3, hP3, hK3⟩ := move_under w1' (by rw [hl1]; exact h0) hx1 hk1
    (by rw [sl.p]; exact hpk) (by rw [sl.p]; exact hpx) (by rw [hK1 k hk]; exact hkk) hxk
  have hkne : k ≠ invalidIndex := live_ne_INV w.size_le hk
  have eat : attachSiblingsAsArgs p x false (2 - 1) k s1 = .ok (PRes.ok, { s1 with tree := t3 }) := by
    show attachSiblingsAsArgs p x false (0 + 1) k s1 = _
    rw [attachSiblingsAsArgs]
    rw [if_neg (by intro hq; exact absurd hq.2 (by decide))]
    rw [bind_run (show (pure k : P Nat) s1 = .ok (k, s1) from rfl)]
    dsimp only
    rw [if_neg hkne, deref_run hk1]
    have hpk1 : (slot s1.tree k).parentIndex = p := by
      show C13.P s1.tree k = p
      rw [sl.p]; exact hpk
    rw [hpk1, bind_run (objectAt_live' (show live s1.tree p = true by rw [hl1]; exact h0)), bind_run (derefP_some_ex _)]
    rw [bind_run (tree_ex e2), bind_run (tree_ex (s := { s1 with tree := t2 }) e3)]
    rfl
  rw [bind_run eat]
  rw [if_neg (by decide)]
  refine ⟨{ s1 with tree := t3 }, rfl, by rw [hs1], w3, fun y => by rw [← hl1]; exact hl3 y, ?_, ?_, ?_, ?_, ?_⟩
  · intro y
    show C13.P t3 y = _
    rw [hP3, sl.p]
  · intro q hq
    show K t3 q = _
    rw [hK3 q (by rw [hl1]; exact hq), hK1 x hx, hkx, hK1 p h0, hK1 q hq]
    rfl
  · intro y hy
    show Pay (slot t3 y) = _
    rw [sp3.pay y, u.other y hy]
  · show Pay (slot t3 x) = _
    rw [sp3.pay x, u.self]
  · show t3.pool.size = _
    rw [sp3.size, sl.size]

end Firefly.AmlParser.F
