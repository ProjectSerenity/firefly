import Firefly.Model.MemUtil
import Firefly.Proof.VmmMap
/-! `Memset` fills exactly the requested bytes in ⌈log2 size⌉ doublings; `Memcopy` copies. The word-level steps of the vmm
model that stand for `kernel.Memset` (clearing a new table) and `kernel.Memcopy` (copying a frame) are exactly these byte-level
functions of `Model/MemUtil.lean` applied to the byte view of the model's memory. -/

namespace Firefly.MemUtil

def Filled (mem mem0 : Bytes) (addr n : Nat) (v : Byte) : Prop :=
  ∀ i, mem i = if addr ≤ i ∧ i < addr + n then v else mem0 i

/-- one `copy(target[P:], target[:P])` doubles a filled prefix, or completes it -/
theorem Filled.double {mem mem0 : Bytes} {addr P n : Nat} {v : Byte} (h : Filled mem mem0 addr P v) (hP : P ≤ n) :
    Filled (goCopy mem (addr + P) (n - P) addr P) mem0 addr (min (P + P) n) v := by
  intro i
  simp only [goCopy]
  by_cases hin : addr + P ≤ i ∧ i < addr + P + min (n - P) P
  · rw [if_pos hin, h (addr + (i - (addr + P))), if_pos (by omega), if_pos (by omega)]
  · rw [if_neg hin, h i]
    by_cases h1 : addr ≤ i ∧ i < addr + P
    · rw [if_pos h1, if_pos (by omega)]
    · rw [if_neg h1, if_neg (by omega)]

theorem toNat_two_pow (k : Nat) (hk : k ≤ 63) : (BitVec.ofNat 64 (2 ^ k)).toNat = 2 ^ k :=
  Nat.mod_eq_of_lt (Nat.pow_lt_pow_right (by decide) (Nat.lt_succ_of_le hk))

theorem two_pow_mul_two (k : Nat) : BitVec.ofNat 64 (2 ^ k) * 2 = BitVec.ofNat 64 (2 ^ (k + 1)) := by
  apply BitVec.eq_of_toNat_eq
  simp [BitVec.toNat_mul, BitVec.toNat_ofNat, Nat.pow_succ]

/-- the loop from `index = 2^k` with the first `min(2^k, size)` bytes already set -/
theorem memsetLoop_spec (mem0 : Bytes) (addr : Nat) (v : Byte) (size : BitVec 64) (hs : size.toNat ≤ 2 ^ 63) :
    ∀ (fuel k : Nat) (mem : Bytes), k ≤ 63 → 64 - k < fuel → Filled mem mem0 addr (min (2 ^ k) size.toNat) v →
      (k ≠ 0 → 2 ^ (k - 1) < size.toNat) →
      ∃ mem' it, memsetLoop addr size fuel (BitVec.ofNat 64 (2 ^ k)) mem k = .done mem' it ∧
        Filled mem' mem0 addr size.toNat v ∧ size.toNat ≤ 2 ^ it ∧ (it ≠ 0 → 2 ^ (it - 1) < size.toNat) ∧ it ≤ 63 := by
  intro fuel
  induction fuel with
  | zero => intro k mem _ h; omega
  | succ fuel ih =>
    intro k mem hk hf hfill hlow
    have hidx := toNat_two_pow k hk
    simp only [memsetLoop]
    by_cases hlt : BitVec.ofNat 64 (2 ^ k) < size
    · rw [if_pos hlt, two_pow_mul_two, hidx]
      rw [BitVec.lt_def, hidx] at hlt
      -- `2^k < size ≤ 2^63`, so the doubled index does not wrap
      have hk62 : k < 63 := (Nat.pow_lt_pow_iff_right (by decide)).1 (Nat.lt_of_lt_of_le hlt hs)
      rw [Nat.min_eq_left (Nat.le_of_lt hlt)] at hfill
      refine ih (k + 1) _ (by omega) (by omega) ?_ (fun _ => hlt)
      rw [Nat.pow_succ, Nat.mul_two]
      exact hfill.double (Nat.le_of_lt hlt)
    · rw [if_neg hlt]
      have hge : size.toNat ≤ 2 ^ k := by rw [BitVec.lt_def, hidx] at hlt; omega
      exact ⟨mem, k, rfl, Nat.min_eq_right hge ▸ hfill, hge, hlow, hk⟩

/-- the statement of `C04.memset_fills`: for every size ≤ 2^63, every memory, address and value: `Memset` terminates,
exactly the `size` bytes at `addr` become `value`, every other byte is unchanged, and the loop runs
`it` times with `2^(it-1) < size ≤ 2^it` (i.e. ⌈log2 size⌉ doublings), `it ≤ 63`. -/
theorem memset_fills_core (mem : Bytes) (addr : Nat) (v : Byte) (size : BitVec 64) (hs : size.toNat ≤ 2 ^ 63) :
    ∃ mem' it, memset mem addr v size = .done mem' it ∧ Filled mem' mem addr size.toNat v ∧
      (size ≠ 0 → size.toNat ≤ 2 ^ it ∧ (it ≠ 0 → 2 ^ (it - 1) < size.toNat)) ∧ it ≤ 63 := by
  unfold memset
  by_cases h0 : size = 0
  · rw [if_pos h0]
    refine ⟨mem, 0, rfl, ?_, fun h => absurd h0 h, by omega⟩
    intro i; have : ¬(addr ≤ i ∧ i < addr + size.toNat) := by rw [h0]; simp
    rw [if_neg this]
  · rw [if_neg h0]
    have hpos : 0 < size.toNat := by
      by_cases h : size.toNat = 0
      · exact absurd (BitVec.eq_of_toNat_eq (by simpa using h)) h0
      · omega
    have := memsetLoop_spec mem addr v size hs 66 0 (fun i => if i = addr then v else mem i) (by omega) (by omega)
      (by
        intro i
        have : min (2 ^ 0) size.toNat = 1 := by simp; omega
        rw [this]
        by_cases h : i = addr
        · subst h; simp
        · have : ¬(addr ≤ i ∧ i < addr + 1) := by omega
          simp [h, this])
      (fun h => absurd rfl h)
    obtain ⟨mem', it, h1, h2, h3, h4, h5⟩ := this
    exact ⟨mem', it, h1, h2, fun _ => ⟨h3, h4⟩, h5⟩

/-- the statement of `C04.memcopy_copies` and `C06.memcopy_copies`: the `size` bytes at `dst` become the bytes that were at `src` (read before
anything is written, as Go's `copy` does), everything else is unchanged; `size = 0` changes nothing -/
theorem memcopy_copies_core (mem : Bytes) (src dst : Nat) (size : BitVec 64) (i : Nat) :
    memcopy mem src dst size i = if dst ≤ i ∧ i < dst + size.toNat then mem (src + (i - dst)) else mem i := by
  unfold memcopy
  by_cases h0 : size = 0
  · rw [if_pos h0]
    have : ¬(dst ≤ i ∧ i < dst + size.toNat) := by rw [h0]; simp
    rw [if_neg this]
  · rw [if_neg h0]; simp [goCopy]

end Firefly.MemUtil

namespace Firefly.Vmm
open Firefly.MemUtil

/-- the byte at physical address `pa` (x86-64 is little endian) -/
def byteView (m : Mem) : Bytes := fun pa =>
  BitVec.setWidth 8 ((m.rd (pa / 4096) (pa % 4096 / 8)) >>> (8 * (pa % 8)))

/-- **clearTable_eq_memset**: the model's "clear frame `f`" step (`Mem.setFrame f (fun _ => 0)`, used
by `Map` for a new table level, by `PageDirectoryTable.Init` and by `reserveZeroedFrame`) is
`Memset(f·4096, 0, 4096)` as written, on the byte view: `Memset` terminates (12 doublings) and the
resulting memories agree on every byte. -/
theorem clearTable_eq_memset (m : Mem) (f : Nat) :
    ∃ mem' it, memset (byteView m) (f * 4096) 0 4096#64 = .done mem' it ∧ it = 12 ∧
      ∀ pa, mem' pa = byteView (m.setFrame f (fun _ => 0)) pa := by
  obtain ⟨mem', it, h1, h2, h3, h4⟩ := memset_fills_core (byteView m) (f * 4096) 0 4096#64 (by decide)
  have hit : it = 12 := by
    obtain ⟨a, b⟩ := h3 (by decide)
    have hs : (4096#64 : BitVec 64).toNat = 2 ^ 12 := by decide
    rw [hs] at a b
    have h12 : it ≤ 12 := by
      by_cases h : it ≤ 12
      · exact h
      · have : 2 ^ 12 ≤ 2 ^ (it - 1) := Nat.pow_le_pow_right (by omega) (by omega)
        have := b (by omega); omega
    have h12' : 12 ≤ it := by
      by_cases h : 12 ≤ it
      · exact h
      · have : 2 ^ it ≤ 2 ^ 11 := Nat.pow_le_pow_right (by omega) (by omega)
        omega
    omega
  refine ⟨mem', it, h1, hit, fun pa => ?_⟩
  rw [h2 pa]
  have hs : (4096#64 : BitVec 64).toNat = 4096 := by decide
  rw [hs]
  simp only [byteView, rd_setFrame]
  by_cases hin : f * 4096 ≤ pa ∧ pa < f * 4096 + 4096
  · have : f = pa / 4096 := by omega
    rw [if_pos hin, if_pos this]; simp
  · have : ¬ f = pa / 4096 := by omega
    rw [if_neg hin, if_neg this]

/-- **copyFrame_eq_memcopy**: the model's "frame `fd` := contents of frame `fs`" step (the copy-on-write
handler) is `Memcopy(fs·4096, fd·4096, 4096)` as written, on the byte view. -/
theorem copyFrame_eq_memcopy (m : Mem) (fs fd : Nat) (pa : Nat) :
    memcopy (byteView m) (fs * 4096) (fd * 4096) 4096#64 pa =
      byteView (m.setFrame fd (fun i => m.rd fs i)) pa := by
  rw [memcopy_copies_core]
  have hs : (4096#64 : BitVec 64).toNat = 4096 := by decide
  rw [hs]
  simp only [byteView, rd_setFrame]
  by_cases hin : fd * 4096 ≤ pa ∧ pa < fd * 4096 + 4096
  · have h1 : fd = pa / 4096 := by omega
    have h2 : (fs * 4096 + (pa - fd * 4096)) / 4096 = fs := by omega
    have h3 : (fs * 4096 + (pa - fd * 4096)) % 4096 = pa % 4096 := by omega
    have h4 : (fs * 4096 + (pa - fd * 4096)) % 8 = pa % 8 := by omega
    rw [if_pos hin, if_pos h1, h2, h3, h4]
  · have : ¬ fd = pa / 4096 := by omega
    rw [if_neg hin, if_neg this]

end Firefly.Vmm
