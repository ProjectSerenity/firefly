import Firefly.Proof.AmlNestConnect
import Firefly.Proof.AmlNestQuiet
import Firefly.Proof.AmlNestFirst
/-!
C11, several tables: each table of the nested fragment is parsed into the pool the earlier tables left.
-/
namespace Firefly.AmlParser.F
open Firefly.AmlLex Firefly.AmlTree Firefly.C13 Firefly.AmlParser Firefly.AmlParser.G Firefly.AmlParser.S
open Firefly.Gen.C12 Firefly.AmlProg

/-- the rest of a round of `connectNamedObjArgs` passes what the loop body skips: an object of another table, one without
arguments, a scope block (`cn_step_skip`) -/
theorem afterNamed_skip (d : Bytes) {t : ObjectTree} {h y : Nat} (hl : live t y = true) (hi : InfoOK (slot t y).infoIndex)
    (hs : (slot t y).tableHandle ≠ h ∨ Fi t y = INV ∨ (slot t y).opcode = opIntScopeBlock) : AfterPass (afterNamed d) t h y := by
  intro p k s ht hh
  obtain ⟨fl, hfl⟩ := opFlags_of_info hi
  unfold afterNamed
  rw [bind_run (cn_step_skip d (obj := p) (by rw [ht]; exact hl) (by rw [ht]; exact hfl) (.inr (by rw [ht, hh]; exact hs)))]

theorem Role.skip (d : Bytes) {t : ObjectTree} {h h' y : Nat} (w : WF t) (hne : h' ≠ h) : Role t h' y → AfterPass (afterNamed d) t h y
  | .named row _ _ lx _ infx thx _ _ _ => afterNamed_skip d lx (by rw [infx]; exact rowSummary_info row) (.inl (by rw [thx]; exact hne))
  | .plain row _ _ ly _ infy ky => afterNamed_skip d ly (by rw [infy]; exact row.info) (.inr (.inl (fi_of_nil w ly ky)))
  | .block ly opy infy => afterNamed_skip d ly (by rw [infy]; exact info_502) (.inr (.inr opy))

/-- the nodes of one table: its bytes, its handle, its layout -/
structure Grp where
  d : Bytes
  h : Nat
  ns : List Node

def gTops (gs : List Grp) : List Nat := gs.flatMap (fun g => tops true g.ns)
def gObjs (gs : List Grp) : List Nat := gs.flatMap (fun g => objsL g.ns)
def gSize (gs : List Grp) : Nat := (gs.map (fun g => sizeL g.ns)).sum

theorem gSize_mem {gs : List Grp} {g : Grp} (h : g ∈ gs) : sizeL g.ns ≤ gSize gs := le_sum_map (fun g => sizeL g.ns) h

theorem sizeN_le_gSize {gs : List Grp} {g : Grp} {n : Node} (hg : g ∈ gs) (hn : n ∈ g.ns) : sizeN n ≤ gSize gs := by
  have h1 := sizeN_le hn
  have h2 : 1 ≤ g.ns.length := List.length_pos_of_mem hn
  have h3 := gSize_mem hg
  omega

theorem gTops_len (gs : List Grp) : (gTops gs).length ≤ gSize gs := by
  rw [gTops, List.length_flatMap]
  exact sum_map_le fun g _ => by rw [tops_true, List.length_map]; exact length_le_sizeL g.ns

/-- the pool after the tables `gs`: the default scopes, and under the root the connected nodes of every table, in order -/
structure Pool (t0 t : ObjectTree) (gs : List Grp) : Prop where
  tg : TreeG t
  k0 : K t 0 = K t0 0 ++ gTops gs
  ok : ∀ g ∈ gs, NodesOK g.d t g.h true 0 g.ns
  old : ∀ y, live t0 y = true → live t y = true ∧ Pay (slot t y) = Pay (slot t0 y) ∧ C13.P t y = C13.P t0 y ∧
    (y ≠ 0 → K t y = K t0 y)
  cr : Created t0 t (gObjs gs)
  sz : t.pool.size ≤ t0.pool.size + 3 * gSize gs

theorem Pool.init {t0 : ObjectTree} (tg : TreeG t0) : Pool t0 t0 [] :=
  ⟨tg, by simp [gTops], fun _ hg => (by cases hg), Kept.refl t0, Created.nil t0, (by simp [gSize])⟩

section groups
variable {t : ObjectTree} {h : Nat} (W : Nat → Nat → P PRes) (G : Nat → Prop)
  (node : ∀ x N, live t x = true → G x → (∀ y ∈ K t x, QuietAt t h (fun f => W f y) N ∧ G y) →
    QuietAt t h (fun f => W f x) ((K t x).length + N + 2))
include node

/-- a walk that is quiet wherever its guard holds is quiet on what a table finds under the root: the default scopes, which are
childless, and the top-level objects of earlier tables; `M` is fuel for the largest of them -/
theorem olds_quiet {t0 : ObjectTree} {gs : List Grp} (b : Base t0) (old : Kept t0 t)
    (hok : ∀ g ∈ gs, NodesOK g.d t g.h true 0 g.ns) (gold : ∀ y ∈ K t0 0, G y) (gn : ∀ g ∈ gs, ∀ y ∈ objsL g.ns, G y)
    {M : Nat} (hM : 2 ≤ M) (hm : ∀ g ∈ gs, ∀ n ∈ g.ns, 7 * sizeN n ≤ M) :
    ∀ z ∈ K t0 0 ++ gTops gs, QuietAt t h (fun f => W f z) M ∧ G z := by
  intro z hz
  rcases List.mem_append.1 hz with hz | hz
  · obtain ⟨_, _, a1, a2, _⟩ := old.kid b hz
    exact ⟨(walk_leaf W G node a1 a2 (gold z hz)).mono hM, gold z hz⟩
  · obtain ⟨g, hg, hzg⟩ := List.mem_flatMap.1 hz
    rw [tops_true] at hzg
    obtain ⟨n, hn, rfl⟩ := List.mem_map.1 hzg
    have := walk_list W G node 0 g.ns (hok g hg) (gn g hg) n hn
    exact ⟨this.1.mono (hm g hg n hn), this.2⟩

theorem pool_root {t0 : ObjectTree} {gs : List Grp} (pl : Pool t0 t gs) (b : Base t0) (g0 : G 0) (gold : ∀ y ∈ K t0 0, G y)
    (gn : ∀ g ∈ gs, ∀ y ∈ objsL g.ns, G y) {M : Nat} (hM : 2 ≤ M) (hm : ∀ g ∈ gs, ∀ n ∈ g.ns, 7 * sizeN n ≤ M) :
    QuietAt t h (fun f => W f 0) ((K t0 0).length + (gTops gs).length + M + 2) := by
  have := node 0 M (Kept.root pl.old b).1 g0 (by rw [pl.k0]; exact olds_quiet W G node b pl.old pl.ok gold gn hM hm)
  rwa [pl.k0, List.length_append] at this

end groups

theorem gTops_snoc (gs : List Grp) (g : Grp) : gTops (gs ++ [g]) = gTops gs ++ tops true g.ns := by simp [gTops]
theorem gObjs_snoc (gs : List Grp) (g : Grp) : gObjs (gs ++ [g]) = gObjs gs ++ objsL g.ns := by simp [gObjs]
theorem gSize_snoc (gs : List Grp) (g : Grp) : gSize (gs ++ [g]) = gSize gs + sizeL g.ns := by simp [gSize]

/-- what the first pass built from a table and `connectNamedObjArgs` connected under the root is one more group of the pool -/
theorem Pool.snoc {d : Bytes} {t0 t1 : ObjectTree} {s0 s : PState} {gs : List Grp} {ns : List Node} (pl : Pool t0 s0.tree gs)
    (b : Base t0) (bl : Built d s0 s 0 d.size ns)
    (cp : CPost d s.tree t1 s0.tableHandle 0 (K t0 0 ++ gTops gs) [] ns) : Pool t0 t1 (gs ++ [⟨d, s0.tableHandle, ns⟩]) := by
  have h00 : live s0.tree 0 = true := (pl.old 0 b.root).1
  have h01 : live t1 0 = true := by rw [cp.lv]; exact bl.grew.lv 0 h00
  have hold : ∀ y, live s0.tree y = true → y ≠ 0 → SameAt s0.tree t1 y := fun y hy hy0 =>
    (bl.grew.sameAt hy hy0).trans (cp.frame y (bl.grew.lv y hy) (fun hm => bl.cr.ne hy hm rfl) hy0)
  refine ⟨⟨cp.w, ?_, h01⟩, ?_, ?_, ?_, ?_, ?_⟩
  · intro y hy
    rw [cp.inf]
    exact bl.fp.tree.info y (by rw [← cp.lv]; exact hy)
  · rw [cp.hk, gTops_snoc]; simp
  · intro g hg
    rcases List.mem_append.1 hg with hg | hg
    · exact NodesOK.frame 0 g.ns (pl.ok g hg) fun y hy =>
        have hyg : y ∈ gObjs gs := List.mem_flatMap.2 ⟨g, hg, hy⟩
        hold y (pl.cr.lv y hyg) (pl.cr.ne b.root hyg)
    · rw [List.mem_singleton.1 hg]; exact cp.ok
  · intro y hy
    obtain ⟨a1, a2, a3, a4⟩ := pl.old y hy
    by_cases hy0 : y = 0
    · subst hy0
      exact ⟨h01, by rw [cp.fp.1, bl.grew.pay 0 a1]; exact a2, by rw [cp.fp.2, bl.grew.par 0 a1]; exact a3, fun hne => absurd rfl hne⟩
    · have sa := hold y a1 hy0
      exact ⟨by rw [sa.1]; exact a1, by rw [sa.2.1]; exact a2, by rw [sa.2.2.1]; exact a3, fun _ => by rw [sa.2.2.2]; exact a4 hy0⟩
  · rw [gObjs_snoc]
    exact (pl.cr.append bl.cr (fun y hy => (pl.old y hy).1) bl.grew.lv).sameLive cp.lv
  · rw [cp.sz, gSize_snoc]
    have h1 := bl.size
    have h2 := pl.sz
    rw [sizeL_progs] at h1
    show s.tree.pool.size ≤ t0.pool.size + 3 * (gSize gs + sizeL ns)
    have : (initState d s0.tableHandle s0).tree = s0.tree := rfl
    omega

/-- **`connectNamedObjArgs` on the pool of earlier tables plus what the first pass built from this one**: it connects the new
nodes, which makes them a group of the pool (`Pool.snoc`), and goes on, quietly, over what it found under the root -/
theorem connectNamed_pool (d : Bytes) {t0 : ObjectTree} {s0 s : PState} {gs : List Grp} {ns : List Node} (b : Base t0)
    (pl : Pool t0 s0.tree gs) (hh : ∀ g ∈ gs, g.h ≠ s0.tableHandle) (bl : Built d s0 s 0 d.size ns) (f : Nat)
    (hf : needL ns + 1 ≤ f) (hf' : (tops false ns).length + 8 * gSize gs + (K t0 0).length + 4 ≤ f) :
    ∃ s1, connectNamedObjArgs d f 0 s = .ok (PRes.ok, s1) ∧ Pool t0 s1.tree (gs ++ [⟨d, s0.tableHandle, ns⟩]) ∧
      s1.tableHandle = s0.tableHandle := by
  have w := bl.fp.tree.wf
  have h00 : live s0.tree 0 = true := (pl.old 0 b.root).1
  have h0 : live s.tree 0 = true := bl.grew.lv 0 h00
  have pre : CPre d s.tree s0.tableHandle 0 (K t0 0 ++ gTops gs) [] ns :=
    ⟨w, h0, by rw [bl.grew.kids_top h00, pl.k0]; simp, bl.ok, bl.cr.nd, fun hm => bl.cr.ne h00 hm rfl⟩
  obtain ⟨f', rfl⟩ : ∃ f', f = f' + 1 := ⟨f - 1, by omega⟩
  obtain ⟨s1, e1, hs1, cp⟩ := cnl d s0.tableHandle ns s f' 0 (K t0 0 ++ gTops gs) [] pre bl.th (by omega)
  have hth1 : s1.tableHandle = s0.tableHandle := by rw [hs1]; exact bl.th
  have h01 : live s1.tree 0 = true := by rw [cp.lv]; exact h0
  have pl1 := pl.snoc b bl cp
  -- the rest of the loop: earlier tables and default scopes are left alone
  have w1 := cp.w
  have hq := olds_quiet (t := s1.tree) (h := s0.tableHandle) (fun f y => connectNamedObjArgs d f y) (AfterPass (afterNamed d) s1.tree s0.tableHandle)
    (fun x N hx _ hq => revWalk_node (connectNamed_rev d) w1 hx N hq) b pl1.old (gs := gs) (fun g hg => pl1.ok g (List.mem_append_left _ hg))
    (fun y hy => by obtain ⟨_, _, a1, _, a5, a6, _⟩ := Kept.kid pl1.old b hy; exact afterNamed_skip d a1 (by rw [a6]; exact info_502) (.inr (.inr a5)))
    (fun g hg y hy => (NodesOK.role 0 g.ns (pl1.ok g (List.mem_append_left _ hg)) y hy).skip d w1 (hh g hg))
    (M := 7 * gSize gs + 2) (Nat.le_add_left 2 _) (fun g hg n hn => by have := sizeN_le_gSize hg hn; omega)
  have hl := gTops_len gs
  obtain ⟨s2, e2, ht2, hh2⟩ := revLoop_quiet (connectNamed_rev d) w1 h01 (7 * gSize gs + 2) (K t0 0 ++ gTops gs).length (K t0 0 ++ gTops gs) (tops true ns)
    (f' - (tops false ns).length) s1 rfl (by rw [cp.hk]; simp) rfl hth1 hq (by rw [List.length_append]; omega)
  refine ⟨s2, ?_, by rw [ht2]; exact pl1, hh2⟩
  rw [revVisit_eq (connectNamed_rev d) w h0 f', bl.grew.kids_top h00, pl.k0, e1, e2]

/-- the five walks on the pool: fuel for the root's children, and `M` for the largest node -/
theorem walks_pool (d : Bytes) (fuel : Nat) {t0 t : ObjectTree} (h : Nat) {gs : List Grp} (pl : Pool t0 t gs) (b : Base t0)
    {M : Nat} (hM : 2 ≤ M) (hm : ∀ g ∈ gs, ∀ n ∈ g.ns, 7 * sizeN n ≤ M) :
    Quiet5 d fuel t h ((K t0 0).length + (gTops gs).length + M + 2) := by
  refine quiet5_of_walk d fuel pl.tg.wf (S := fun y => y = 0 ∨ y ∈ K t0 0 ∨ y ∈ gObjs gs) ?_ (fun W G node hG =>
    pool_root W G node pl b (hG 0 (Or.inl rfl)) (fun y hy => hG y (Or.inr (Or.inl hy)))
      (fun g hg y hy => hG y (Or.inr (Or.inr (List.mem_flatMap.2 ⟨g, hg, hy⟩)))) hM hm)
  obtain ⟨g0, gold⟩ := Kept.guards pl.old b h
  rintro y (rfl | hy | hy)
  · exact g0
  · exact gold y hy
  · obtain ⟨g, hg, hyg⟩ := List.mem_flatMap.1 hy
    exact (NodesOK.role 0 g.ns (pl.ok g hg) y hyg).guards pl.tg.wf

/-- what the fuel of `parseAML_pool` pays for behind the first pass: `connectNamedObjArgs` on the new nodes (`nl`) and on
what it found under the root, then the five walks (`gt` objects under the root, and the largest node) -/
theorem pool_fuel {sz gsz k0 cl nl tl gt fuel : Nat} (hfuel : 8 * sz + 8 * gsz + k0 + cl + 13 ≤ fuel)
    (hnl : nl ≤ 6 * sz + 6) (htl : tl ≤ 2 * sz) (hgt : gt ≤ gsz + sz) :
    nl + 1 ≤ fuel ∧ tl + 8 * gsz + k0 + 4 ≤ fuel ∧ k0 + gt + (7 * (gsz + sz) + 2) + 2 ≤ fuel ∧ 1 ≤ fuel := by omega

/-- **`ParseAML` on one more table of the nested fragment**, loaded into the pool earlier tables of the fragment left -/
theorem parseAML_pool {d : Bytes} (hd : d.size + 1024 ≤ 4294967296) (hh : headerLen ≤ d.size) (os : List PObj)
    (hok : okPs os) (hb : BytesAt d headerLen (encPs os)) (hlen : headerLen + (encPs os).length = d.size)
    (s : PState) {t0 : ObjectTree} (b : Base t0) {gs : List Grp} (pl : Pool t0 s.tree gs) (handle : Nat)
    (hhd : ∀ g ∈ gs, g.h ≠ handle) (hsz : s.tree.pool.size + 3 * sizePs os < INV) (fuel : Nat)
    (hfuel : 8 * sizePs os + 8 * gSize gs + (K t0 0).length + closesPs os + 13 ≤ fuel) :
    ∃ s' ns, progs ns = os ∧ parseAML d fuel handle s = .ok (true, s') ∧ Pool t0 s'.tree (gs ++ [⟨d, handle, ns⟩]) := by
  obtain ⟨sF, ns, hp, e1, bl⟩ := firstPass_nest hd hh os hok hb hlen s pl.tg hsz fuel (by omega) handle
  have hsl : sizeL ns = sizePs os := by rw [← hp]; exact (sizeL_progs ns).symm
  have hgt : (gTops (gs ++ [⟨d, handle, ns⟩])).length ≤ gSize gs + sizePs os := by
    rw [← hsl]; exact gSize_snoc gs ⟨d, handle, ns⟩ ▸ gTops_len _
  obtain ⟨f3, f4, f5, f6⟩ := pool_fuel hfuel (hsl ▸ needL_le ns) (hsl ▸ tops_len_le false ns) hgt
  obtain ⟨s1, e2, pl1, hh1⟩ := connectNamed_pool d (s0 := initState d handle s) b pl hhd bl fuel f3 f4
  have pl1' : Pool t0 s1.tree (gs ++ [⟨d, handle, ns⟩]) := pl1
  obtain ⟨s', e, ht'⟩ := parseAML_of_quiet e1 e2 hh1
    (walks_pool d fuel handle pl1' b (M := 7 * gSize (gs ++ [⟨d, handle, ns⟩]) + 2) (Nat.le_add_left 2 _)
      fun g hg n hn => by have := sizeN_le_gSize hg hn; omega)
    (by rw [gSize_snoc]; exact hsl ▸ f5) f6
  exact ⟨s', ns, hp, e, by rw [ht']; exact pl1'⟩

theorem Pool.single {d : Bytes} {t0 t : ObjectTree} {h : Nat} {ns : List Node} (pl : Pool t0 t [⟨d, h, ns⟩]) : NestT d t0 t h ns :=
  ⟨pl.tg.wf, by simpa [gTops] using pl.k0, pl.ok ⟨d, h, ns⟩ (List.mem_singleton.2 rfl), pl.old, by simpa [gObjs] using pl.cr.nd,
    by simpa [gObjs] using pl.cr.new⟩

/-- **`ParseAML` on a nested program.**  For every table whose payload is the encoding of a program of the nested fragment
(`PObj`: `Device`, `ThermalZone`, `Processor`, `PowerResource` nested to any depth, every PkgLength width, around `Name` with
integer or string data, `Event` and `Mutex`), loaded into a pool whose root is a parentless scope block with childless
scope-block children: `ParseAML` succeeds — no error, no panic, no exhausted fuel — and the pool it leaves is the old pool,
untouched, plus the objects of the program laid out as `ns` says: every declared object carries its name and has as arguments
its name path, then its data object (`Name`) or its fixed arguments, then, if it opens a scope, its scope block, which holds
its declarations in order; the top-level declarations are appended to the root's children. -/
theorem parseAML_nest {d : Bytes} (hd : d.size + 1024 ≤ 4294967296) (hh : headerLen ≤ d.size) (os : List PObj)
    (hok : okPs os) (hb : BytesAt d headerLen (encPs os)) (hlen : headerLen + (encPs os).length = d.size)
    (s : PState) (ht : TreeG s.tree) (b : Base s.tree) (hsz : s.tree.pool.size + 3 * sizePs os < INV) (fuel : Nat)
    (hfuel : 8 * sizePs os + (K s.tree 0).length + closesPs os + 13 ≤ fuel) (handle : Nat) :
    ∃ s' ns, progs ns = os ∧ parseAML d fuel handle s = .ok (true, s') ∧ NestT d s.tree s'.tree handle ns := by
  obtain ⟨s', ns, hp, e, pl⟩ := parseAML_pool hd hh os hok hb hlen s b (Pool.init ht) handle (fun _ hg => nomatch hg) hsz fuel
    (by simp only [gSize, List.map_nil, List.sum_nil]; omega)
  exact ⟨s', ns, hp, e, pl.single⟩

end Firefly.AmlParser.F
