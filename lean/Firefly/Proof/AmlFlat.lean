import Firefly.Proof.AmlNestConnect
import Firefly.Proof.AmlNsRead
import Firefly.Proof.AmlNestQuiet
import Firefly.Proof.AmlPool
import Firefly.Proof.AmlNestNs
/-!
C11, the flat fragment, as the depth-0 instance of the nested one. The three objects of an item are those of a `Name`
declaration directly under the root (`Item.node`), so a table of items is a nested program without devices: the pool
`connectNamedObjArgs` leaves (`NestT`) is the pool of the fragment (`Flat`), its objects satisfy the guards under which the five
tree walks find nothing to do, and `ParseAML` succeeds with the fuel a flat table needs and returns exactly the declared objects
(`parseAML_flat`).
-/

namespace Firefly.AmlParser.F
open Firefly.AmlLex Firefly.AmlTree Firefly.C13 Firefly.AmlParser Firefly.AmlParser.G Firefly.AmlParser.S
open Firefly.Gen.C12 Firefly.AmlProg

/-- the segment of a simple name -/
def Item.seg (it : Item) : List UInt8 := it.q.segs.headD []

/-- the three objects of `Name(NAME, integer)`; `done`: after `connectNamedObjArgs` (the integer is the second argument of
the `Name` object, which carries its name) -/
structure ItemT (d : Bytes) (t : ObjectTree) (h : Nat) (it : Item) (done : Bool) : Prop where
  lx : live t it.x = true
  lc : live t it.c = true
  lk : live t it.k = true
  opx : (slot t it.x).opcode = 8
  infx : (slot t it.x).infoIndex = pOpcodeTableIndex 8 true
  thx : (slot t it.x).tableHandle = h
  opc : (slot t it.c).opcode = opIntNamePath
  infc : (slot t it.c).infoIndex = pOpcodeTableIndex opIntNamePath true
  thc : (slot t it.c).tableHandle = h
  valc : (slot t it.c).value = .bytes it.off 4
  opk : (slot t it.k).opcode = constOp it.q.w it.q.v
  infk : (slot t it.k).infoIndex = pOpcodeTableIndex (constOp it.q.w it.q.v) true
  thk : (slot t it.k).tableHandle = h
  int : IntObj t it.k (intVal it.q.w it.q.v)
  kx : K t it.x = if done then [it.c, it.k] else [it.c]
  kc : K t it.c = []
  kk : K t it.k = []
  px : C13.P t it.x = 0
  pc : C13.P t it.c = it.x
  pk : C13.P t it.k = if done then it.x else 0
  nm : done = true → (slot t it.x).name = Name.ofList it.seg
  bytes : BytesAt d it.off it.seg
  seg4 : it.seg.length = 4

/-- an item is a `Name` declaration of the nested fragment directly under the root -/
def Item.node (it : Item) : Node := .name it.x it.c it.k it.off it.seg (.int it.q.w it.q.v)

theorem ItemT.name {d : Bytes} {t : ObjectTree} {h : Nat} {it : Item} {b : Bool} (io : ItemT d t h it b) :
    NameT d t h 0 it.x it.c it.k it.off it.seg (.int it.q.w it.q.v) b :=
  ⟨io.lx, io.lc, io.lk, io.opx, io.infx, io.thx, io.opc, io.infc, io.thc, io.valc, io.opk, io.infk, io.thk, io.int, io.kx, io.kc,
    io.kk, io.px, io.pc, io.pk, io.nm, io.bytes, io.seg4⟩

theorem NameT.item {d : Bytes} {t : ObjectTree} {h : Nat} {it : Item} {b : Bool}
    (io : NameT d t h 0 it.x it.c it.k it.off it.seg (.int it.q.w it.q.v) b) : ItemT d t h it b :=
  ⟨io.lx, io.lc, io.lk, io.opx, io.infx, io.thx, io.opc, io.infc, io.thc, io.valc, io.opk, io.infk, io.thk, io.dat, io.kx, io.kc,
    io.kk, io.px, io.pc, io.pk, io.nm, io.bytes, io.seg4⟩

/-- the pool while `connectNamedObjArgs` walks the root's children backwards: the declarations `pre` are still as the first
pass left them, the declarations `post` are connected -/
structure Flat (d : Bytes) (t0 t : ObjectTree) (h : Nat) (pre post : List Item) : Prop where
  wf : WF t
  ktop : K t 0 = K t0 0 ++ pre.flatMap (fun it => [it.x, it.k]) ++ post.map (·.x)
  old : ∀ y, live t0 y = true → live t y = true ∧ Pay (slot t y) = Pay (slot t0 y) ∧ C13.P t y = C13.P t0 y ∧
    (y ≠ 0 → K t y = K t0 y)
  new : ∀ it ∈ pre ++ post, live t0 it.x = false ∧ live t0 it.c = false ∧ live t0 it.k = false
  undone : ∀ it ∈ pre, ItemT d t h it false
  done : ∀ it ∈ post, ItemT d t h it true
  nodup : ((pre ++ post).flatMap (fun it => [it.x, it.c, it.k])).Nodup

theorem tops_items (its : List Item) : tops true (its.map Item.node) = its.map (·.x) := by
  rw [tops_true, List.map_map]; rfl

theorem tops_items_len (its : List Item) : (tops false (its.map Item.node)).length = 2 * its.length := by
  induction its with
  | nil => rfl
  | cons it its ih => simp only [List.map_cons, Item.node, tops, List.length_append, ih, List.length_cons]; simp; omega

theorem objsL_items (its : List Item) : objsL (its.map Item.node) = its.flatMap (fun it => [it.x, it.c, it.k]) := by
  induction its with
  | nil => rfl
  | cons it its ih => simp only [List.map_cons, objsL, ih, List.flatMap_cons]; rfl

theorem needL_items (its : List Item) : needL (its.map Item.node) ≤ 2 * its.length + 4 := by
  induction its with
  | nil => simp [needL]
  | cons it its ih =>
    simp only [List.map_cons, needL, List.length_cons, tops_items_len]
    rw [show costN it.node = 6 by simp [Item.node, costN]]
    omega

theorem nodesOK_items {d : Bytes} {t : ObjectTree} {h : Nat} {b : Bool} :
    ∀ its : List Item, NodesOK d t h b 0 (its.map Item.node) → ∀ it ∈ its, ItemT d t h it b
  | [], _, _, hit => by cases hit
  | it' :: its, ok, it, hit => by
    simp only [List.map_cons] at ok
    unfold NodesOK at ok
    rcases List.mem_cons.1 hit with rfl | hit
    · have := ok.1
      unfold Item.node NodeOK at this
      exact this.item
    · exact nodesOK_items its ok.2 it hit

theorem NestT.flat {d : Bytes} {t0 t : ObjectTree} {h : Nat} {its : List Item} (n : NestT d t0 t h (its.map Item.node)) :
    Flat d t0 t h [] its :=
  ⟨n.wf, by rw [n.k0, tops_items]; simp, n.old, fun it hit => by
      have hn := n.new
      rw [objsL_items] at hn
      have hm : ∀ y ∈ [it.x, it.c, it.k], y ∈ its.flatMap (fun it => [it.x, it.c, it.k]) := fun y hy =>
        List.mem_flatMap.2 ⟨it, by simpa using hit, hy⟩
      exact ⟨hn _ (hm _ (by simp)), hn _ (hm _ (by simp)), hn _ (hm _ (by simp))⟩,
    fun _ hit => (by cases hit), nodesOK_items its n.ok, by have := n.nd; rwa [objsL_items] at this⟩


theorem Flat.guards {d : Bytes} {t0 t : ObjectTree} {h : Nat} {its : List Item} (fl : Flat d t0 t h [] its) (b : Base t0) :
    Guards t h 0 ∧ (∀ y ∈ K t0 0, Guards t h y) ∧ ∀ it ∈ its, Guards t h it.x ∧ Guards t h it.c ∧ Guards t h it.k := by
  obtain ⟨g0, gold⟩ := Kept.guards fl.old b h
  refine ⟨g0, gold, fun it hit => ?_⟩
  have r := NodeOK.role (dk := true) 0 (.name it.x it.c it.k it.off it.seg (.int it.q.w it.q.v)) (by unfold NodeOK; exact (fl.done it hit).name)
  exact ⟨(r _ (by simp [Node.objs])).guards fl.wf, (r _ (by simp [Node.objs])).guards fl.wf, (r _ (by simp [Node.objs])).guards fl.wf⟩

end Firefly.AmlParser.F

namespace Firefly.AmlParser.F
open Firefly.AmlLex Firefly.AmlTree Firefly.C13 Firefly.AmlParser Firefly.AmlParser.G Firefly.AmlParser.S
open Firefly.Gen.C12 Firefly.AmlProg Firefly.AmlNs

theorem names_layout : ∀ (l : List FlatItem) (ns : List Node), progs ns = psOf (l.map FlatItem.nobj) →
    ∃ its : List Item, ns = its.map Item.node ∧ its.map (·.q) = l.map FlatItem.decl
  | [], ns, hp => by
    cases ns with
    | nil => exact ⟨[], rfl, rfl⟩
    | cons n ns => simp [progs, psOf] at hp
  | a :: l, ns, hp => by
    cases ns with
    | nil => simp [progs, psOf] at hp
    | cons n ns =>
      simp only [List.map_cons, progs, psOf, List.cons.injEq, FlatItem.nobj, NObj.p] at hp
      obtain ⟨x, c, k, off, rfl⟩ := prog_name hp.1
      obtain ⟨its, rfl, hq⟩ := names_layout l ns hp.2
      exact ⟨⟨x, c, k, off, a.decl⟩ :: its, rfl, by simp [hq]⟩

theorem size_names (l : List FlatItem) : sizePs (psOf (l.map FlatItem.nobj)) = l.length ∧ closesPs (psOf (l.map FlatItem.nobj)) = 0 := by
  induction l with
  | nil => simp [psOf, sizePs, closesPs]
  | cons a l ih => simp only [List.map_cons, psOf, sizePs, closesPs, FlatItem.nobj, NObj.p, sizeP, closesP, ih, List.length_cons, Nat.add_comm, and_self]

/-- what the fuel `2n + |K0| + 9` pays for: the first pass on `n` declarations that close no package, `connectNamedObjArgs`
on their `2n` top-level objects (`nl`: `needL`) and on the default scopes, the five walks (`n` nodes of size 1 under the root) -/
theorem flat_fuel {n k0 nl fuel : Nat} (hfuel : 2 * n + k0 + 9 ≤ fuel) (hnl : nl ≤ 2 * n + 4) :
    2 * n + 9 ≤ fuel ∧ 0 + 2 ≤ fuel ∧ nl + 1 ≤ fuel ∧ 2 * n + 8 * 0 + k0 + 4 ≤ fuel ∧ k0 + n + 7 + 2 ≤ fuel ∧ 1 ≤ fuel := by
  omega

/-- **`ParseAML` on a table of `Name(NAME, integer)` declarations.**  For every table whose payload is the encoding of a list
of such declarations (single-segment names, integers of every width), loaded into a pool whose root is a parentless scope
block with childless scope-block children (the default scopes): `ParseAML` succeeds — no error, no panic, no exhausted fuel —
and the pool it leaves consists of the old pool, untouched, plus, for every declaration in order, a `Name` object appended
to the root's children that carries the declared name and has exactly two arguments: its name path and an integer object
holding the declared value. -/
theorem parseAML_flat {d : Bytes} (hd : d.size + 1024 ≤ 4294967296) (hh : headerLen ≤ d.size) (l : List FlatItem)
    (hok : ∀ a ∈ l, a.OK) (hb : BytesAt d headerLen (AmlProg.encode (l.map FlatItem.obj)))
    (hlen : headerLen + (AmlProg.encode (l.map FlatItem.obj)).length = d.size) (s : PState) (ht : TreeG s.tree) (b : Base s.tree)
    (hsz : s.tree.pool.size + 3 * l.length < INV) (fuel : Nat) (hfuel : 2 * l.length + (K s.tree 0).length + 9 ≤ fuel)
    (handle : Nat) :
    ∃ s' its, parseAML d fuel handle s = .ok (true, s') ∧ Flat d s.tree s'.tree handle [] its ∧ its.map (·.q) = l.map FlatItem.decl := by
  have hoks := oksOf_flat l hok
  rw [← objsOf_flat, show AmlProg.encode (objsOf (l.map FlatItem.nobj)) = encPs (psOf (l.map FlatItem.nobj)) by
    unfold AmlProg.encode; exact enc_nobjs _ hoks] at hb hlen
  obtain ⟨hsize, hcl⟩ := size_names l
  obtain ⟨f1, f2, -⟩ := flat_fuel hfuel (Nat.le_refl _)
  obtain ⟨sF, ns, hp, e1, bl⟩ := firstPass_nest_of hd hh _ (ok_nobjs _ hoks) hb hlen s ht (by rw [hsize]; exact hsz) fuel
    (by rw [hsize]; exact f1) (by rw [hcl]; exact f2) handle
  obtain ⟨its, rfl, hq⟩ := names_layout l ns hp
  have hn : its.length = l.length := by rw [← List.length_map (f := (·.q)), hq, List.length_map]
  obtain ⟨-, -, f3, f4, f5, f6⟩ := flat_fuel hfuel (hn ▸ needL_items its)
  obtain ⟨s1, e2, pl1, hh1⟩ := connectNamed_pool d (s0 := initState d handle s) b (Pool.init ht) (fun _ hg => nomatch hg) bl fuel
    f3 (by rw [tops_items_len, hn]; exact f4)
  -- every node is one declaration: the walks need fuel `7` below the root
  have hm : ∀ g ∈ [(⟨d, handle, its.map Item.node⟩ : Grp)], ∀ n ∈ g.ns, 7 * sizeN n ≤ 7 := fun g hg n hn => by
    rw [List.mem_singleton.1 hg] at hn
    obtain ⟨it, _, rfl⟩ := List.mem_map.1 hn
    exact Nat.le_refl 7
  obtain ⟨s', e, ht'⟩ := parseAML_of_quiet e1 e2 hh1 (walks_pool d fuel handle pl1 b (by decide) hm)
    (by simp only [gTops, List.nil_append, List.flatMap_cons, List.flatMap_nil, List.append_nil, tops_items, List.length_map, hn]; exact f5)
    f6
  exact ⟨s', its, e, by rw [ht']; exact (Pool.single pl1).flat, hq⟩

end Firefly.AmlParser.F
