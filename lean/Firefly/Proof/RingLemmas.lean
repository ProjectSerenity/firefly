import Firefly.Spec.C16
import Firefly.Proof.ListLemmas
/-!
Lemmas for C16 on the ring buffer `Model/Ring.lean`: what `Write` (`write_contents`: the last `cap` bytes are
kept), `Read` (`read_spec`, the record `ReadOk`) and the drain loop (`drain_spec`) do to the unread bytes
`contents`.  Two facts carry them: `contents_advance` (moving `r`) and `push_contents` (storing at `w`).  Last,
`runRing_refines`: a history on the ring is the same history on the bounded queue of `Spec/C16.lean`.
-/
namespace Firefly.Ring

theorem N_eq_pow : N = 2 ^ Firefly.Gen.C16.ringBufferBits := by unfold N; decide
theorem N_ge_two : 2 ≤ N := by unfold N; decide

theorem and_mask (x : Nat) : x &&& mask = x % N := by
  unfold mask; rw [N_eq_pow]; exact Nat.and_two_pow_sub_one_eq_mod x _

theorem inc_mask (x : Nat) (h : x < N) : (x + 1) &&& mask = if x + 1 = N then 0 else x + 1 := by
  rw [and_mask]
  split
  · next h1 => rw [h1]; exact Nat.mod_self N
  · next h1 => exact Nat.mod_eq_of_lt (by omega)

theorem getD_set (a : Array UInt8) (i j : Nat) (b : UInt8) (hi : i < a.size) :
    (a.setIfInBounds i b).getD j 0 = if j = i then b else a.getD j 0 := by
  simp only [Array.getD_eq_getD_getElem?, Array.getElem?_setIfInBounds]
  by_cases h : i = j
  · subst h; simp [hi]
  · have : ¬ j = i := fun e => h e.symm
    simp [h, this]

theorem writeByte_get (rb : Ring) (b : UInt8) (j : Nat) (h : rb.WF) :
    (rb.writeByte b).get j = if j = rb.w then b else rb.get j := by
  obtain ⟨buf, r, w⟩ := rb
  obtain ⟨hs, hr, hw⟩ := h
  simp only [Ring.writeByte, Ring.get]
  exact getD_set buf w j b (by simp only at hs hw; omega)

theorem writeByte_w (rb : Ring) (b : UInt8) (h : rb.WF) :
    (rb.writeByte b).w = if rb.w + 1 = N then 0 else rb.w + 1 := by
  obtain ⟨buf, r, w⟩ := rb
  simp only [Ring.writeByte]
  exact inc_mask w h.2.2

theorem writeByte_r (rb : Ring) (b : UInt8) (h : rb.WF) :
    (rb.writeByte b).r = if rb.r = (rb.writeByte b).w then (if rb.r + 1 = N then 0 else rb.r + 1) else rb.r := by
  obtain ⟨buf, r, w⟩ := rb
  simp only [Ring.writeByte]
  rw [inc_mask r h.2.1]

theorem writeByte_wf (rb : Ring) (b : UInt8) (h : rb.WF) : (rb.writeByte b).WF := by
  have hw := writeByte_w rb b h
  have hr := writeByte_r rb b h
  obtain ⟨hs, hr0, hw0⟩ := h
  refine ⟨?_, ?_, ?_⟩
  · obtain ⟨buf, r, w⟩ := rb
    simpa [Ring.writeByte] using hs
  · rw [hr]; split <;> (try split) <;> omega
  · rw [hw]; split <;> omega

theorem slice_length (rb : Ring) (s n : Nat) : (rb.slice s n).length = n := by simp [Ring.slice]

theorem slice_zero (rb : Ring) (s : Nat) : rb.slice s 0 = [] := by simp [Ring.slice]

theorem slice_one (rb : Ring) (s : Nat) : rb.slice s 1 = [rb.get s] := by simp [Ring.slice, List.range_succ]

theorem slice_add (rb : Ring) (s n m : Nat) : rb.slice s (n + m) = rb.slice s n ++ rb.slice (s + n) m := by
  simp [Ring.slice, List.range_add, Nat.add_assoc]

theorem slice_succ (rb : Ring) (s n : Nat) : rb.slice s (n + 1) = rb.slice s n ++ [rb.get (s + n)] := by
  rw [slice_add, slice_one]

theorem slice_congr (rb rb' : Ring) (s n : Nat) (h : ∀ i, i < n → rb'.get (s + i) = rb.get (s + i)) :
    rb'.slice s n = rb.slice s n := by
  simp only [Ring.slice]
  apply List.map_congr_left
  intro i hi
  exact h i (by simpa using hi)

theorem slice_split (rb : Ring) (s n k : Nat) (h : k ≤ n) : rb.slice s n = rb.slice s k ++ rb.slice (s + k) (n - k) := by
  have : n = k + (n - k) := by omega
  conv => lhs; rw [this]
  exact slice_add rb s k (n - k)

theorem contents_length (rb : Ring) : rb.contents.length = rb.len := by
  unfold Ring.contents Ring.len
  split <;> simp only [slice_length, List.length_append] <;> omega

theorem len_le_cap (rb : Ring) (h : rb.WF) : rb.len ≤ cap := by
  obtain ⟨_, hr, hw⟩ := h
  unfold Ring.len cap; split <;> omega

theorem len_lt_succ_N (rb : Ring) (h : rb.WF) : rb.len < N + 1 := by
  have := len_le_cap rb h
  unfold cap at this
  omega

theorem len_lt_cap_iff (rb : Ring) (h : rb.WF) :
    rb.len < cap ↔ rb.r ≠ if rb.w + 1 = N then 0 else rb.w + 1 := by
  obtain ⟨_, hr, hw⟩ := h
  unfold Ring.len cap; split <;> split <;> omega

theorem lastN_of_le (m : Nat) (l : List UInt8) (h : l.length ≤ m) : lastN m l = l := by
  unfold lastN; have : l.length - m = 0 := by omega
  rw [this]; rfl

theorem lastN_succ (m : Nat) (l : List UInt8) (h : l.length = m + 1) : lastN m l = l.drop 1 := by
  unfold lastN; rw [h]; congr 1; omega

theorem lastN_length (m : Nat) (l : List UInt8) : (lastN m l).length = min m l.length := by
  unfold lastN; simp; omega

theorem lastN_lastN_append (m : Nat) (l l2 : List UInt8) : lastN m (lastN m l ++ l2) = lastN m (l ++ l2) := by
  by_cases h : l.length ≤ m
  · rw [lastN_of_le m l h]
  · have hl : (lastN m l).length = m := by rw [lastN_length]; omega
    unfold lastN at *
    rw [List.length_append, hl, List.length_append]
    have h1 : List.drop (l.length - m) l ++ l2 = List.drop (l.length - m) (l ++ l2) := by
      rw [List.drop_append_of_le_length (by omega)]
    rw [h1, List.drop_drop]
    congr 1; omega

theorem lastN_nil (m : Nat) : lastN m [] = [] := by simp [lastN]

theorem contents_advance (rb : Ring) (n r' : Nat) (h : rb.WF)
    (hn : n ≤ if rb.r ≤ rb.w then rb.w - rb.r else N - rb.r)
    (hr' : r' = if rb.r + n = N then 0 else rb.r + n) :
    ({ rb with r := r' } : Ring).WF ∧
      rb.contents = rb.slice rb.r n ++ ({ rb with r := r' } : Ring).contents := by
  obtain ⟨hs, hr, hw⟩ := h
  refine ⟨⟨hs, by show r' < N; rw [hr']; split at hn <;> split <;> omega, hw⟩, ?_⟩
  unfold Ring.contents
  show _ = _ ++ if r' ≤ rb.w then rb.slice r' (rb.w - r') else rb.slice r' (N - r') ++ rb.slice 0 rb.w
  by_cases c1 : rb.r ≤ rb.w
  · rw [if_pos c1] at hn
    rw [if_neg (by omega)] at hr'
    rw [if_pos c1, hr', if_pos (by omega), slice_split rb rb.r _ n hn, Nat.sub_add_eq]
  · rw [if_neg c1] at hn
    rw [if_neg c1]
    by_cases c2 : rb.r + n = N
    · rw [if_pos c2] at hr'
      rw [hr', if_pos (Nat.zero_le _), Nat.sub_zero, show N - rb.r = n by omega]
    · rw [if_neg c2] at hr'
      rw [hr', if_neg (by omega), slice_split rb rb.r _ n hn, List.append_assoc, Nat.sub_add_eq]

/-- `rb'` is any ring with these indices and cells: `writeByte` of `rb` when there is room, of `rb` with its oldest
byte given up when not. -/
theorem push_contents (rb rb' : Ring) (b : UInt8) (h : rb.WF) (hroom : rb.len < cap) (hr : rb'.r = rb.r)
    (hw : rb'.w = if rb.w + 1 = N then 0 else rb.w + 1) (hg : ∀ j, rb'.get j = if j = rb.w then b else rb.get j) :
    rb'.contents = rb.contents ++ [b] := by
  unfold Ring.len cap at hroom
  obtain ⟨_, hr0, hw0⟩ := h
  have keep : ∀ s n, (s + n ≤ rb.w ∨ rb.w < s) → rb'.slice s n = rb.slice s n := by
    intro s n hsn
    apply slice_congr
    intro i hi
    rw [hg, if_neg (by omega)]
  have hgw : rb'.get rb.w = b := by rw [hg, if_pos rfl]
  unfold Ring.contents
  rw [hr]
  by_cases c1 : rb.r ≤ rb.w
  · rw [if_pos c1] at hroom ⊢
    have seg : rb'.slice rb.r (rb.w - rb.r + 1) = rb.slice rb.r (rb.w - rb.r) ++ [b] := by
      rw [slice_succ, keep _ _ (by omega), show rb.r + (rb.w - rb.r) = rb.w by omega, hgw]
    by_cases c2 : rb.w + 1 = N
    · rw [if_pos c2] at hw
      rw [hw, if_neg (by omega), slice_zero, List.append_nil, show N - rb.r = (rb.w - rb.r) + 1 by omega, seg]
    · rw [if_neg c2] at hw
      rw [hw, if_pos (by omega), show rb.w + 1 - rb.r = (rb.w - rb.r) + 1 by omega, seg]
  · rw [if_neg c1] at hroom ⊢
    rw [if_neg (by omega)] at hw
    rw [hw, if_neg (by omega), slice_succ, keep 0 rb.w (by omega), Nat.zero_add, hgw, keep _ _ (by omega),
      List.append_assoc]

theorem writeByte_contents (rb : Ring) (b : UInt8) (h : rb.WF) :
    (rb.writeByte b).contents = lastN cap (rb.contents ++ [b]) := by
  have hw := writeByte_w rb b h
  have hr := writeByte_r rb b h
  have hg := fun j => writeByte_get rb b j h
  rw [hw] at hr
  by_cases hroom : rb.len < cap
  · rw [push_contents rb _ b h hroom (hr.trans (if_neg ((len_lt_cap_iff rb h).1 hroom))) hw hg, lastN_of_le]
    rw [List.length_append, contents_length]
    exact hroom
  · -- full: `Write` gives up the oldest byte, after which there is room
    have hrw := Classical.not_not.1 (mt (len_lt_cap_iff rb h).2 hroom)
    have hfull : rb.len = cap := Nat.le_antisymm (len_le_cap rb h) (Nat.le_of_not_lt hroom)
    have hN := N_ge_two
    obtain ⟨hwf', hpop⟩ := contents_advance rb 1 _ h
      (by obtain ⟨_, hr0, hw0⟩ := h; split at hrw <;> split <;> omega) rfl
    have hlen := congrArg List.length hpop
    rw [List.length_append, slice_length, contents_length, contents_length] at hlen
    rw [push_contents _ _ b hwf' (by omega) (hr.trans (if_pos hrw)) hw hg,
      hpop, lastN_succ, List.append_assoc, slice_one]
    · rfl
    · rw [List.length_append, List.length_append, slice_length, contents_length, List.length_singleton]
      omega

theorem write_wf (rb : Ring) (p : List UInt8) (h : rb.WF) : (rb.write p).WF := by
  induction p generalizing rb with
  | nil => exact h
  | cons b t ih => exact ih (rb.writeByte b) (writeByte_wf rb b h)

theorem write_contents (rb : Ring) (p : List UInt8) (h : rb.WF) :
    (rb.write p).contents = lastN cap (rb.contents ++ p) := by
  induction p generalizing rb with
  | nil =>
    simp only [Ring.write, List.foldl_nil, List.append_nil]
    rw [lastN_of_le]; rw [contents_length]; exact len_le_cap rb h
  | cons b t ih =>
    have := ih (rb.writeByte b) (writeByte_wf rb b h)
    simp only [Ring.write, List.foldl_cons] at this ⊢
    rw [this, writeByte_contents rb b h, lastN_lastN_append]
    simp

theorem write_append (rb : Ring) (p q : List UInt8) : rb.write (p ++ q) = (rb.write p).write q := by
  simp [Ring.write]

theorem foldl_write (cs : List (List UInt8)) (rb : Ring) : cs.foldl Ring.write rb = rb.write cs.flatten :=
  foldl_flatten (fun _ => rfl) (fun rb p q => (write_append rb p q).symm) cs rb

theorem emptyAt_wf (p : Nat) (h : p < N) : (emptyAt p).WF := by
  simp [emptyAt, Ring.WF, h]

theorem contents_of_eq (rb : Ring) (h : rb.r = rb.w) : rb.contents = [] := by
  simp [Ring.contents, h, slice_zero]

theorem emptyAt_contents (p : Nat) : (emptyAt p).contents = [] := contents_of_eq _ rfl

theorem contents_eq_nil_iff (rb : Ring) (h : rb.WF) : rb.contents = [] ↔ rb.r = rb.w := by
  constructor
  · intro hc
    have hl := contents_length rb
    rw [hc] at hl
    obtain ⟨_, hr, hw⟩ := h
    simp only [List.length_nil, Ring.len] at hl
    split at hl <;> omega
  · exact contents_of_eq rb

/-- what a `Read` into `k` bytes of room may return from `rb` -/
structure ReadOk (rb : Ring) (k : Nat) (res : ReadResult) : Prop where
  /-- the bytes handed out are the oldest unread ones, the rest stays unread -/
  split : rb.contents = res.out ++ res.ring.contents
  length : res.out.length = res.n
  le : res.n ≤ k
  wf : res.ring.WF
  eof_iff : res.eof = true ↔ rb.contents = []
  /-- EOF changes nothing -/
  eof : res.eof = true → res.ring = rb ∧ res.out = []
  progress : 0 < k → rb.contents ≠ [] → 0 < res.n

theorem read_spec (rb : Ring) (k : Nat) (h : rb.WF) : ReadOk rb k (rb.read k) := by
  have hnil := contents_eq_nil_iff rb h
  have adv := fun n r' => contents_advance rb n r' h
  obtain ⟨hs, hr, hw⟩ := h
  unfold Ring.read
  by_cases c1 : rb.r < rb.w
  · simp only [if_pos c1]
    obtain ⟨n, hn⟩ : ∃ n, n = (if k < rb.w - rb.r then k else rb.w - rb.r) := ⟨_, rfl⟩
    have hp : n ≤ rb.w - rb.r ∧ n ≤ k ∧ (0 < k → 0 < n) := by rw [hn]; split <;> omega
    rw [← hn]
    have a := adv n _ (by rw [if_pos (by omega)]; exact hp.1) (if_neg (by omega)).symm
    refine ⟨a.2, slice_length _ _ _, hp.2.1, a.1, ?_, by simp, fun hk _ => hp.2.2 hk⟩
    simp only [Bool.false_eq_true, false_iff]; rw [hnil]; omega
  · by_cases c2 : rb.r > rb.w
    · simp only [if_neg c1, if_pos c2]
      obtain ⟨n, hn⟩ : ∃ n, n = (if k < N - rb.r then k else N - rb.r) := ⟨_, rfl⟩
      have hp : n ≤ N - rb.r ∧ n ≤ k ∧ (0 < k → 0 < n) := by rw [hn]; split <;> omega
      rw [← hn]
      have a := adv n _ (by rw [if_neg (by omega)]; exact hp.1) rfl
      refine ⟨a.2, slice_length _ _ _, hp.2.1, a.1, ?_, by simp, fun hk _ => hp.2.2 hk⟩
      simp only [Bool.false_eq_true, false_iff]; rw [hnil]; omega
    · have e : rb.r = rb.w := by omega
      simp only [if_neg c1, if_neg c2]
      refine ⟨by simp [contents_of_eq rb e], rfl, Nat.zero_le _, ⟨hs, hr, hw⟩, by simp [contents_of_eq rb e], by simp, ?_⟩
      intro _ hne; exact absurd (contents_of_eq rb e) hne

theorem drain_spec (k : Nat) (hk : 0 < k) (fuel : Nat) (rb : Ring) (h : rb.WF) (hf : rb.len < fuel) :
    (rb.drain k fuel).1 = rb.contents ∧ (rb.drain k fuel).2.contents = [] ∧ (rb.drain k fuel).2.WF := by
  induction fuel generalizing rb with
  | zero => omega
  | succ f ih =>
    have r := read_spec rb k h
    unfold Ring.drain
    by_cases ce : (rb.read k).eof = true
    · simp only [ce, if_true]
      rw [(r.eof ce).1]
      exact ⟨(r.eof_iff.1 ce).symm, r.eof_iff.1 ce, h⟩
    · simp only [ce]
      have hpos := r.progress hk fun e => ce (r.eof_iff.2 e)
      have hlen : (rb.read k).ring.len < f := by
        have := congrArg List.length r.split
        rw [List.length_append, contents_length, contents_length, r.length] at this
        omega
      obtain ⟨i1, i2, i3⟩ := ih (rb.read k).ring r.wf hlen
      refine ⟨?_, i2, i3⟩
      simp only [Bool.false_eq_true, if_false]
      rw [i1, ← r.split]

theorem drainAll_spec (rb : Ring) (h : rb.WF) :
    rb.drainAll.1 = rb.contents ∧ rb.drainAll.2.contents = [] ∧ rb.drainAll.2.WF :=
  drain_spec _ (by decide) _ rb h (len_lt_succ_N rb h)

open Firefly.C16.Spec in
/-- any history of writes and reads on the ring is the same history on the queue that keeps the last `cap` bytes -/
theorem runRing_refines (ops : List RingOp) (rb : Ring) (h : rb.WF) :
    (runRing rb ops).1.WF ∧
    (runRing rb ops).1.contents = (runQueue rb.contents ops ((runRing rb ops).2.map List.length)).1 ∧
    (runRing rb ops).2 = (runQueue rb.contents ops ((runRing rb ops).2.map List.length)).2 := by
  induction ops generalizing rb with
  | nil => exact ⟨h, rfl, rfl⟩
  | cons op t ih =>
    cases op with
    | write bs =>
      obtain ⟨i1, i2, i3⟩ := ih (rb.write bs) (write_wf rb bs h)
      rw [write_contents rb bs h] at i2 i3
      have e1 : runRing rb (RingOp.write bs :: t) = runRing (rb.write bs) t := rfl
      have e2 : ∀ q ns, runQueue q (RingOp.write bs :: t) ns = runQueue (lastN cap (q ++ bs)) t ns := fun _ _ => rfl
      rw [e1, e2]
      exact ⟨i1, i2, i3⟩
    | read k =>
      have r := read_spec rb k h
      obtain ⟨i1, i2, i3⟩ := ih (rb.read k).ring r.wf
      have q1 : runRing rb (RingOp.read k :: t) = ((runRing (rb.read k).ring t).1, (rb.read k).out :: (runRing (rb.read k).ring t).2) := rfl
      have q2 : ∀ q n ns, runQueue q (RingOp.read k :: t) (n :: ns) = ((runQueue (q.drop n) t ns).1, q.take n :: (runQueue (q.drop n) t ns).2) := fun _ _ _ => rfl
      rw [q1]
      simp only [List.map_cons]
      rw [q2]
      have e1 : rb.contents.drop (rb.read k).out.length = (rb.read k).ring.contents := by
        conv => lhs; rw [r.split]
        simp
      have e2 : rb.contents.take (rb.read k).out.length = (rb.read k).out := by
        conv => lhs; rw [r.split]
        simp
      rw [e1, e2]
      exact ⟨i1, i2, by rw [← i3]⟩

end Firefly.Ring
