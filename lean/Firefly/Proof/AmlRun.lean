import Firefly.Proof.AmlFirstPass
import Firefly.Proof.AmlTreeFind
/-!
How a run of the parser monad is spoken of: `NPs` (no panic), `ST.TPs` (it returns), `S.Rs` (it returns if the fuel guard
holds), each with its `bind`; `TP`, the three facts about a parser state that every pass keeps; the runs of the pool primitives.
-/

namespace Firefly.AmlParser
open Firefly.AmlLex Firefly.AmlTree Firefly.C13
open Firefly.Gen.C12

/-- `x` run from `s` does not panic (it returns, or runs out of fuel), and `Q` holds of what it returns -/
def NPs {α : Type} (x : P α) (s : PState) (Q : α → PState → Prop) : Prop :=
  (∀ e, x s = .error e → e = .outOfFuel) ∧ (∀ a s', x s = .ok (a, s') → Q a s')

theorem NPs.bind {α β : Type} {x : P α} {f : α → P β} {s : PState} {Q : α → PState → Prop} {R : β → PState → Prop}
    (hx : NPs x s Q) (hf : ∀ a s1, Q a s1 → NPs (f a) s1 R) : NPs (x >>= f) s R := by
  show NPs (StateT.bind x f) s R
  unfold NPs StateT.bind
  cases hxs : x s with
  | error e =>
    have := hx.1 e hxs
    refine ⟨fun e' he' => ?_, fun a s' he' => ?_⟩
    · cases he'; exact this
    · cases he'
  | ok p =>
    obtain ⟨a, s1⟩ := p
    have h1 := hf a s1 (hx.2 a s1 hxs)
    exact ⟨fun e' he' => h1.1 e' he', fun b s' he' => h1.2 b s' he'⟩

theorem NPs.pure {α : Type} {a : α} {s : PState} {Q : α → PState → Prop} (h : Q a s) : NPs (pure a : P α) s Q :=
  ⟨fun e he => (by cases he), fun b s' he => (by cases he; exact h)⟩

theorem NPs.fuel {α : Type} {s : PState} {Q : α → PState → Prop} : NPs (throw .outOfFuel : P α) s Q :=
  ⟨fun e he => (by cases he; rfl), fun b s' he => (by cases he)⟩

theorem NPs.of_eq {α : Type} {x : P α} {s s1 : PState} {a : α} {Q : α → PState → Prop} (e : x s = .ok (a, s1)) (h : Q a s1) :
    NPs x s Q :=
  ⟨fun e' he => (by rw [e] at he; cases he), fun b s' he => (by rw [e] at he; cases he; exact h)⟩

theorem NPs.of_ex {α : Type} {x : P α} {s : PState} {Q : α → PState → Prop} (h : ∃ a s1, x s = .ok (a, s1) ∧ Q a s1) :
    NPs x s Q := by
  obtain ⟨a, s1, e, hq⟩ := h
  exact NPs.of_eq e hq

theorem NPs.mono {α : Type} {x : P α} {s : PState} {Q R : α → PState → Prop} (h : NPs x s Q) (hq : ∀ a s', Q a s' → R a s') :
    NPs x s R :=
  ⟨h.1, fun a s' he => hq a s' (h.2 a s' he)⟩

theorem NPs.ite {α : Type} {c : Prop} [Decidable c] {x y : P α} {s : PState} {R : α → PState → Prop}
    (hx : c → NPs x s R) (hy : ¬ c → NPs y s R) : NPs (if c then x else y) s R := by
  by_cases h : c
  · rw [if_pos h]; exact hx h
  · rw [if_neg h]; exact hy h

theorem NPs.step {α β : Type} {x : P α} {f : α → P β} {s s1 : PState} {a : α} {R : β → PState → Prop}
    (e : x s = .ok (a, s1)) (hf : NPs (f a) s1 R) : NPs (x >>= f) s R :=
  NPs.bind (NPs.of_eq (Q := fun a' s' => a' = a ∧ s' = s1) e ⟨rfl, rfl⟩) (fun a' s' h => by rw [h.1, h.2]; exact hf)

namespace ST

def TPs {α : Type} (x : P α) (s : PState) (Q : α → PState → Prop) : Prop := ∃ a s', x s = .ok (a, s') ∧ Q a s'

theorem TPs.step {α β : Type} {x : P α} {f : α → P β} {s s1 : PState} {a : α} {R : β → PState → Prop}
    (e : x s = .ok (a, s1)) (hf : TPs (f a) s1 R) : TPs (x >>= f) s R := bind_ex e hf

theorem TPs.pure {α : Type} {a : α} {s : PState} {Q : α → PState → Prop} (h : Q a s) : TPs (pure a : P α) s Q := pure_ex h

theorem TPs.bind {α β : Type} {x : P α} {f : α → P β} {s : PState} {Q : α → PState → Prop} {R : β → PState → Prop}
    (hx : TPs x s Q) (hf : ∀ a s1, Q a s1 → TPs (f a) s1 R) : TPs (x >>= f) s R := by
  obtain ⟨a, s1, e, hq⟩ := hx
  exact bind_ex e (hf a s1 hq)

theorem TPs.of_eq {α : Type} {x : P α} {s s1 : PState} {a : α} {Q : α → PState → Prop} (e : x s = .ok (a, s1)) (h : Q a s1) :
    TPs x s Q := ⟨a, s1, e, h⟩

theorem TPs.mono {α : Type} {x : P α} {s : PState} {Q R : α → PState → Prop} (h : TPs x s Q) (hq : ∀ a s', Q a s' → R a s') :
    TPs x s R := by
  obtain ⟨a, s', e, hp⟩ := h
  exact ⟨a, s', e, hq a s' hp⟩

theorem TPs.nps {α : Type} {x : P α} {s : PState} {Q : α → PState → Prop} (h : TPs x s Q) : NPs x s Q :=
  NPs.of_ex h

end ST

namespace S
open Firefly.AmlParser.ST

/-- `x` run from `s` does not panic, `Q` holds of what it returns, and it does return when `g` holds.  In the
contracts below `g` says that the fuel suffices for the bytes left, so one walk of the mutually recursive functions
gives panic-freedom for every fuel and totality for enough fuel. -/
def Rs {α : Type} (g : Prop) (x : P α) (s : PState) (Q : α → PState → Prop) : Prop :=
  NPs x s Q ∧ (g → TPs x s Q)

theorem Rs.of_eq {α : Type} {g : Prop} {x : P α} {s s1 : PState} {a : α} {Q : α → PState → Prop} (e : x s = .ok (a, s1))
    (h : Q a s1) : Rs g x s Q := ⟨NPs.of_eq e h, fun _ => TPs.of_eq e h⟩

theorem Rs.pure {α : Type} {g : Prop} {a : α} {s : PState} {Q : α → PState → Prop} (h : Q a s) : Rs g (pure a : P α) s Q :=
  ⟨NPs.pure h, fun _ => TPs.pure h⟩

theorem Rs.fuel {α : Type} {g : Prop} {s : PState} {Q : α → PState → Prop} (hg : ¬ g) : Rs g (throw .outOfFuel : P α) s Q :=
  ⟨NPs.fuel, fun h => absurd h hg⟩

/-- the guard of the first part may be any consequence of the guard of the whole -/
theorem Rs.bind {α β : Type} {g g' : Prop} {x : P α} {f : α → P β} {s : PState} {Q : α → PState → Prop} {R : β → PState → Prop}
    (hx : Rs g' x s Q) (hg : g → g') (hf : ∀ a s1, Q a s1 → Rs g (f a) s1 R) : Rs g (x >>= f) s R :=
  ⟨hx.1.bind (fun a s1 q => (hf a s1 q).1), fun h => (hx.2 (hg h)).bind (fun a s1 q => (hf a s1 q).2 h)⟩

theorem Rs.step {α β : Type} {g : Prop} {x : P α} {f : α → P β} {s s1 : PState} {a : α} {R : β → PState → Prop}
    (e : x s = .ok (a, s1)) (hf : Rs g (f a) s1 R) : Rs g (x >>= f) s R :=
  ⟨NPs.step e hf.1, fun h => TPs.step e (hf.2 h)⟩

theorem Rs.ite {α : Type} {g c : Prop} [Decidable c] {x y : P α} {s : PState} {Q : α → PState → Prop}
    (hx : c → Rs g x s Q) (hy : ¬ c → Rs g y s Q) : Rs g (if c then x else y) s Q := by
  split
  · exact hx ‹_›
  · exact hy ‹_›

theorem Rs.congr {α : Type} {g : Prop} {x y : P α} {s s' : PState} {Q : α → PState → Prop} (e : x s = y s') (h : Rs g y s' Q) :
    Rs g x s Q := by
  unfold Rs NPs TPs at h ⊢
  rw [e]; exact h

theorem Rs.mono {α : Type} {g g' : Prop} {x : P α} {s : PState} {Q R : α → PState → Prop} (h : Rs g' x s Q) (hg : g → g')
    (hq : ∀ a s', Q a s' → R a s') : Rs g x s R :=
  ⟨h.1.mono hq, fun hh => (h.2 (hg hh)).mono hq⟩

end S

theorem bind_ex' {α β : Type} {x : P α} {f : α → P β} {s s1 s2 : PState} {a : α} {b : β} (e1 : x s = .ok (a, s1))
    (e2 : f a s1 = .ok (b, s2)) : (x >>= f) s = .ok (b, s2) := (bind_run e1).trans e2

/-- invariant of the parser state during the tree passes -/
structure TP (s : PState) : Prop where
  wf : WF s.tree
  root : live s.tree 0 = true
  info : ∀ x, live s.tree x = true → InfoOK (slot s.tree x).infoIndex

/-- nothing was created or freed -/
structure Mv (s s' : PState) : Prop where
  size : s'.tree.pool.size = s.tree.pool.size
  live : ∀ x, live s'.tree x = live s.tree x
  handle : s'.tableHandle = s.tableHandle
  /-- the reader and the two stacks are not touched by the tree passes -/
  rs : s'.r = s.r ∧ s'.scopeStack = s.scopeStack ∧ s'.pkgEndStack = s.pkgEndStack ∧ s'.streamEnd = s.streamEnd

theorem Mv.refl (s : PState) : Mv s s := ⟨rfl, fun _ => rfl, rfl, rfl, rfl, rfl, rfl⟩
theorem Mv.alive {s s' : PState} (m : Mv s s') {x : Nat} (h : C13.live s.tree x = true) : C13.live s'.tree x = true := by
  rw [m.live]; exact h
theorem Mv.trans {a b c : PState} (h1 : Mv a b) (h2 : Mv b c) : Mv a c :=
  ⟨by rw [h2.size, h1.size], fun x => by rw [h2.live, h1.live], by rw [h2.handle, h1.handle],
   by rw [h2.rs.1, h1.rs.1], by rw [h2.rs.2.1, h1.rs.2.1], by rw [h2.rs.2.2.1, h1.rs.2.2.1], by rw [h2.rs.2.2.2, h1.rs.2.2.2]⟩

/-- the counter reset at the head of a pass: the rest of the pass runs from `s` or from `g s`, a state with the same pool -/
theorem NPs.ite_modify {β : Type} {c : Prop} [Decidable c] {g : PState → PState} {k : Unit → P β} {s : PState}
    {R : β → PState → Prop} (hg : (g s).tree = s.tree) (hm : Mv s (g s))
    (h : ∀ s0, s0.tree = s.tree → Mv s s0 → NPs (k ()) s0 R) : NPs (if c then modify g >>= k else k ()) s R :=
  NPs.ite (fun _ => NPs.step (a := ()) (s1 := g s) rfl (h _ hg hm)) fun _ => h _ rfl (Mv.refl s)

theorem getObj_live {s : PState} {i : Nat} (h : live s.tree i = true) : getObj i s = .ok (slot s.tree i, s) :=
  getObj_ex (live_lt h)

theorem objectAt_live' {s : PState} {i : Nat} (h : live s.tree i = true) : objectAt i s = .ok (some i, s) := by
  unfold objectAt
  rw [objectAt_live h]
  rfl

theorem nextOf_live {s : PState} {i : Nat} (h : live s.tree i = true) : nextOf i s = .ok (Nx s.tree i, s) :=
  bind_ex' (getObj_live h) rfl

theorem prevOf_live {s : PState} {i : Nat} (h : live s.tree i = true) : prevOf i s = .ok (Pv s.tree i, s) :=
  bind_ex' (getObj_live h) rfl

theorem NPs.deref {β : Type} {s : PState} {i : Nat} (h : live s.tree i = true) {f : Nat → P β} {R : β → PState → Prop}
    (k : NPs (f i) s R) : NPs (objectAt i >>= fun l => derefP l >>= f) s R :=
  NPs.step (objectAt_live' h) (NPs.step (derefP_some_ex i) k)

theorem NPs.derefObj {β : Type} {s : PState} {i : Nat} (h : live s.tree i = true) {f : Nat → Obj → P β}
    {R : β → PState → Prop} (k : NPs (f i (slot s.tree i)) s R) :
    NPs (objectAt i >>= fun l => derefP l >>= fun p => getObj p >>= f p) s R :=
  NPs.deref h (NPs.step (getObj_live h) k)

/-- the head of every visit and of every round of a loop over siblings looks the object up and reads it -/
theorem deref_run {β : Type} {s : PState} {i : Nat} (h : live s.tree i = true) (f : Nat → Obj → P β) :
    (objectAt i >>= fun l => derefP l >>= fun p => getObj p >>= f p) s = f i (slot s.tree i) s := by
  rw [bind_run (objectAt_live' h), bind_run (derefP_some_ex _), bind_run (getObj_live h)]

theorem not_anc_own_parent {t : ObjectTree} (w : WF t) {x : Nat} (hx : live t x = true) (hp : C13.P t x ≠ INV) :
    ¬ anc t x (C13.P t x) := by
  obtain ⟨rk, hrk⟩ := w.rank
  intro ha
  have := anc_induct w.size_le (I := fun y => rk y ≤ rk (C13.P t x)) ha (Nat.le_refl _)
    fun y hy h hpy => Nat.le_trans (Nat.le_of_lt (hrk y hy hpy)) h
  have := hrk x hx hp
  omega

theorem not_anc_child {t : ObjectTree} (w : WF t) {S cur j : Nat} (hj : live t j = true) (hp : C13.P t j = cur)
    (hne : j ≠ S) (hc : ¬ anc t S cur) : ¬ anc t S j := by
  rw [w.anc_step hj hne, hp]; exact hc

theorem next_sib {t : ObjectTree} (w : WF t) {a : Nat} (ha : live t a = true) (hn : Nx t a ≠ INV) :
    live t (Nx t a) = true ∧ Pv t (Nx t a) = a ∧ C13.P t (Nx t a) = C13.P t a ∧ live t (C13.P t a) = true ∧
      ¬ anc t (Nx t a) a := by
  have la := w.lP ha
  obtain ⟨hpv, hpp⟩ := la.nx hn
  have hpa : C13.P t a ≠ INV := fun e => hn (la.det e).2
  have hl := w.live_nx ha hn
  exact ⟨hl, hpv, hpp, w.live_p ha hpa,
    not_anc_child w ha hpp.symm (fun e => w.Nx_ne_self ha e.symm) (not_anc_own_parent w hl (by rw [hpp]; exact hpa))⟩

theorem TP.treeG {s : PState} (h : TP s) : G.TreeG s.tree := ⟨h.wf, h.info, h.root⟩

theorem tp_of_treeG {s : PState} (h : G.TreeG s.tree) : TP s := ⟨h.wf, h.root, h.info⟩

theorem TP.ofTree {s : PState} (h : TP s) {t' : ObjectTree} (w' : WF t') (sp : SamePay s.tree t') : TP { s with tree := t' } :=
  tp_of_treeG (s := { s with tree := t' }) (h.treeG.ofPay w' sp)

end Firefly.AmlParser
