import Firefly.Proof.AmlReads
import Firefly.Proof.ListLemmas
/-!
The lexical round trips of name strings and strings (`C11.name_roundtrip`, `C11.string_roundtrip`): `parseNameString` /
`parseString` on the bytes `encName` / `encString` produce, as terms of the `Reads` calculus that follow the decoders.
-/
namespace Firefly.AmlLex
open Firefly.AmlTree (Res Err)
open Firefly.AmlParser.F

/-- the prefix bytes of a name string: `\` and `^` -/
def IsPre (b : UInt8) : Prop := b = 0x5c ∨ b = 0x5e

/-- the prefix part of `encName` -/
def namePre (root : Bool) (carets : Nat) : List UInt8 := (if root then [0x5c] else []) ++ List.replicate carets 0x5e

/-- the NamePath part of `encName` -/
def nameBody (segs : List (List UInt8)) : List UInt8 :=
  match segs with
  | [] => [0x00]
  | [s] => s
  | [s, t] => 0x2e :: (s ++ t)
  | _ => 0x2f :: UInt8.ofNat segs.length :: segs.flatten

theorem encName_eq (root : Bool) (carets : Nat) (segs : List (List UInt8)) :
    encName root carets segs = namePre root carets ++ nameBody segs := by
  unfold encName namePre nameBody
  rfl

theorem namePre_isPre (root : Bool) (carets : Nat) : ∀ b ∈ namePre root carets, IsPre b := by
  intro b hb
  unfold namePre at hb
  rw [List.mem_append] at hb
  rcases hb with hb | hb
  · split at hb
    · simp at hb; exact Or.inl hb
    · simp at hb
  · exact Or.inr (List.eq_of_mem_replicate hb)

/-- what `encName` is given: 4-byte segments, at most 255 of them, a lone segment starts with a lead character
(`A`–`Z` or `_`) -/
def NameOK (segs : List (List UInt8)) : Prop :=
  (∀ s ∈ segs, s.length = 4) ∧ segs.length ≤ 255 ∧
  (∀ s, segs = [s] → ∃ c, s[0]? = some c ∧ ((0x41 ≤ c.toNat ∧ c.toNat ≤ 0x5a) ∨ c.toNat = 0x5f))

section
variable {d : Bytes} {pe : Nat}

theorem skipNamePrefix_reads {c : UInt8} (hnp : ¬ IsPre c) : ∀ (p : List UInt8) (f o : Nat), (∀ b ∈ p, IsPre b) →
    p.length + 1 ≤ f → d[o + p.length]? = some c → o + p.length < pe → Reads d pe (skipNamePrefix d f) o p true := by
  intro p
  induction p with
  | nil =>
    intro f o _ hf hc hlt
    obtain ⟨f, rfl⟩ : ∃ f', f = f' + 1 := ⟨f - 1, by simp at hf; omega⟩
    unfold skipNamePrefix
    refine .bind0 (.peekByte hc hlt) (.ite_pos ⟨fun e => hnp (.inl e), fun e => hnp (.inr e)⟩ .pure)
  | cons b p ih =>
    intro f o hp hf hc hlt
    obtain ⟨f, rfl⟩ : ∃ f', f = f' + 1 := ⟨f - 1, by simp at hf; omega⟩
    simp only [List.length_cons] at hf hc hlt
    unfold skipNamePrefix
    intro hb
    have hpre : ¬ (b ≠ 0x5c ∧ b ≠ 0x5e) := by
      rcases hp b (List.mem_cons_self ..) with e | e <;> simp [e]
    refine Reads.bind0 (.peekByte hb.tail.1 (by omega)) (.ite_neg hpre ?_) hb
    exact Reads.bind (l := [b]) .readByte (ih f (o + 1) (fun x hx => hp x (List.mem_cons_of_mem _ hx)) (by omega)
      (by rw [← hc]; congr 1; omega) (by omega))

theorem skipSegs_reads (hsz : d.size < 4294967296) (hpe : pe ≤ d.size) {l : List UInt8} {k st o : Nat}
    (hk : l.length = k) : Reads d pe (skipSegs d st k) o l (some st) := by
  intro hb hfit
  have hu : u32 (o + k) = o + k := u32_id (by omega)
  unfold skipSegs
  refine Reads.bind0 .offset (.bind0 .pkgEnd ?_) hb hfit
  rw [hu]
  exact .ite_neg (by omega) (.bindR (.setOffset (by rw [hk]) hpe) .pure)

theorem parseStringLoop_reads : ∀ (s : List UInt8) (f o len : Nat), (∀ b ∈ s, 1 ≤ b ∧ b ≤ 0x7f) → s.length + 1 ≤ f →
    Reads d pe (parseStringLoop d f len) o (s ++ [0]) (len + s.length, .ok) := by
  intro s
  induction s with
  | nil =>
    intro f o len _ hf
    obtain ⟨f, rfl⟩ : ∃ f', f = f' + 1 := ⟨f - 1, by simp at hf; omega⟩
    unfold parseStringLoop
    exact .bindR .readByte (.ite_pos rfl .pure)
  | cons b s ih =>
    intro f o len hs hf
    obtain ⟨f, rfl⟩ : ∃ f', f = f' + 1 := ⟨f - 1, by simp at hf; omega⟩
    obtain ⟨h1, h2⟩ := hs b (List.mem_cons_self ..)
    have h0 : b ≠ 0 := fun e => by rw [e] at h1; exact absurd h1 (by decide)
    unfold parseStringLoop
    have := ih f (o + 1) (len + 1) (fun x hx => hs x (List.mem_cons_of_mem _ hx)) (by simp at hf ⊢; omega)
    rw [List.length_cons, ← Nat.add_assoc, Nat.add_right_comm]
    exact Reads.bind (l := [b]) .readByte (.ite_neg h0 (.ite_pos ⟨h1, h2⟩ this))

open Firefly.Gen.C12 in
/-- `parseNamePath` on the NamePath of `encName`, behind its first byte `c` -/
theorem parseNamePath_reads (hsz : d.size < 4294967296) (hpe : pe ≤ d.size) {segs : List (List UInt8)} (hok : NameOK segs) :
    ∃ c tl, nameBody segs = c :: tl ∧ ¬ IsPre c ∧
      ∀ st o, Reads d pe (parseNamePath d c.toNat st) o tl (some (st + if segs = [] then 1 else 0)) := by
  obtain ⟨h4, h255, hlead⟩ := hok
  match segs, h4, h255, hlead with
  | [], _, _, _ =>
    refine ⟨0, [], rfl, by unfold IsPre; decide, fun st o => ?_⟩
    rw [parseNamePath_eq]
    exact .ite_pos rfl .pure
  | [s], h4, _, hlead =>
    obtain ⟨c, hc, hl⟩ := hlead s rfl
    obtain ⟨c', tl, rfl⟩ : ∃ c' tl, s = c' :: tl := by
      cases s with
      | nil => cases hc
      | cons a b => exact ⟨a, b, rfl⟩
    cases hc
    have htl : tl.length = amlNameLen - 1 := by have := h4 _ (List.mem_cons_self ..); simp at this; exact this
    refine ⟨c, tl, rfl, fun h => ?_, fun st o => ?_⟩
    · have : c.toNat = 0x5c ∨ c.toNat = 0x5e := by rcases h with e | e <;> rw [e] <;> simp
      omega
    · rw [parseNamePath_eq]
      exact .ite_neg (by omega) <| .ite_neg (by omega) <| .ite_neg (by omega) <| .ite_neg (by omega) <|
        skipSegs_reads hsz hpe htl
  | [s, t], h4, _, _ =>
    have hst : (s ++ t).length = amlNameLen * 2 := by
      rw [List.length_append, h4 s (List.mem_cons_self ..), h4 t (List.mem_cons_of_mem _ (List.mem_cons_self ..))]; rfl
    refine ⟨0x2e, s ++ t, rfl, by unfold IsPre; decide, fun st o => ?_⟩
    rw [parseNamePath_eq]
    exact .ite_neg (by decide) <| .ite_pos rfl <| skipSegs_reads hsz hpe hst
  | s :: t :: u :: rest, h4, h255, _ =>
    generalize hsg : (s :: t :: u :: rest) = sg at *
    have hne : sg ≠ [] := by rw [← hsg]; simp
    have hn : (UInt8.ofNat sg.length).toNat = sg.length := UInt8.toNat_ofNat_of_lt' (show _ < 256 by omega)
    have hn0 : UInt8.ofNat sg.length ≠ 0 := by
      intro e
      have := congrArg UInt8.toNat e
      rw [hn] at this
      have : sg.length = 0 := this
      rw [← hsg] at this; simp at this
    refine ⟨0x2f, UInt8.ofNat sg.length :: sg.flatten, by rw [← hsg]; rfl, by unfold IsPre; decide, fun st o => ?_⟩
    rw [parseNamePath_eq, if_neg hne]
    exact .ite_neg (by decide) <| .ite_neg (by decide) <| .ite_pos rfl <| .bind (l := [_]) .readByte <|
      .ite_neg hn0 <| skipSegs_reads hsz hpe (by rw [hn, ← List.flatMap_id, length_flatMap_const (f := id) h4, Nat.mul_comm]; rfl)

theorem parseNameString_reads (hsz : d.size < 4294967296) (hpe : pe ≤ d.size) (root : Bool) (carets : Nat)
    {segs : List (List UInt8)} (hok : NameOK segs) (o : Nat) :
    Reads d pe (parseNameString d) o (encName root carets segs)
      (⟨some o, (encName root carets segs).length - (if segs = [] then 1 else 0)⟩, PRes.ok) := by
  obtain ⟨c, tl, hbody, hnp, hpath⟩ := parseNamePath_reads hsz hpe hok
  rw [encName_eq, hbody]
  intro henc hfit
  have hlen : ((namePre root carets) ++ c :: tl).length = (namePre root carets).length + 1 + tl.length := by
    rw [List.length_append, List.length_cons]; omega
  have hl : (namePre root carets ++ c :: tl).length - (if segs = [] then 1 else 0) =
      u32 (o + (namePre root carets).length + 1 + tl.length + 4294967296 - (o + if segs = [] then 1 else 0)) := by
    rw [u32_sub (by split <;> omega) (by omega)]; split <;> omega
  rw [hl]
  have : Reads d pe (parseNameString d) o (namePre root carets ++ c :: tl) (⟨some o,
      u32 (o + (namePre root carets).length + 1 + tl.length + 4294967296 - (o + if segs = [] then 1 else 0))⟩, PRes.ok) := by
    unfold parseNameString
    exact .bind0 (.dataPtr (by omega) hpe) <| .bind0 .offset <|
      .bind (skipNamePrefix_reads hnp _ _ _ (namePre_isPre root carets) (by omega) (BytesAt.right henc).tail.1 (by omega)) <|
      .ite_pos rfl <| .bind (l := [c]) .readByte <| .bindR (hpath _ _) <| .bind0 .offset .pure
  exact this henc hfit

theorem parseString_reads (hpe : pe ≤ d.size) {s : List UInt8} (hascii : ∀ b ∈ s, 1 ≤ b ∧ b ≤ 0x7f) (o : Nat) :
    Reads d pe (parseString d) o (encString s) (⟨some o, s.length⟩, PRes.ok) := by
  intro henc hfit
  have hlen : (encString s).length = s.length + 1 := by simp [encString]
  have : Reads d pe (parseString d) o (encString s) (⟨some o, 0 + s.length⟩, PRes.ok) := by
    unfold parseString
    exact .bind0 (.dataPtr (by omega) hpe) (.bindR (parseStringLoop_reads s (d.size + 1) o 0 hascii (by omega)) .pure)
  rw [Nat.zero_add] at this
  exact this henc hfit

end

/-- **Name strings round-trip**: `parseNameString` on the bytes of `encName root carets segs` succeeds, consumes exactly
those bytes, and returns the slice that covers them (without the NullName terminator) -/
theorem name_roundtrip (d : Bytes) (root : Bool) (carets : Nat) (segs : List (List UInt8)) (base pe : Nat)
    (hsz : d.size < 4294967296) (hpe : pe ≤ d.size) (hok : NameOK segs)
    (henc : ∀ i, i < (encName root carets segs).length → d[base + i]? = (encName root carets segs)[i]?)
    (hfit : base + (encName root carets segs).length ≤ pe) :
    parseNameString d { offset := base, pkgEnd := pe } =
      .ok (({ data := some base, len := (encName root carets segs).length - (if segs = [] then 1 else 0) }, .ok),
        { offset := base + (encName root carets segs).length, pkgEnd := pe }) :=
  parseNameString_reads hsz hpe root carets hok base henc hfit

/-- **Strings round-trip**: `parseString` on the bytes of `encString s` (ASCII 1…0x7f, then the terminator) succeeds,
consumes them all, and returns the slice that covers `s` -/
theorem string_roundtrip (d : Bytes) (s : List UInt8) (base pe : Nat) (hpe : pe ≤ d.size)
    (hascii : ∀ b ∈ s, 1 ≤ b ∧ b ≤ 0x7f)
    (henc : ∀ i, i < (encString s).length → d[base + i]? = (encString s)[i]?) (hfit : base + (encString s).length ≤ pe) :
    parseString d { offset := base, pkgEnd := pe } =
      .ok (({ data := some base, len := s.length }, .ok), { offset := base + (encString s).length, pkgEnd := pe }) :=
  parseString_reads hpe hascii base henc hfit

end Firefly.AmlLex
