import Firefly.Spec.C13
import Firefly.Proof.ListLemmas
/-!
Lemmas for C13: single writes to the pool (`setAt`), `localOK` as the proposition `LocalP`, link chains of a
well-formed pool (they exist, so every list walk of the model returns), the list loops, the certificate checker.
-/
namespace Firefly.C13
open Firefly.AmlTree Firefly.AmlTree.ObjectTree

theorem slot_of_lt {t : ObjectTree} {i : Nat} (h : i < t.pool.size) : slot t i = t.pool[i] := by
  simp [slot, h]

theorem obj_eq {t : ObjectTree} {i : Nat} (h : i < t.pool.size) : t.obj i = .ok (slot t i) := by
  simp [ObjectTree.obj, slot, h]

theorem obj_panic {t : ObjectTree} {i : Nat} (h : ¬ i < t.pool.size) : t.obj i = .error .panic := by
  simp [ObjectTree.obj, h]

theorem live_lt {t : ObjectTree} {i : Nat} (h : live t i = true) : i < t.pool.size := by
  simp [live] at h; exact h.1

theorem live_opcode {t : ObjectTree} {i : Nat} (h : live t i = true) : (slot t i).opcode ≠ pOpIntFreedObject := by
  simp [live] at h; exact h.2

theorem objectAt_live {t : ObjectTree} {i : Nat} (h : live t i = true) : t.ObjectAt i = some i := by
  have h1 := live_lt h
  have h2 := live_opcode h
  simp [ObjectTree.ObjectAt, h1]
  simpa [slot, h1] using h2

theorem objectAt_some {t : ObjectTree} {i j : Nat} (h : t.ObjectAt i = some j) : j = i ∧ live t i = true := by
  unfold ObjectTree.ObjectAt at h
  by_cases hi : i < t.pool.size
  · simp [hi] at h
    refine ⟨h.2.symm, ?_⟩
    simp [live, hi, slot]
    exact h.1
  · simp [hi] at h

theorem objectAt_none {t : ObjectTree} {i : Nat} (h : live t i = false) : t.ObjectAt i = none := by
  cases h' : t.ObjectAt i with
  | none => rfl
  | some j => have := (objectAt_some h').2; simp [h] at this

/-- the pure effect of one pointer write -/
def setAt (t : ObjectTree) (i : Nat) (f : Obj → Obj) : ObjectTree :=
  { t with pool := t.pool.modify i f }

theorem upd_eq {t : ObjectTree} {i : Nat} (f : Obj → Obj) (h : i < t.pool.size) :
    t.upd i f = .ok (setAt t i f) := by
  simp only [ObjectTree.upd, h, dite_true, setAt]
  congr 2
  apply Array.ext
  · simp
  · intro j h1 h2
    simp [Array.getElem_set, Array.getElem_modify]
    by_cases hij : i = j
    · subst hij; simp
    · simp [hij]

@[simp] theorem size_setAt (t : ObjectTree) (i : Nat) (f : Obj → Obj) : (setAt t i f).pool.size = t.pool.size := by
  simp [setAt]

@[simp] theorem freeHead_setAt (t : ObjectTree) (i : Nat) (f : Obj → Obj) :
    (setAt t i f).freeListHeadIndex = t.freeListHeadIndex := rfl

theorem slot_setAt' (t : ObjectTree) (i : Nat) (f : Obj → Obj) (j : Nat) :
    slot (setAt t i f) j = if i = j ∧ j < t.pool.size then f (slot t j) else slot t j := by
  simp only [slot, setAt, Array.getElem?_modify]
  by_cases hij : i = j
  · subst hij
    by_cases h : i < t.pool.size
    · simp [h]
    · simp [h]
  · simp [hij]

theorem ext_slot {t1 t2 : ObjectTree} (hs : t1.pool.size = t2.pool.size)
    (hf : t1.freeListHeadIndex = t2.freeListHeadIndex) (h : ∀ j, slot t1 j = slot t2 j) : t1 = t2 := by
  cases t1 with | mk p1 f1 =>
  cases t2 with | mk p2 f2 =>
  simp only at hs hf
  subst hf
  congr 1
  apply Array.ext hs
  intro j h1 h2
  have := h j
  simpa [slot, h1, h2] using this

theorem setAt_id' (t : ObjectTree) (i : Nat) : setAt t i (fun o => o) = t :=
  ext_slot (by simp) rfl (fun j => by simp [slot_setAt'])

theorem setAt_oob (t : ObjectTree) (i : Nat) (f : Obj → Obj) (h : ¬ i < t.pool.size) : setAt t i f = t :=
  ext_slot (by simp) rfl (fun j => by
    rw [slot_setAt', if_neg]
    exact fun c => h (c.1 ▸ c.2))

theorem setAt_setAt (t : ObjectTree) (i : Nat) (f g : Obj → Obj) :
    setAt (setAt t i f) i g = setAt t i fun o => g (f o) :=
  ext_slot (by simp) rfl (fun j => by
    simp only [slot_setAt', size_setAt]
    split <;> rfl)

/-! A field of a slot after one write, and the special case of a write that leaves the field alone.  `P`, `Pv`,
`Nx`, `Fi`, `La` and `live` are stated separately because rewriting does not see through them.  The `_keep` lemmas are
meant for `simp only`, which proves `hf` for a record update of other fields by reducing the projection: with `obj_eq`,
`upd_eq`, `size_setAt` they turn the code of an operation, which reads again after every write, into the writes. -/

section fields
variable {α : Type} (t : ObjectTree) (i : Nat) (f : Obj → Obj) (x : Nat)

theorem proj_setAt (g : Obj → α) :
    g (slot (setAt t i f) x) = if i = x ∧ x < t.pool.size then g (f (slot t x)) else g (slot t x) := by
  rw [slot_setAt']; split <;> rfl

theorem proj_setAt_lt (g : Obj → α) (h : i < t.pool.size) :
    g (slot (setAt t i f) x) = if i = x then g (f (slot t x)) else g (slot t x) := by
  rw [proj_setAt t i f x g]
  by_cases e : i = x
  · rw [if_pos ⟨e, e ▸ h⟩, if_pos e]
  · rw [if_neg fun c => e c.1, if_neg e]

theorem proj_keep (g : Obj → α) (hf : ∀ o, g (f o) = g o) : g (slot (setAt t i f) x) = g (slot t x) := by
  rw [proj_setAt t i f x g]; split
  · exact hf _
  · rfl

theorem P_setAt' : P (setAt t i f) x = if i = x ∧ x < t.pool.size then (f (slot t x)).parentIndex else P t x :=
  proj_setAt t i f x Obj.parentIndex
theorem Pv_setAt' : Pv (setAt t i f) x = if i = x ∧ x < t.pool.size then (f (slot t x)).prevSiblingIndex else Pv t x :=
  proj_setAt t i f x Obj.prevSiblingIndex
theorem Nx_setAt' : Nx (setAt t i f) x = if i = x ∧ x < t.pool.size then (f (slot t x)).nextSiblingIndex else Nx t x :=
  proj_setAt t i f x Obj.nextSiblingIndex
theorem Fi_setAt' : Fi (setAt t i f) x = if i = x ∧ x < t.pool.size then (f (slot t x)).firstArgIndex else Fi t x :=
  proj_setAt t i f x Obj.firstArgIndex
theorem La_setAt' : La (setAt t i f) x = if i = x ∧ x < t.pool.size then (f (slot t x)).lastArgIndex else La t x :=
  proj_setAt t i f x Obj.lastArgIndex

theorem Pv_keep (hf : ∀ o, (f o).prevSiblingIndex = o.prevSiblingIndex) : Pv (setAt t i f) x = Pv t x :=
  proj_keep t i f x Obj.prevSiblingIndex hf
theorem Nx_keep (hf : ∀ o, (f o).nextSiblingIndex = o.nextSiblingIndex) : Nx (setAt t i f) x = Nx t x :=
  proj_keep t i f x Obj.nextSiblingIndex hf
theorem La_keep (hf : ∀ o, (f o).lastArgIndex = o.lastArgIndex) : La (setAt t i f) x = La t x :=
  proj_keep t i f x Obj.lastArgIndex hf
theorem idx_keep (hf : ∀ o, (f o).index = o.index) : (slot (setAt t i f) x).index = (slot t x).index :=
  proj_keep t i f x Obj.index hf
theorem live_keep (hf : ∀ o, (f o).opcode = o.opcode) : live (setAt t i f) x = live t x := by
  simp only [live, size_setAt, proj_keep t i f x Obj.opcode hf]

theorem Pv_ne (h : i ≠ x) : Pv (setAt t i f) x = Pv t x := by rw [Pv_setAt', if_neg fun c => h c.1]
theorem Nx_self (h : i < t.pool.size) : Nx (setAt t i f) i = (f (slot t i)).nextSiblingIndex := by
  rw [Nx_setAt', if_pos ⟨rfl, h⟩]

end fields

/-! the link fields of a slot, folded back into `P` … `La` after a write has been computed -/
theorem slot_p (t : ObjectTree) (x : Nat) : (slot t x).parentIndex = P t x := rfl
theorem slot_pv (t : ObjectTree) (x : Nat) : (slot t x).prevSiblingIndex = Pv t x := rfl
theorem slot_nx (t : ObjectTree) (x : Nat) : (slot t x).nextSiblingIndex = Nx t x := rfl
theorem slot_fi (t : ObjectTree) (x : Nat) : (slot t x).firstArgIndex = Fi t x := rfl
theorem slot_la (t : ObjectTree) (x : Nat) : (slot t x).lastArgIndex = La t x := rfl

/-- `l` is the list of positions visited from `i` by following `step` until the sentinel, all live -/
def Chain (t : ObjectTree) (step : Nat → Nat) : Nat → List Nat → Prop
  | i, [] => i = INV
  | i, x :: xs => i = x ∧ live t x = true ∧ Chain t step (step x) xs

theorem live_ne_INV {t : ObjectTree} (hs : t.pool.size ≤ INV) {i : Nat} (h : live t i = true) : i ≠ INV := by
  have := live_lt h; omega

/-- a walk along links that go strictly up in a strict order visits each pool position at most once, so it
ends within `pool.size` steps -/
theorem chain_exists (t : ObjectTree) (step : Nat → Nat) (lt : Nat → Nat → Prop)
    (irr : ∀ a, ¬ lt a a) (tr : ∀ a b c, lt a b → lt b c → lt a c)
    (hstep : ∀ i, live t i = true → step i = INV ∨ live t (step i) = true)
    (hr : ∀ i, live t i = true → step i ≠ INV → lt i (step i)) :
    ∀ (k : Nat) (V : List Nat) (i : Nat), V.Nodup → (∀ v ∈ V, v < t.pool.size ∧ lt v i) →
      live t i = true → V.length + k = t.pool.size → ∃ l, Chain t step i l ∧ l.length ≤ k := by
  intro k
  induction k with
  | zero =>
    intro V i hd hV hl hk
    exfalso
    have hnd : (i :: V).Nodup := List.nodup_cons.2 ⟨fun hm => irr _ (hV i hm).2, hd⟩
    have := nodup_lt_length hnd (List.forall_mem_cons.2 ⟨live_lt hl, fun x hx => (hV x hx).1⟩)
    simp at this; omega
  | succ k ih =>
    intro V i hd hV hl hk
    by_cases h0 : step i = INV
    · exact ⟨[i], ⟨rfl, hl, h0⟩, by simp⟩
    · have hlt := hr i hl h0
      have hnd : (i :: V).Nodup := List.nodup_cons.2 ⟨fun hm => irr _ (hV i hm).2, hd⟩
      obtain ⟨l, hc, hlen⟩ := ih (i :: V) (step i) hnd (by
        intro v hv
        rcases List.mem_cons.1 hv with rfl | hv
        · exact ⟨live_lt hl, hlt⟩
        · exact ⟨(hV v hv).1, tr _ _ _ (hV v hv).2 hlt⟩) ((hstep i hl).resolve_left h0) (by simp; omega)
      exact ⟨i :: l, ⟨rfl, hl, hc⟩, by simp; omega⟩

theorem chain_lt {t : ObjectTree} {step : Nat → Nat} (hs : t.pool.size ≤ INV) (lt : Nat → Nat → Prop)
    (tr : ∀ a b c, lt a b → lt b c → lt a c) (hr : ∀ i, live t i = true → step i ≠ INV → lt i (step i)) :
    ∀ (l : List Nat) (a : Nat), Chain t step a (a :: l) → ∀ y ∈ l, lt a y := by
  intro l
  induction l with
  | nil => intro a _ y hy; cases hy
  | cons z zs ih =>
    intro a hc y hy
    obtain ⟨_, hl, hc'⟩ := hc
    obtain ⟨hz, hzl, _⟩ := id hc'
    have h1 := hr a hl (by rw [hz]; exact live_ne_INV hs hzl)
    rw [hz] at h1
    rcases List.mem_cons.1 hy with rfl | hy
    · exact h1
    · exact tr _ _ _ h1 (ih z (hz ▸ hc') y hy)

theorem chain_nodup_of_lt {t : ObjectTree} {step : Nat → Nat} (hs : t.pool.size ≤ INV) (lt : Nat → Nat → Prop)
    (irr : ∀ a, ¬ lt a a) (tr : ∀ a b c, lt a b → lt b c → lt a c)
    (hr : ∀ i, live t i = true → step i ≠ INV → lt i (step i)) :
    ∀ (l : List Nat) (a : Nat), Chain t step a l → l.Nodup := by
  intro l
  induction l with
  | nil => intro _ _; exact List.nodup_nil
  | cons y ys ih =>
    intro a hc
    obtain ⟨rfl, _, hc'⟩ := id hc
    exact List.nodup_cons.2 ⟨fun hm => irr _ (chain_lt hs lt tr hr ys a hc a hm), ih _ hc'⟩

/-- Induction for a loop of the model that follows `step` with fuel: its value at the sentinel, and its
unfolding at a live position in terms of its value at the next one. -/
theorem Chain.walk {t : ObjectTree} {step : Nat → Nat} (hs : t.pool.size ≤ INV)
    {motive : Nat → Nat → List Nat → Prop} (nil : ∀ f, motive f INV [])
    (cons : ∀ f i xs, live t i = true → i ≠ InvalidIndex → Chain t step (step i) xs → motive f (step i) xs →
      motive (f + 1) i (i :: xs)) :
    ∀ (l : List Nat) (f i : Nat), Chain t step i l → l.length ≤ f → motive f i l := by
  intro l
  induction l with
  | nil => intro f i hc _; rw [show i = INV from hc]; exact nil f
  | cons x xs ih =>
    intro f i hc hf
    obtain ⟨rfl, hl, hc'⟩ := hc
    cases f with
    | zero => simp at hf
    | succ f => exact cons f i xs hl (live_ne_INV hs hl) hc' (ih f _ hc' (by simpa using hf))

theorem chain_mem_live {t : ObjectTree} {step : Nat → Nat} :
    ∀ (l : List Nat) (i : Nat), Chain t step i l → ∀ x ∈ l, live t x = true := by
  intro l
  induction l with
  | nil => intro _ _ x hx; cases hx
  | cons y ys ih =>
    intro i hc x hx
    rcases List.mem_cons.1 hx with rfl | hx
    · exact hc.2.1
    · exact ih _ hc.2.2 x hx

theorem chain_congr {t t' : ObjectTree} {step step' : Nat → Nat} :
    ∀ (l : List Nat) (a : Nat), Chain t step a l →
      (∀ x ∈ l, live t' x = true ∧ step' x = step x) → Chain t' step' a l := by
  intro l
  induction l with
  | nil => intro a h _; exact h
  | cons y ys ih =>
    intro a hc hs
    obtain ⟨rfl, _, hc'⟩ := hc
    have := hs a (by simp)
    refine ⟨rfl, this.1, ?_⟩
    rw [this.2]
    exact ih _ hc' (fun x hx => hs x (by simp [hx]))

theorem linkOK_iff {t : ObjectTree} {x : Nat} : linkOK t x = true ↔ x = INV ∨ live t x = true := by
  simp [linkOK]

/-- `localOK` as a proposition -/
structure LocalP (t : ObjectTree) (i : Nat) : Prop where
  lp : P t i = INV ∨ live t (P t i) = true
  lpv : Pv t i = INV ∨ live t (Pv t i) = true
  lnx : Nx t i = INV ∨ live t (Nx t i) = true
  lfi : Fi t i = INV ∨ live t (Fi t i) = true
  lla : La t i = INV ∨ live t (La t i) = true
  det : P t i = INV → Pv t i = INV ∧ Nx t i = INV
  pv : Pv t i ≠ INV → Nx t (Pv t i) = i ∧ P t (Pv t i) = P t i
  nx : Nx t i ≠ INV → Pv t (Nx t i) = i ∧ P t (Nx t i) = P t i
  first : P t i ≠ INV → Pv t i = INV → Fi t (P t i) = i
  last : P t i ≠ INV → Nx t i = INV → La t (P t i) = i
  fi : Fi t i ≠ INV → P t (Fi t i) = i ∧ Pv t (Fi t i) = INV
  la : La t i ≠ INV → P t (La t i) = i ∧ Nx t (La t i) = INV
  ends : Fi t i = INV ↔ La t i = INV

theorem localOK_iff (t : ObjectTree) (i : Nat) : localOK t i = true ↔ LocalP t i := by
  simp only [localOK, Bool.and_eq_true, Bool.or_eq_true, decide_eq_true_eq, ne_eq,
    decide_not, Bool.not_eq_true', decide_eq_false_iff_not, beq_iff_eq, decide_eq_decide, linkOK_iff]
  constructor
  · rintro ⟨⟨⟨⟨⟨⟨⟨⟨⟨⟨⟨⟨a1, a2⟩, a3⟩, a4⟩, a5⟩, c1⟩, c2⟩, c3⟩, c4⟩, c5⟩, c6⟩, c7⟩, c8⟩
    exact ⟨a1, a2, a3, a4, a5, fun h => c1.resolve_left fun n => n h, c2.resolve_left, c3.resolve_left,
      fun hp hv => c4.resolve_left fun h => h.elim hp fun n => n hv,
      fun hp hn => c5.resolve_left fun h => h.elim hp fun n => n hn, c6.resolve_left, c7.resolve_left, c8⟩
  · rintro ⟨a1, a2, a3, a4, a5, c1, c2, c3, c4, c5, c6, c7, c8⟩
    have imp : ∀ {a b : Prop} [Decidable a], (¬a → b) → a ∨ b := Decidable.or_iff_not_imp_left.2
    exact ⟨⟨⟨⟨⟨⟨⟨⟨⟨⟨⟨⟨a1, a2⟩, a3⟩, a4⟩, a5⟩, Decidable.not_or_of_imp c1⟩, imp c2⟩, imp c3⟩,
      imp fun h => c4 (fun e => h (Or.inl e)) (Decidable.not_not.1 fun e => h (Or.inr e))⟩,
      imp fun h => c5 (fun e => h (Or.inl e)) (Decidable.not_not.1 fun e => h (Or.inr e))⟩, imp c6⟩, imp c7⟩, c8⟩

theorem LocalP.targets {t : ObjectTree} {i : Nat} (lp : LocalP t i) :
    ∀ x ∈ [P t i, Pv t i, Nx t i, Fi t i, La t i], x = INV ∨ live t x = true := by
  simp only [List.forall_mem_cons]
  exact ⟨lp.lp, lp.lpv, lp.lnx, lp.lfi, lp.lla, fun _ h => nomatch h⟩

/-- `LocalP` at `i` reads the pool at `i` and at the targets of its five links only -/
theorem LocalP.of_agree {t t' : ObjectTree} {n i : Nat} (lp : LocalP t i)
    (same : ∀ x, x ≠ n → slot t' x = slot t x) (lv : ∀ x, x ≠ n → live t' x = live t x)
    (hn : ∀ y ∈ [i, P t i, Pv t i, Nx t i, Fi t i, La t i], y ≠ n) : LocalP t' i := by
  have e : ∀ y ∈ [i, P t i, Pv t i, Nx t i, Fi t i, La t i], P t' y = P t y ∧ Pv t' y = Pv t y ∧
      Nx t' y = Nx t y ∧ Fi t' y = Fi t y ∧ La t' y = La t y ∧ live t' y = live t y :=
    fun y hy => by simp only [P, Pv, Nx, Fi, La, same y (hn y hy), lv y (hn y hy), and_self]
  simp only [List.forall_mem_cons] at e
  obtain ⟨e0, e1, e2, e3, e4, e5, -⟩ := e
  obtain ⟨c1, c2, c3, c4, c5, c6, c7, c8, c9, c10, c11, c12, c13⟩ := lp
  constructor <;> simp only [e0, e1, e2, e3, e4, e5] <;> assumption

theorem WF.lP {t : ObjectTree} (w : WF t) {i : Nat} (h : live t i = true) : LocalP t i :=
  (localOK_iff t i).1 (w.loc i h)

section links
variable {t : ObjectTree} (w : WF t) {x : Nat} (hx : live t x = true)
include w hx

theorem WF.live_p (h : P t x ≠ INV) : live t (P t x) = true := (w.lP hx).lp.resolve_left h
theorem WF.live_pv (h : Pv t x ≠ INV) : live t (Pv t x) = true := (w.lP hx).lpv.resolve_left h
theorem WF.live_nx (h : Nx t x ≠ INV) : live t (Nx t x) = true := (w.lP hx).lnx.resolve_left h
theorem WF.live_fi (h : Fi t x ≠ INV) : live t (Fi t x) = true := (w.lP hx).lfi.resolve_left h
theorem WF.live_la (h : La t x ≠ INV) : live t (La t x) = true := (w.lP hx).lla.resolve_left h

theorem WF.la_ne (h : Fi t x ≠ INV) : La t x ≠ INV := fun e => h ((w.lP hx).ends.2 e)

theorem WF.fi_child : Fi t x = INV ∨ (live t (Fi t x) = true ∧ P t (Fi t x) = x) :=
  if h : Fi t x = INV then .inl h else .inr ⟨w.live_fi hx h, ((w.lP hx).fi h).1⟩
theorem WF.la_child : La t x = INV ∨ (live t (La t x) = true ∧ P t (La t x) = x) :=
  if h : La t x = INV then .inl h else .inr ⟨w.live_la hx h, ((w.lP hx).la h).1⟩
theorem WF.nx_sib : Nx t x = INV ∨ (live t (Nx t x) = true ∧ P t (Nx t x) = P t x) :=
  if h : Nx t x = INV then .inl h else .inr ⟨w.live_nx hx h, ((w.lP hx).nx h).2⟩
theorem WF.pv_sib : Pv t x = INV ∨ (live t (Pv t x) = true ∧ P t (Pv t x) = P t x) :=
  if h : Pv t x = INV then .inl h else .inr ⟨w.live_pv hx h, ((w.lP hx).pv h).2⟩

/-- no link of a live object leads to a parentless object: a first or last argument has the object as parent, a sibling the
object's parent, and a parentless object has no siblings -/
theorem WF.not_target {a : Nat} (ha : a ≠ INV) (hp : P t a = INV) :
    Pv t x ≠ a ∧ Nx t x ≠ a ∧ Fi t x ≠ a ∧ La t x ≠ a := by
  have lp := w.lP hx
  have hxi := live_ne_INV w.size_le hx
  have hpx : Pv t x ≠ INV ∨ Nx t x ≠ INV → P t x ≠ INV := fun h e => h.elim (· (lp.det e).1) (· (lp.det e).2)
  refine ⟨fun e => ?_, fun e => ?_, fun e => ?_, fun e => ?_⟩
  · exact hpx (.inl (e ▸ ha)) (by rw [← (lp.pv (e ▸ ha)).2, e, hp])
  · exact hpx (.inr (e ▸ ha)) (by rw [← (lp.nx (e ▸ ha)).2, e, hp])
  · exact hxi (by rw [← (lp.fi (e ▸ ha)).1, e, hp])
  · exact hxi (by rw [← (lp.la (e ▸ ha)).1, e, hp])

end links

theorem WF.P_ne_self {t : ObjectTree} (w : WF t) {x : Nat} (hx : live t x = true) : P t x ≠ x := by
  obtain ⟨rk, hrk⟩ := w.rank
  intro e
  have := hrk x hx (by rw [e]; exact live_ne_INV w.size_le hx)
  rw [e] at this; omega

theorem WF.Nx_ne_self {t : ObjectTree} (w : WF t) {x : Nat} (hx : live t x = true) : Nx t x ≠ x := by
  obtain ⟨pos, hpos⟩ := w.order
  intro e
  have := hpos x hx (by rw [e]; exact live_ne_INV w.size_le hx)
  rw [e] at this; omega

theorem WF.P_P_ne {t : ObjectTree} (w : WF t) {x y : Nat} (hx : live t x = true) (hy : live t y = true)
    (hxy : P t x = y) : P t y ≠ x := by
  obtain ⟨rk, hrk⟩ := w.rank
  intro e
  have h1 := hrk x hx (by rw [hxy]; exact live_ne_INV w.size_le hy)
  have h2 := hrk y hy (by rw [e]; exact live_ne_INV w.size_le hx)
  rw [hxy] at h1; rw [e] at h2; omega

theorem WF.sibChain {t : ObjectTree} (w : WF t) (i : Nat) (h : i = INV ∨ live t i = true) :
    ∃ l, Chain t (Nx t) i l ∧ l.length ≤ t.pool.size := by
  by_cases h0 : i = INV
  · exact ⟨[], h0, by simp⟩
  · have hl : live t i = true := h.resolve_left h0
    obtain ⟨pos, hpos⟩ := w.order
    exact chain_exists t (Nx t) (fun a b => pos a < pos b) (fun _ => Nat.lt_irrefl _) (fun _ _ _ => Nat.lt_trans)
      (fun j hj => (w.lP hj).lnx) hpos t.pool.size [] i (by simp) (by simp) hl (by simp)

theorem WF.parChain {t : ObjectTree} (w : WF t) (i : Nat) (h : i = INV ∨ live t i = true) :
    ∃ l, Chain t (P t) i l ∧ l.length ≤ t.pool.size := by
  by_cases h0 : i = INV
  · exact ⟨[], h0, by simp⟩
  · have hl : live t i = true := h.resolve_left h0
    obtain ⟨rk, hrk⟩ := w.rank
    exact chain_exists t (P t) (fun a b => rk b < rk a) (fun _ => Nat.lt_irrefl _)
      (fun _ _ _ h1 h2 => Nat.lt_trans h2 h1)
      (fun j hj => (w.lP hj).lp) hrk t.pool.size [] i (by simp) (by simp) hl (by simp)

theorem deref_some (i : Nat) : deref (some i) = .ok i := rfl

theorem WF.chain_parent {t : ObjectTree} (w : WF t) :
    ∀ (l : List Nat) (i p : Nat), Chain t (Nx t) i l → (i ≠ INV → P t i = p) → ∀ k ∈ l, live t k = true ∧ P t k = p := by
  intro l
  induction l with
  | nil => intro i p _ _ k hk; simp at hk
  | cons x xs ih =>
    intro i p hc hp k hk
    obtain ⟨rfl, hl, hc'⟩ := hc
    have hi := hp (live_ne_INV w.size_le hl)
    rcases List.mem_cons.1 hk with rfl | hk
    · exact ⟨hl, hi⟩
    · exact ih (Nx t i) p hc' (fun hne => by rw [((w.lP hl).nx hne).2, hi]) k hk

/-- a lookup result: the sentinel or a live position satisfying `I` -/
def GoodIn (t : ObjectTree) (I : Nat → Prop) (r : Res Nat) : Prop :=
  ∃ i, r = .ok i ∧ (i = INV ∨ (live t i = true ∧ I i))

/-- a lookup result: the sentinel or a live position -/
def GoodIdx (t : ObjectTree) (r : Res Nat) : Prop := ∃ i, r = .ok i ∧ (i = INV ∨ live t i = true)

theorem GoodIn.idx {t : ObjectTree} {I : Nat → Prop} {r : Res Nat} : GoodIn t I r → GoodIdx t r :=
  fun ⟨i, e, h⟩ => ⟨i, e, h.imp_right And.left⟩

theorem kidsLoop_eq {t : ObjectTree} (hs : t.pool.size ≤ INV) :
    ∀ (l : List Nat) (f i : Nat), Chain t (Nx t) i l → l.length ≤ f → kidsLoop t f i = .ok l :=
  Chain.walk hs (motive := fun f i l => kidsLoop t f i = .ok l)
    (fun f => by cases f <;> simp [kidsLoop, INV])
    (fun f i xs hl hne _ ih => by
      simp only [Nx] at ih
      simp [kidsLoop, hne, objectAt_live hl, deref_some, obj_eq (live_lt hl), bind, Except.bind, ih, pure,
        Except.pure])

theorem countLoop_eq {t : ObjectTree} (hs : t.pool.size ≤ INV) :
    ∀ (l : List Nat) (f i acc : Nat), Chain t (Nx t) i l → l.length ≤ f →
      countLoop t f i acc = .ok (acc + l.length) := fun l f i acc hc hf =>
  Chain.walk hs (motive := fun f i l => ∀ acc, countLoop t f i acc = .ok (acc + l.length))
    (fun f acc => by cases f <;> simp [countLoop, INV])
    (fun f i xs hl hne _ ih acc => by
      simp only [Nx] at ih
      simp only [countLoop, hne, if_false, objectAt_live hl, deref_some, obj_eq (live_lt hl), bind, Except.bind, ih,
        List.length_cons, Nat.add_assoc, Nat.add_comm 1])
    l f i hc hf acc

theorem argLoop_eq {t : ObjectTree} (hs : t.pool.size ≤ INV) (index : Nat) :
    ∀ (l : List Nat) (f i a : Nat), Chain t (Nx t) i l → l.length ≤ f → a ≤ index →
      argLoop t index f i a = .ok (l[index - a]?) := fun l f i a hc hf =>
  Chain.walk hs (motive := fun f i l => ∀ a, a ≤ index → argLoop t index f i a = .ok (l[index - a]?))
    (fun f a _ => by cases f <;> simp [argLoop, INV])
    (fun f i xs hl hne _ ih a ha => by
      by_cases he : a = index
      · subst he
        simp [argLoop, hne, objectAt_live hl]
      · have := ih (a + 1) (by omega)
        simp only [Nx] at this
        have hidx : index - a = (index - (a + 1)) + 1 := by omega
        simp [argLoop, hne, he, objectAt_live hl, deref_some, obj_eq (live_lt hl), bind, Except.bind, this, hidx])
    l f i hc hf a

theorem WF.args_eq {t : ObjectTree} (w : WF t) {i : Nat} (hl : live t i = true) :
    Chain t (Nx t) (Fi t i) ((abs t).kids i) ∧ t.args i = .ok ((abs t).kids i) ∧ ((abs t).kids i).length ≤ t.pool.size := by
  obtain ⟨l, hc, hlen⟩ := w.sibChain (Fi t i) (w.lP hl).lfi
  have := kidsLoop_eq w.size_le l t.fuel _ hc (by simp [ObjectTree.fuel]; omega)
  simp only [Fi] at this
  have ha : t.args i = .ok l := by simp [ObjectTree.args, obj_eq (live_lt hl), bind, Except.bind, this]
  have hk : (abs t).kids i = l := by simp [abs, ha]
  rw [hk]
  exact ⟨hc, ha, hlen⟩

theorem WF.numArgs_eq {t : ObjectTree} (w : WF t) {i : Nat} (hl : live t i = true) :
    t.NumArgs (some i) = .ok ((abs t).kids i).length := by
  obtain ⟨hc, -, hlen⟩ := w.args_eq hl
  have := countLoop_eq w.size_le _ t.fuel _ 0 hc (by simp [ObjectTree.fuel]; omega)
  simp only [Fi] at this
  simp [ObjectTree.NumArgs, obj_eq (live_lt hl), bind, Except.bind, this]

theorem WF.argAt_eq {t : ObjectTree} (w : WF t) {i : Nat} (k : Nat) (hl : live t i = true) :
    t.ArgAt (some i) k = .ok (((abs t).kids i)[k]?) := by
  obtain ⟨hc, -, hlen⟩ := w.args_eq hl
  have := argLoop_eq w.size_le k _ t.fuel _ 0 hc (by simp [ObjectTree.fuel]; omega) (by omega)
  simp only [Fi] at this
  simp [ObjectTree.ArgAt, obj_eq (live_lt hl), bind, Except.bind, this]

theorem closestLoop_mem {t : ObjectTree} (hs : t.pool.size ≤ INV) (named : Nat → Option Bool)
    (hn : ∀ i, live t i = true → (named (slot t i).infoIndex).isSome = true) :
    ∀ (l : List Nat) (f a : Nat), Chain t (P t) a l → l.length ≤ f →
      ∃ r, closestLoop named t f a = .ok r ∧ (r = INV ∨ r ∈ l) :=
  Chain.walk hs (motive := fun f a l => ∃ r, closestLoop named t f a = .ok r ∧ (r = INV ∨ r ∈ l))
    (fun f => by cases f <;> exact ⟨INV, by simp [closestLoop, INV], Or.inl rfl⟩)
    (fun f a xs hl hne _ ih => by
      simp only [closestLoop, hne, if_false, objectAt_live hl, deref_some, obj_eq (live_lt hl), bind, Except.bind]
      by_cases hsc : (slot t a).opcode = pOpScope
      · simp only [hsc, if_true]; exact ⟨_, rfl, Or.inl rfl⟩
      · simp only [hsc, if_false]
        have := hn a hl
        cases hnm : named (slot t a).infoIndex with
        | none => simp [hnm] at this
        | some b =>
          cases b with
          | true => exact ⟨a, rfl, Or.inr (List.mem_cons_self ..)⟩
          | false => exact ih.imp fun r hr => ⟨hr.1, hr.2.imp_right (List.mem_cons_of_mem _)⟩)

theorem WF.closestNamedAncestor_mem {t : ObjectTree} (w : WF t) (named : Nat → Option Bool)
    (hn : ∀ i, live t i = true → (named (slot t i).infoIndex).isSome = true) {i : Nat} (hl : live t i = true) :
    ∃ l r, Chain t (P t) (P t i) l ∧ t.ClosestNamedAncestor named (some i) = .ok r ∧ (r = INV ∨ r ∈ l) := by
  obtain ⟨l, hc, hlen⟩ := w.parChain (P t i) (w.lP hl).lp
  obtain ⟨r, er, hr⟩ := closestLoop_mem w.size_le named hn l t.fuel _ hc (by simp [ObjectTree.fuel]; omega)
  exact ⟨l, r, hc, by simpa [ObjectTree.ClosestNamedAncestor, obj_eq (live_lt hl), bind, Except.bind, P] using er, hr⟩

theorem WF.closestNamedAncestor_ok {t : ObjectTree} (w : WF t) (named : Nat → Option Bool)
    (hn : ∀ i, live t i = true → (named (slot t i).infoIndex).isSome = true) {i : Nat} (hl : live t i = true) :
    GoodIdx t (t.ClosestNamedAncestor named (some i)) := by
  obtain ⟨l, r, hc, er, hr⟩ := w.closestNamedAncestor_mem named hn hl
  exact ⟨r, er, hr.imp_right (chain_mem_live l _ hc r)⟩

theorem freeChainB_iff (t : ObjectTree) : ∀ (fl : List Nat) (h : Nat), freeChainB t h fl = true ↔ FreeChain t h fl := by
  intro fl
  induction fl with
  | nil => intro h; simp [freeChainB, FreeChain]
  | cons x xs ih =>
    intro h
    simp only [freeChainB, FreeChain, Bool.and_eq_true, decide_eq_true_eq, Bool.not_eq_true', ih]
    constructor
    · rintro ⟨⟨⟨a, b⟩, c⟩, d⟩; exact ⟨a, b, c, d⟩
    · rintro ⟨a, b, c, d⟩; exact ⟨⟨⟨a, b⟩, c⟩, d⟩

theorem wfCert_sound' {t : ObjectTree} {rk pos : Array Nat} {fl : List Nat}
    (h : wfCert t rk pos fl = true) : WF t := by
  simp only [wfCert, Bool.and_eq_true, decide_eq_true_eq, List.all_eq_true, List.mem_range] at h
  obtain ⟨⟨hs, hall⟩, hfree⟩ := h
  have hfree := (freeChainB_iff t fl _).1 hfree
  refine ⟨hs, ?_, ?_, ⟨fun i => rk.getD i 0, ?_⟩, ⟨fun i => pos.getD i 0, ?_⟩, ⟨fl, hfree, ?_⟩⟩
  · intro i hi
    have := (hall i hi).1
    simpa using this
  · intro i hl
    have := (hall i (live_lt hl)).2
    simp only [hl, if_true, Bool.and_eq_true] at this
    exact this.1.1
  · intro i hl hp
    have := (hall i (live_lt hl)).2
    simp only [hl, if_true, Bool.and_eq_true, Bool.or_eq_true, decide_eq_true_eq] at this
    rcases this.1.2 with h | h
    · exact absurd h hp
    · exact h
  · intro i hl hp
    have := (hall i (live_lt hl)).2
    simp only [hl, if_true, Bool.and_eq_true, Bool.or_eq_true, decide_eq_true_eq] at this
    rcases this.2 with h | h
    · exact absurd h hp
    · exact h
  · intro i hi hl
    have := (hall i hi).2
    simp only [hl, Bool.false_eq_true, if_false] at this
    simpa using this

theorem freeChain_head {t : ObjectTree} (hs : t.pool.size ≤ INV) {h : Nat} {fl : List Nat} (hc : FreeChain t h fl) :
    (h = INV ↔ fl = []) ∧ (h ≠ INV → h < t.pool.size ∧ live t h = false) := by
  cases fl with
  | nil => exact ⟨⟨fun _ => rfl, fun _ => hc⟩, fun hne => absurd hc hne⟩
  | cons x xs =>
    obtain ⟨rfl, hx, hl, _⟩ := hc
    refine ⟨⟨fun e => ?_, fun e => by cases e⟩, fun _ => ⟨hx, hl⟩⟩
    have : h ≠ INV := by omega
    exact absurd e this

end Firefly.C13
