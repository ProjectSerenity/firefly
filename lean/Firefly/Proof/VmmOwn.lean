import Firefly.Proof.VmmMap
/-! Ownership of page-table frames (a ghost map frame ↦ (level, index prefix)) and the abstract address space `hwEntry`
(the present 4 KiB leaf entry the hardware reaches for an address). Then the two memory updates `Map`/`Unmap` perform on a
page-table tree, storing a leaf entry and linking a new empty table: both preserve ownership, and their effect on the abstract
address space is read off `hwEntry_wr`, the frame rule for a store at one position of the tree. -/

namespace Firefly.Vmm
open Firefly.Gen.C04

/-- the table indices of `va` above level `L` -/
def idxs (va : W) (L : Nat) : List Nat := (List.range L).map (kidx va)

theorem idxs_succ (va : W) (L : Nat) : idxs va (L + 1) = idxs va L ++ [kidx va L] := by
  simp [idxs, List.range_succ]

theorem idxs_eq_iff (va va' : W) (L : Nat) : idxs va L = idxs va' L ↔ ∀ k, k < L → kidx va k = kidx va' k := by
  induction L with
  | zero => simp [idxs]
  | succ L ih =>
    rw [idxs_succ, idxs_succ]
    constructor
    · intro h
      have h' := List.append_inj h (by simp [idxs])
      intro k hk
      by_cases hkl : k < L
      · exact ih.1 h'.1 k hkl
      · have : k = L := by omega
        subst this; simpa using h'.2
    · intro h
      rw [ih.2 (fun k hk => h k (by omega)), h L (by omega)]

/-- pages outside the recursive slot -/
def UserVA (va : W) : Prop := kidx va 0 ≠ 511

abbrev Own := Nat → Option (Nat × List Nat)

/-- `own` assigns to every frame of the page-table tree rooted at `R` its level and index prefix;
distinct positions are distinct frames (a tree), every present upper-level entry points to the owned
child, every owned non-root table is linked from its parent, upper-level entries never carry the
huge-page bit, tables are RAM. -/
structure Owned (m : Mem) (R : W) (own : Own) : Prop where
  root : own (frameN R) = some (0, [])
  inj : ∀ F G x, own F = some x → own G = some x → F = G
  backed : ∀ F x, own F = some x → m.backed F = true
  level : ∀ F L pre, own F = some (L, pre) → L ≤ 3
  nohuge : ∀ F L pre i, own F = some (L, pre) → L < 3 → m.rd F i &&& 128#64 = 0#64
  child : ∀ F L pre i, own F = some (L, pre) → L < 3 → ¬(L = 0 ∧ i = 511) → m.rd F i &&& 1#64 ≠ 0#64 →
    own (frameN (m.rd F i &&& hwMask)) = some (L + 1, pre ++ [i])
  parent : ∀ G L pre', own G = some (L + 1, pre') → ∃ F pre i, pre' = pre ++ [i] ∧ own F = some (L, pre) ∧
    ¬(L = 0 ∧ i = 511) ∧ m.rd F i &&& 1#64 ≠ 0#64 ∧ frameN (m.rd F i &&& hwMask) = G

theorem chain_own {m : Mem} {R : W} {own : Own} (ho : Owned m R own) {va : W} (hu : UserVA va) :
    ∀ (L : Nat) (T : W), L ≤ 3 → Chain m R va L T → own (frameN T) = some (L, idxs va L) := by
  intro L
  induction L with
  | zero => intro T _ h; simp only [Chain] at h; subst h; simpa [idxs] using ho.root
  | succ L ih =>
    intro T hL h
    obtain ⟨T0, hc, l⟩ := h
    have h0 := ih T0 (by omega) hc
    have := ho.child (frameN T0) L (idxs va L) (kidx va L) h0 (by omega) (fun hh => hu (by rw [← hh.1]; exact hh.2)) l.present
    rw [l.next] at this
    rw [this, idxs_succ]

/-- a frame sits at one position of the tree: two paths that meet the same frame do so at the same level,
with the same indices above it -/
theorem chain_meet {m : Mem} {R : W} {own : Own} (ho : Owned m R own) {va va' : W} (hu : UserVA va) (hu' : UserVA va')
    {L k : Nat} {T T' : W} (hL : L ≤ 3) (hk : k ≤ 3) (hc : Chain m R va L T) (hc' : Chain m R va' k T')
    (he : frameN T' = frameN T) : k = L ∧ idxs va' k = idxs va L := by
  have o := chain_own ho hu L T hL hc
  have o' := chain_own ho hu' k T' hk hc'
  rw [he, o] at o'
  simpa [eq_comm] using o'

/-- walk of the tables, as the hardware does it for 4 KiB pages, returning the present leaf entry -/
def entWalk (m : Mem) (va : W) : List Nat → W → Option W
  | [], _ => none
  | L :: rest, T =>
    if m.backed (frameN T) = false then none else
    if m.rd (frameN T) (kidx va L) &&& 1#64 = 0#64 then none else
    match rest with
    | [] => some (m.rd (frameN T) (kidx va L))
    | _ :: _ =>
      if m.rd (frameN T) (kidx va L) &&& 128#64 ≠ 0#64 then none
      else entWalk m va rest (m.rd (frameN T) (kidx va L) &&& hwMask)

/-- **The abstract address space** rooted at `R`: the present leaf entry (frame field + flag bits) the
hardware reaches for `va`, `none` if any level is missing. -/
def hwEntry (m : Mem) (R va : W) : Option W := entWalk m va (lv 0) R

theorem entWalk_link {m : Mem} {va : W} {L L' : Nat} {rest : List Nat} {T T' : W} (h : Link m T (kidx va L) T') :
    entWalk m va (L :: L' :: rest) T = entWalk m va (L' :: rest) T' := by
  rw [entWalk]
  simp [h.backed, h.present, h.nohuge, h.next]

theorem entWalk_absent {m : Mem} {va : W} {L : Nat} {rest : List Nat} {T : W}
    (h : m.rd (frameN T) (kidx va L) &&& 1#64 = 0#64) : entWalk m va (L :: rest) T = none := by
  cases rest <;> simp [entWalk, h]

theorem entWalk_last {m : Mem} {va : W} {T : W} (hb : m.backed (frameN T) = true) :
    entWalk m va [3] T =
      if m.rd (frameN T) (kidx va 3) &&& 1#64 = 0#64 then none else some (m.rd (frameN T) (kidx va 3)) := by
  simp [entWalk, hb]

theorem entWalk_chain {m : Mem} {R va : W} : ∀ (L : Nat) (T : W), L ≤ 3 → Chain m R va L T →
    hwEntry m R va = entWalk m va (lv L) T := by
  intro L
  induction L with
  | zero => intro T _ h; simp only [Chain] at h; subst h; rfl
  | succ L ih =>
    intro T hL h
    obtain ⟨T0, hc, l⟩ := h
    rw [ih T0 (by omega) hc, lv_cons L (by omega), lv_cons (L + 1) hL, entWalk_link l]

theorem hwEntry_absent_at {m : Mem} {R va : W} {L : Nat} {T : W} (hL : L ≤ 3) (hc : Chain m R va L T)
    (hp : m.rd (frameN T) (kidx va L) &&& 1#64 = 0#64) : hwEntry m R va = none := by
  rw [entWalk_chain L T hL hc, lv_cons L hL, entWalk_absent hp]

theorem entWalk_cons_congr {m m' : Mem} (hbk : ∀ f, m'.backed f = m.backed f) (va va' : W) (L L' : Nat)
    (rest : List Nat) (T : W)
    (hr : m'.rd (frameN T) (kidx va' L) = m.rd (frameN T) (kidx va L))
    (hrec : Link m T (kidx va L) (m.rd (frameN T) (kidx va L) &&& hwMask) →
      entWalk m' va' (L' :: rest) (m.rd (frameN T) (kidx va L) &&& hwMask) =
        entWalk m va (L' :: rest) (m.rd (frameN T) (kidx va L) &&& hwMask)) :
    entWalk m' va' (L :: L' :: rest) T = entWalk m va (L :: L' :: rest) T := by
  rw [entWalk, entWalk]
  simp only [hbk, hr]
  by_cases hb : m.backed (frameN T) = true
  · by_cases hp : m.rd (frameN T) (kidx va L) &&& 1#64 = 0#64
    · simp [hp]
    · by_cases hh : m.rd (frameN T) (kidx va L) &&& 128#64 = 0#64
      · simp [hb, hp, hh, hrec ⟨hb, hp, hh, rfl⟩]
      · simp [hb, hp, hh]
  · simp [hb]

theorem entWalk_single_congr {m m' : Mem} (hbk : ∀ f, m'.backed f = m.backed f) (va va' : W) (L : Nat) (T : W)
    (hr : m'.rd (frameN T) (kidx va' L) = m.rd (frameN T) (kidx va L)) :
    entWalk m' va' [L] T = entWalk m va [L] T := by
  simp [entWalk, hbk, hr]

/-- **Frame rule for the abstract address space**: an entry depends only on the words the walk reads.  If `va'` in `m'`
reads, in every table on `va`'s path in `m`, the word `va` reads there, the two walks find the same entry: one address in two
memories that agree on its path, or two addresses of one page. -/
theorem hwEntry_congr {m m' : Mem} (hbk : ∀ f, m'.backed f = m.backed f) (R : W) {va va' : W}
    (hrd : ∀ L T, L ≤ 3 → Chain m R va L T → m'.rd (frameN T) (kidx va' L) = m.rd (frameN T) (kidx va L)) :
    hwEntry m' R va' = hwEntry m R va := by
  refine Chain.down (P := fun L T => entWalk m' va' (lv L) T = entWalk m va (lv L) T) (fun T hc => ?_) (fun L T hL hc ih => ?_)
    (Nat.zero_le 3) (show Chain m R va 0 R from rfl)
  · exact entWalk_single_congr hbk va va' 3 T (hrd 3 T (by omega) hc)
  · rw [lv_cons L (by omega), lv_cons (L + 1) (by omega)]
    apply entWalk_cons_congr hbk va va' L (L + 1) _ T (hrd L T (by omega) hc)
    intro l
    rw [← lv_cons (L + 1) (by omega)]
    exact ih _ l

theorem masked_eq_of_frameN {x y : W} (h : frameN (x &&& hwMask) = frameN (y &&& hwMask)) :
    x &&& hwMask = y &&& hwMask := by
  apply BitVec.eq_of_toNat_eq
  have hx := and_hwMask_toNat x; have hy := and_hwMask_toNat y
  simp only [frameN, Firefly.Bits.toNat_shr, hx, hy] at h
  rw [hx, hy]; omega

theorem Owned.sane {m : Mem} {R : W} {own : Own} (ho : Owned m R own) {va : W} (hu : UserVA va) : Sane m R va := by
  intro L T hL hc
  have o := chain_own ho hu L T hL hc
  exact ⟨ho.backed _ _ o, fun h => ho.nohuge _ _ _ _ o h⟩

theorem hwEntry_resolve {m : Mem} {R va : W} (hs : Sane m R va) :
    (hwEntry m R va = none ∧ ∃ L T, L ≤ 3 ∧ Chain m R va L T ∧ m.rd (frameN T) (kidx va L) &&& 1#64 = 0#64) ∨
    (∃ T, Chain m R va 3 T ∧ m.backed (frameN T) = true ∧ m.rd (frameN T) (kidx va 3) &&& 1#64 ≠ 0#64 ∧
      hwEntry m R va = some (m.rd (frameN T) (kidx va 3))) := by
  rcases resolve hs with ⟨L, T, hL, hc, hp⟩ | ⟨T, hc, hp⟩
  · exact Or.inl ⟨hwEntry_absent_at hL hc hp, L, T, hL, hc, hp⟩
  · have hb := (hs 3 T (by omega) hc).1
    refine Or.inr ⟨T, hc, hb, hp, ?_⟩
    rw [entWalk_chain 3 T (by omega) hc, show lv 3 = [3] from rfl, entWalk_last hb, if_neg hp]

theorem mmuWalk_eq_hwEntry {m : Mem} {R : W} {own : Own} (ho : Owned m R own) {va : W} (hu : UserVA va) :
    mmuWalk m va [39, 30, 21, 12] R =
      (hwEntry m R va).map fun e => (e &&& hwMask) + (va &&& 0xfff#64) := by
  rcases hwEntry_resolve (ho.sane hu) with ⟨he, L, T, hL, hc, hp⟩ | ⟨T, hc, hb, hp, he⟩
  · rw [he, mmuWalk_absent_at hL hc hp]; rfl
  · rw [he, mmuWalk_leaf_at hc hb hp]; rfl

theorem hwEntry_some {m : Mem} {R : W} {own : Own} (ho : Owned m R own) {va : W} (hu : UserVA va) {e : W}
    (h : hwEntry m R va = some e) :
    ∃ T3, Chain m R va 3 T3 ∧ m.backed (frameN T3) = true ∧ m.rd (frameN T3) (kidx va 3) = e ∧ e &&& 1#64 ≠ 0#64 := by
  rcases hwEntry_resolve (ho.sane hu) with ⟨he, _⟩ | ⟨T, hc, hb, hp, he⟩
  · rw [he] at h; cases h
  · obtain rfl := Option.some.inj (he.symm.trans h)
    exact ⟨T, hc, hb, rfl, hp⟩

/-- being a tree is a fact about the words of the upper-level tables: leaf tables are never read -/
theorem Owned.congr {m m' : Mem} {R : W} {own : Own} (ho : Owned m R own)
    (hbk : ∀ f, m'.backed f = m.backed f)
    (hrd : ∀ F L pre, own F = some (L, pre) → L < 3 → ∀ j, m'.rd F j = m.rd F j) : Owned m' R own := by
  refine ⟨ho.root, ho.inj, fun F x hx => by rw [hbk]; exact ho.backed F x hx, ho.level, ?_, ?_, ?_⟩
  · intro F L pre i hF hL; rw [hrd F _ _ hF hL]; exact ho.nohuge F L pre i hF hL
  · intro F L pre i hF hL hi hp
    rw [hrd F _ _ hF hL] at hp ⊢; exact ho.child F L pre i hF hL hi hp
  · intro G L pre' hG
    obtain ⟨F, pre0, i, e1, hF, hi, hp, hfr⟩ := ho.parent G L pre' hG
    have hL : L < 3 := by have := ho.level G _ _ hG; omega
    exact ⟨F, pre0, i, e1, hF, hi, by rw [hrd F _ _ hF hL]; exact hp, by rw [hrd F _ _ hF hL]; exact hfr⟩

theorem hwEntry_congr_owned {m m' : Mem} {R : W} {own : Own} (ho : Owned m R own)
    (hbk : ∀ f, m'.backed f = m.backed f)
    (hrd : ∀ F x, own F = some x → ∀ j, m'.rd F j = m.rd F j) (va : W) (hu : UserVA va) :
    hwEntry m' R va = hwEntry m R va :=
  hwEntry_congr hbk R (fun L T hL hc => hrd _ _ (chain_own ho hu L T hL hc) _)

/-- **Writes into a frame that is not a table** change neither the tree nor any page's entry. -/
theorem Owned.touch_unowned {m m' : Mem} {R : W} {own : Own} (ho : Owned m R own) {F : Nat} (hn : own F = none)
    (hbk : ∀ f, m'.backed f = m.backed f) (hrd : ∀ G j, G ≠ F → m'.rd G j = m.rd G j) :
    Owned m' R own ∧ ∀ va', UserVA va' → hwEntry m' R va' = hwEntry m R va' :=
  have hrd' : ∀ G x, own G = some x → ∀ j, m'.rd G j = m.rd G j := fun G x hG j =>
    hrd G j (by rintro rfl; rw [hn] at hG; cases hG)
  ⟨ho.congr hbk (fun G _ _ hG _ => hrd' G _ hG), hwEntry_congr_owned ho hbk hrd'⟩

theorem Owned.wr_unowned {m : Mem} {R : W} {own : Own} (ho : Owned m R own) {F : Nat} (hn : own F = none) (j : Nat) (v : W) :
    Owned (m.wr F j v) R own ∧ ∀ va', UserVA va' → hwEntry (m.wr F j v) R va' = hwEntry m R va' :=
  ho.touch_unowned hn (fun _ => rfl) (fun G i h => by rw [rd_wr', if_neg (fun hh => h hh.1)])

/-- two addresses are on the same page iff their four table indices agree -/
def SamePage (va' va : W) : Prop := idxs va' 4 = idxs va 4

instance (va' va : W) : Decidable (SamePage va' va) := by unfold SamePage; infer_instance

theorem SamePage.idx {va' va : W} (h : SamePage va' va) (k : Nat) (hk : k < 4) : kidx va' k = kidx va k :=
  (idxs_eq_iff va' va 4).1 h k hk

theorem SamePage.symm {a b : W} (h : SamePage a b) : SamePage b a := Eq.symm h

theorem hwEntry_samePage (m : Mem) (R : W) {va va' : W} (h : SamePage va va') : hwEntry m R va = hwEntry m R va' :=
  hwEntry_congr (fun _ => rfl) R fun L _ hL _ => by rw [h.idx L (by omega)]

/-- ownership of a table that consists of its root only -/
def ownRoot (P : W) : Own := fun F => if F = P.toNat then some (0, []) else none

theorem ownRoot_some {P : W} {F : Nat} {x : Nat × List Nat} (h : ownRoot P F = some x) : F = P.toNat ∧ x = (0, []) := by
  unfold ownRoot at h
  split at h
  · exact ⟨‹_›, (Option.some.inj h).symm⟩
  · cases h

/-- a frame that is zero except for a recursive last entry is a well-formed (empty) address space -/
theorem Owned.root_only {m : Mem} {P : W} (hfo : FrameOK P) (hb : m.backed P.toNat = true)
    (hz : ∀ j, j ≠ 511 → m.rd P.toNat j = 0#64) (h511 : m.rd P.toNat 511 &&& 128#64 = 0#64) :
    Owned m (P <<< 12) (ownRoot P) := by
  refine ⟨by simp [ownRoot, frameN_shl12 hfo], ?_, ?_, ?_, ?_, ?_, ?_⟩
  · intro F G x hF hG
    rw [(ownRoot_some hF).1, (ownRoot_some hG).1]
  · intro F x hF
    rw [(ownRoot_some hF).1]; exact hb
  · intro F L pre hF
    have := (ownRoot_some hF).2; simp only [Prod.mk.injEq] at this; omega
  · intro F L pre i hF _
    rw [(ownRoot_some hF).1]
    by_cases hi : i = 511
    · rw [hi]; exact h511
    · rw [hz i hi]; decide
  · intro F L pre i hF _ hi hp
    obtain ⟨rfl, h2⟩ := ownRoot_some hF
    simp only [Prod.mk.injEq] at h2
    by_cases h : i = 511
    · exact absurd ⟨h2.1, h⟩ hi
    · rw [hz i h] at hp; exact absurd rfl hp
  · intro G L pre' hG
    have := (ownRoot_some hG).2; simp only [Prod.mk.injEq] at this; omega

theorem hwEntry_root_only {m : Mem} {P : W} (hfo : FrameOK P) (hz : ∀ j, j ≠ 511 → m.rd P.toNat j = 0#64)
    (va : W) (hu : UserVA va) : hwEntry m (P <<< 12) va = none :=
  hwEntry_absent_at (L := 0) (Nat.zero_le 3) rfl (by rw [frameN_shl12 hfo, hz _ hu]; decide)


theorem own_inj {own : Own} {F L L' : Nat} {p p' : List Nat} (h : own F = some (L, p)) (h' : own F = some (L', p')) :
    L = L' ∧ p = p' := by
  rw [h] at h'; simpa using h'

theorem Owned.leaf_wr {m : Mem} {R : W} {own : Own} (ho : Owned m R own) {F3 : Nat} {pre : List Nat}
    (h3 : own F3 = some (3, pre)) (j : Nat) (v : W) : Owned (m.wr F3 j v) R own :=
  ho.congr (fun _ => rfl) fun F L pre' hF hL i => by
    rw [rd_wr, if_neg]; rintro ⟨rfl, _⟩; exact absurd (own_inj h3 hF).1 (by omega)

/-- **A store at a position of the tree, seen from the abstract address space.**  Memory changed, among
the words of the tables, at most in word `kidx va L` of the level-`L` table `T` of `va`'s path.  That word
is read exactly by the addresses that share the first `L + 1` indices with `va`: every other address keeps
its entry; for those, the walk still arrives at `T` and goes on from there in the new memory. -/
theorem hwEntry_wr {m m' : Mem} {R : W} {own : Own} (ho : Owned m R own) {va : W} (hu : UserVA va) {L : Nat} (hL : L ≤ 3)
    {T : W} (hc : Chain m R va L T) (hbk : ∀ f, m'.backed f = m.backed f)
    (hrd : ∀ G x, own G = some x → ∀ j, ¬(G = frameN T ∧ j = kidx va L) → m'.rd G j = m.rd G j)
    (va' : W) (hu' : UserVA va') :
    hwEntry m' R va' = if idxs va' (L + 1) = idxs va (L + 1) then entWalk m' va' (lv L) T else hwEntry m R va' := by
  -- a table on the path of `va'` is `T` only at level `L`, and then the prefixes agree
  have hpos := fun k T' hk hck => chain_meet ho hu hu' (k := k) (T' := T') hL hk hc hck
  split
  · rename_i hs
    have hk := (idxs_eq_iff va' va (L + 1)).1 hs
    have hc' : Chain m R va' L T := Chain.idx_congr L T (fun k hk' => (hk k (by omega)).symm) hc
    refine entWalk_chain L T hL (Chain.map L T hc' (fun k T' T'' hk' hck l => l.congr (hbk _) ?_))
    exact hrd _ _ (chain_own ho hu' k T' (by omega) hck) _ (fun hh => by have := (hpos k T' (by omega) hck hh.1).1; omega)
  · rename_i hs
    refine hwEntry_congr hbk R (fun k T' hk hck => hrd _ _ (chain_own ho hu' k T' hk hck) _ (fun hh => hs ?_))
    obtain ⟨rfl, e⟩ := hpos k T' hk hck hh.1
    rw [idxs_succ, idxs_succ va k, e, hh.2]

/-- **Abstract effect of storing a leaf entry**: the page gets the stored entry (or nothing if it is
not present); every other page keeps what it had. -/
theorem hwEntry_leaf_wr {m : Mem} {R : W} {own : Own} (ho : Owned m R own) {va : W} (hu : UserVA va) {T3 : W}
    (hc : Chain m R va 3 T3) (v : W) (va' : W) (hu' : UserVA va') :
    hwEntry (m.wr (frameN T3) (kidx va 3) v) R va' =
      if SamePage va' va then (if v &&& 1#64 = 0#64 then none else some v) else hwEntry m R va' := by
  rw [hwEntry_wr (m' := m.wr (frameN T3) (kidx va 3) v) ho hu (by omega) hc (fun _ => rfl)
    (fun G x _ j hne => by rw [rd_wr', if_neg hne]) va' hu']
  show (if SamePage va' va then entWalk _ va' [3] T3 else _) = _
  split
  · rename_i hs
    rw [entWalk_last (m := m.wr _ _ _) (ho.backed _ _ (chain_own ho hu 3 T3 (by omega) hc)), hs.idx 3 (by omega), rd_wr]
    simp only [and_self, if_true]
  · rfl

/-- ghost ownership after a new table `f` has been linked below position `(L, pre)` at index `i` -/
def ownAdd (own : Own) (f : Nat) (L : Nat) (pre : List Nat) (i : Nat) : Own :=
  fun F => if F = f then some (L + 1, pre ++ [i]) else own F

/-- **Linking a new, empty table keeps the tree a tree.**  `m'` differs from `m`, among the words of the
tables, only in the (empty) word `i` of the table `T`, which now links `Tn`; its frame `f` belonged to nothing and
is all-zero in `m'`. -/
theorem Owned.link_new {m m' : Mem} {R : W} {own : Own} (ho : Owned m R own) {T : W} {L : Nat} {pre : List Nat} {i : Nat}
    (hT : own (frameN T) = some (L, pre)) (hL : L < 3) (hi : ¬(L = 0 ∧ i = 511)) (habs : m.rd (frameN T) i &&& 1#64 = 0#64)
    {Tn : W} (hlink : Link m' T i Tn) {f : Nat} (hf : frameN Tn = f) (hz : ∀ j, m'.rd f j = 0#64)
    (hbk : ∀ f, m'.backed f = m.backed f)
    (hrd : ∀ G x, own G = some x → ∀ j, ¬(G = frameN T ∧ j = i) → m'.rd G j = m.rd G j) (hfn : own f = none)
    (hfb : m.backed f = true) : Owned m' R (ownAdd own f L pre i) := by
  subst hf
  have hnone : ∀ G x, own G = some x → G ≠ frameN Tn := fun G x hG h => by rw [h, hfn] at hG; cases hG
  -- the new ownership: old frames keep their position, the new one sits at `(L + 1, pre ++ [i])`
  have hold : ∀ G x, own G = some x → ownAdd own (frameN Tn) L pre i G = some x := fun G x hG => by
    simp only [ownAdd, if_neg (hnone G x hG)]; exact hG
  have hcases : ∀ G x, ownAdd own (frameN Tn) L pre i G = some x →
      (G = frameN Tn ∧ x = (L + 1, pre ++ [i])) ∨ own G = some x := by
    intro G x hG
    simp only [ownAdd] at hG
    split at hG
    · exact Or.inl ⟨‹_›, (Option.some.inj hG).symm⟩
    · exact Or.inr hG
  -- no frame already sits at the new position
  have hfresh : ∀ G, own G = some (L + 1, pre ++ [i]) → False := by
    intro G hG
    obtain ⟨F0, pre0, i0, e1, hF0, _, hp, _⟩ := ho.parent G L _ hG
    obtain ⟨rfl, h2⟩ := List.append_inj' e1 rfl
    obtain rfl : i = i0 := by simpa using h2
    obtain rfl := ho.inj F0 _ _ hF0 hT
    exact hp habs
  refine ⟨hold _ _ ho.root, ?_, ?_, ?_, ?_, ?_, ?_⟩
  · intro G1 G2 x h1 h2
    rcases hcases G1 x h1 with ⟨rfl, hx⟩ | h1 <;> rcases hcases G2 x h2 with ⟨rfl, hx'⟩ | h2
    · rfl
    · exact (hfresh G2 (hx ▸ h2)).elim
    · exact (hfresh G1 (hx' ▸ h1)).elim
    · exact ho.inj G1 G2 x h1 h2
  · intro G x hG
    rw [hbk]
    rcases hcases G x hG with ⟨rfl, _⟩ | hG
    · exact hfb
    · exact ho.backed G x hG
  · intro G L1 pre1 hG
    rcases hcases G _ hG with ⟨_, hx⟩ | hG
    · cases hx; omega
    · exact ho.level G L1 pre1 hG
  · intro G L1 pre1 i1 hG hL1
    rcases hcases G _ hG with ⟨rfl, _⟩ | hG
    · rw [hz]; decide
    · by_cases hloc : G = frameN T ∧ i1 = i
      · rw [hloc.1, hloc.2]; exact hlink.nohuge
      · rw [hrd G _ hG i1 hloc]; exact ho.nohuge G L1 pre1 i1 hG hL1
  · intro G L1 pre1 i1 hG hL1 hi1 hp
    rcases hcases G _ hG with ⟨rfl, _⟩ | hG'
    · rw [hz] at hp; exact absurd (by decide) hp
    · by_cases hloc : G = frameN T ∧ i1 = i
      · obtain ⟨rfl, rfl⟩ := hloc
        obtain ⟨rfl, rfl⟩ := own_inj hT hG'
        rw [hlink.next]; simp [ownAdd]
      · rw [hrd G _ hG' i1 hloc] at hp ⊢
        exact hold _ _ (ho.child G L1 pre1 i1 hG' hL1 hi1 hp)
  · intro G L1 pre' hG
    rcases hcases G _ hG with ⟨rfl, hx⟩ | hG
    · cases hx
      exact ⟨frameN T, pre, i, rfl, hold _ _ hT, hi, hlink.present, by rw [hlink.next]⟩
    · obtain ⟨F0, pre0, i0, e1, hF0, hi0, hp, hfr⟩ := ho.parent G L1 pre' hG
      have hloc : ¬(F0 = frameN T ∧ i0 = i) := by rintro ⟨rfl, rfl⟩; exact hp habs
      rw [← hrd F0 _ hF0 i0 hloc] at hp hfr
      exact ⟨F0, pre0, i0, e1, hold _ _ hF0, hi0, hp, hfr⟩

/-- **Linking a new, empty table changes no page's translation**: pages whose path runs through the
new link had nothing before (the entry was empty) and have nothing now (the new table is empty);
all other pages never read a changed word. -/
theorem hwEntry_link_new {m m' : Mem} {R : W} {own : Own} (ho : Owned m R own) {va : W} (hu : UserVA va)
    {L : Nat} (hL : L < 3) {T : W} (hc : Chain m R va L T)
    (habs : m.rd (frameN T) (kidx va L) &&& 1#64 = 0#64)
    {Tn : W} (hlink : Link m' T (kidx va L) Tn) {f : Nat} (hf : frameN Tn = f) (hz : ∀ j, m'.rd f j = 0#64)
    (hbk : ∀ f, m'.backed f = m.backed f)
    (hrd : ∀ G x, own G = some x → ∀ j, ¬(G = frameN T ∧ j = kidx va L) → m'.rd G j = m.rd G j)
    (va' : W) (hu' : UserVA va') : hwEntry m' R va' = hwEntry m R va' := by
  rw [hwEntry_wr (m' := m') ho hu (by omega) hc hbk hrd va' hu']
  split
  · rename_i hs
    have hk := (idxs_eq_iff va' va (L + 1)).1 hs
    have hkL : kidx va' L = kidx va L := hk L (by omega)
    rw [hwEntry_absent_at (m := m) (by omega) (Chain.idx_congr L T (fun k hk' => (hk k (by omega)).symm) hc)
        (by rw [hkL]; exact habs),
      lv_cons L (by omega), lv_cons (L + 1) (by omega), entWalk_link (by rw [hkL]; exact hlink), entWalk_absent (by rw [hf, hz]; rfl)]
  · rfl

end Firefly.Vmm
