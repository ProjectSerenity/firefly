import Firefly.Proof.AmlFirstPassG
import Firefly.Proof.AmlNameRt
/-!
Object-level round trips (`C11`): the simple arguments of a declaration — integer constants, strings, name strings —
are stored in the object `parseSimpleArg` creates with exactly the value the encoder wrote.  Before them `At d s l`, the form
in which the step lemmas of the C11 chain take the bytes they read.
-/
namespace Firefly.AmlParser.F
open Firefly.AmlLex Firefly.AmlTree Firefly.C13 Firefly.AmlParser Firefly.AmlParser.G Firefly.AmlParser.S
open Firefly.Gen.C12

theorem _root_.Firefly.AmlParser.G.FP.runs {d : Bytes} {s : PState} (h : FP d s) {α : Type} {x : LexM α} {base pe : Nat} {l : List UInt8} {a : α}
    (hr : s.r = { offset := base, pkgEnd := pe }) (hx : Reads d pe x base l a) (hb : BytesAt d base l)
    (hfit : base + l.length ≤ pe) : Runs d x s.r a { offset := base + l.length, pkgEnd := pe } :=
  hr ▸ hx.runs hb hfit (by have := h.inv.2; rwa [hr] at this)

/-- the reader of `s` stands in front of the bytes `l`, which lie inside the open package.  The step lemmas of the first pass
take the bytes they read this way and say that the reader has advanced by their length. -/
structure At (d : Bytes) (s : PState) (l : List UInt8) : Prop where
  bytes : BytesAt d s.r.offset l
  fit : s.r.offset + l.length ≤ s.r.pkgEnd

theorem At.left {d : Bytes} {s : PState} {l m : List UInt8} (a : At d s (l ++ m)) : At d s l :=
  ⟨a.bytes.left, Nat.le_trans (Nat.add_le_add_left (by simp) _) a.fit⟩

theorem At.adv {d : Bytes} {s s' : PState} {l m : List UInt8} {n : Nat} (a : At d s (l ++ m)) (hn : l.length = n)
    (hr : s'.r = { offset := s.r.offset + n, pkgEnd := s.r.pkgEnd }) : At d s' m := by
  subst hn
  refine ⟨by rw [hr]; exact a.bytes.right, ?_⟩
  have := a.fit
  rw [List.length_append, ← Nat.add_assoc] at this
  rw [hr]; exact this

theorem At.adv_end {s s' : PState} {l m : List UInt8} (he : s.r.offset + (l ++ m).length = s.r.pkgEnd)
    (hr : s'.r = { offset := s.r.offset + l.length, pkgEnd := s.r.pkgEnd }) : s'.r.offset + m.length = s'.r.pkgEnd := by
  rw [hr, ← he, List.length_append, Nat.add_assoc]

theorem At.congr {d : Bytes} {s s' : PState} {l : List UInt8} (a : At d s l) (h : s'.r = s.r) : At d s' l :=
  ⟨by rw [h]; exact a.bytes, by rw [h]; exact a.fit⟩

theorem At.not_eof {d : Bytes} {s : PState} {l : List UInt8} (a : At d s l) (hl : 1 ≤ l.length) : s.r.eof = false := by
  have := a.fit
  simp only [Reader.eof, decide_eq_false_iff_not] at this ⊢
  omega

theorem _root_.Firefly.AmlParser.G.FP.runsAt {d : Bytes} {s : PState} (h : FP d s) {α : Type} {x : LexM α} {l : List UInt8} {a : α}
    (hx : Reads d s.r.pkgEnd x s.r.offset l a) (ha : At d s l) :
    Runs d x s.r a { offset := s.r.offset + l.length, pkgEnd := s.r.pkgEnd } := h.runs rfl hx ha.bytes ha.fit

theorem simpleArg_start {d : Bytes} {s : PState} (h : FP d s) (hsz : s.tree.pool.size < INV) :
    ∃ n s3, (do
        let obj ← newObject 0
        let off ← lex offset
        updObj obj fun o => { o with amlOffset := off }
        pure obj : P Nat) s = .ok (n, s3) ∧ FP d s3 ∧ Fresh1 n s s3 ∧ s3.r = s.r ∧ isK (slot s3.tree n).opcode = false := by
  obtain ⟨n, s1, s3, e1, hr1, e3, h3, f3, hr3, hop3, _⟩ := newObjectAt_step h 0 s.r.offset hsz (infoOK_const (by decide))
  refine ⟨n, s3, bind_ex' e1 (bind_ex' (lex_offset_ex s1) ?_), h3, f3, hr3, by rw [hop3]; decide⟩
  rw [hr1]
  exact bind_ex' e3 rfl

/-- **an integer constant argument is stored with the encoded value** (`ByteData`, `WordData`, `DWordData`, `QWordData`):
`parseSimpleArg` on the `n` little-endian bytes of `v` creates a fresh, detached object with the prefix opcode, the value
`v mod 256^n`, and advances the reader by exactly `n` -/
theorem const_object_roundtrip {d : Bytes} {s : PState} (h : FP d s) (hsz : s.tree.pool.size < INV) (argType n op : Nat)
    (hat : (argType = argTypeByteData ∧ n = 1 ∧ op = opBytePrefix) ∨ (argType = argTypeWordData ∧ n = 2 ∧ op = opWordPrefix) ∨
      (argType = argTypeDwordData ∧ n = 4 ∧ op = opDwordPrefix) ∨ (argType = argTypeQwordData ∧ n = 8 ∧ op = opQwordPrefix))
    (v base pe : Nat) (hr : s.r = { offset := base, pkgEnd := pe })
    (henc : ∀ i, i < n → d[base + i]? = (encConst v n)[i]?) (hfit : base + n ≤ pe) :
    ∃ x s', parseSimpleArg d argType s = .ok ((some x, .ok), s') ∧ FP d s' ∧ live s.tree x = false ∧ live s'.tree x = true ∧
      C13.P s'.tree x = INV ∧ (slot s'.tree x).value = .u64 (v % 256 ^ n) ∧ (slot s'.tree x).opcode = op ∧
      s'.r = { offset := base + n, pkgEnd := pe } ∧ Fresh1 x s s' ∧
      (slot s'.tree x).infoIndex = pOpcodeTableIndex op true ∧ (slot s'.tree x).tableHandle = s.tableHandle := by
  have hx := encConst_length v n ▸ h.runs hr (parseNumConstant_reads v n) (fun i hi => henc i (encConst_length v n ▸ hi))
    (by rw [encConst_length]; exact hfit)
  rcases hat with ⟨rfl, rfl, rfl⟩ | ⟨rfl, rfl, rfl⟩ | ⟨rfl, rfl, rfl⟩ | ⟨rfl, rfl, rfl⟩
  · exact simpleArg_run h hsz _ _ _ Val.u64 (infoOK_const (by decide)) (by decide) hx rfl
  · exact simpleArg_run h hsz _ _ _ Val.u64 (infoOK_const (by decide)) (by decide) hx rfl
  · exact simpleArg_run h hsz _ _ _ Val.u64 (infoOK_const (by decide)) (by decide) hx rfl
  · exact simpleArg_run h hsz _ _ _ Val.u64 (infoOK_const (by decide)) (by decide) hx rfl

/-- **a name-string argument is stored with the encoded path**: `parseSimpleArg(NameString)` on the bytes of
`encName root carets segs` creates a fresh, detached name-path object whose value is the `[]byte` that starts at the first
byte of the name and covers exactly the encoded bytes (without the NullName terminator) -/
theorem name_object_roundtrip {d : Bytes} (hd : d.size + 1024 ≤ 4294967296) {s : PState} (h : FP d s)
    (hsz : s.tree.pool.size < INV) (root : Bool) (carets : Nat) (segs : List (List UInt8)) (base pe : Nat)
    (hr : s.r = { offset := base, pkgEnd := pe }) (hpe : pe ≤ d.size) (hok : NameOK segs)
    (henc : ∀ i, i < (encName root carets segs).length → d[base + i]? = (encName root carets segs)[i]?)
    (hfit : base + (encName root carets segs).length ≤ pe) :
    ∃ x s', parseSimpleArg d argTypeNameString s = .ok ((some x, .ok), s') ∧ FP d s' ∧ live s.tree x = false ∧
      live s'.tree x = true ∧ C13.P s'.tree x = INV ∧
      (slot s'.tree x).value = .bytes base ((encName root carets segs).length - (if segs = [] then 1 else 0)) ∧
      (slot s'.tree x).opcode = opIntNamePath ∧ s'.r = { offset := base + (encName root carets segs).length, pkgEnd := pe } ∧
      Fresh1 x s s' ∧ (slot s'.tree x).infoIndex = pOpcodeTableIndex opIntNamePath true ∧
      (slot s'.tree x).tableHandle = s.tableHandle :=
  simpleArg_run h hsz _ _ _ sliceVal (infoOK_const (by decide)) (by decide)
    (h.runs hr (parseNameString_reads (by omega) hpe root carets hok base) henc hfit) rfl

/-- **a string argument is stored with the encoded value**: `parseSimpleArg(String)` on the ASCII bytes of `str` and their
terminator creates a fresh, detached object whose value is the `[]byte` that covers exactly `str` -/
theorem string_object_roundtrip {d : Bytes} {s : PState} (h : FP d s) (hsz : s.tree.pool.size < INV)
    (str : List UInt8) (base pe : Nat) (hr : s.r = { offset := base, pkgEnd := pe }) (hpe : pe ≤ d.size)
    (hascii : ∀ b ∈ str, 1 ≤ b ∧ b ≤ 0x7f)
    (henc : ∀ i, i < (encString str).length → d[base + i]? = (encString str)[i]?) (hfit : base + (encString str).length ≤ pe) :
    ∃ x s', parseSimpleArg d argTypeString s = .ok ((some x, .ok), s') ∧ FP d s' ∧ live s.tree x = false ∧
      live s'.tree x = true ∧ C13.P s'.tree x = INV ∧ (slot s'.tree x).value = .bytes base str.length ∧
      (slot s'.tree x).opcode = opStringPrefix ∧ s'.r = { offset := base + (encString str).length, pkgEnd := pe } ∧
      Fresh1 x s s' ∧ (slot s'.tree x).infoIndex = pOpcodeTableIndex opStringPrefix true ∧
      (slot s'.tree x).tableHandle = s.tableHandle :=
  simpleArg_run h hsz _ _ _ sliceVal (infoOK_const (by decide)) (by decide)
    (h.runs hr (parseString_reads hpe hascii base) henc hfit) rfl

end Firefly.AmlParser.F
