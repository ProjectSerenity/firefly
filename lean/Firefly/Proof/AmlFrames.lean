import Firefly.Proof.AmlFirstPassG
/-!
What the two walks of the object parser (strict mode, `Proof/AmlStrict.lean`; first pass, `Proof/AmlSkipWalk.lean`) share: the
growth relation `SGrow` (the tree frame `G.Frm` with the reader's progress and the object budget) and its step lemmas for
`append` / `detach` of a new object, the count `Stk` of what a step pushes on the two stacks and `Eff` = `SGrow` with `Stk`
(`G.Grow` is its counting part, `Eff.grow`), the touched sets of the contracts, the table row of `Method`, the lexer relation
both use, and `OFrame`, what the shape invariants of the first pass need of a step.
-/
namespace Firefly.AmlParser.S
open Firefly.AmlLex Firefly.AmlTree Firefly.C13 Firefly.AmlParser Firefly.AmlParser.G
open Firefly.Gen.C12

theorem live_not_INV {t : ObjectTree} (w : WF t) : live t INV = false := by
  cases h : live t INV with
  | false => rfl
  | true => exact absurd rfl (live_ne_INV w.size_le h)

/-- what a function of the object parser guarantees about the tree and the reader: progress, object budget (16 objects per
byte consumed, and `c`), and a frame — `T` = the parents whose argument lists may have changed -/
structure SGrow (T : Nat → Prop) (c : Nat) (s s' : PState) : Prop where
  off : s.r.offset ≤ s'.r.offset
  pool : s.tree.pool.size ≤ s'.tree.pool.size
  budget : s'.tree.pool.size + 16 * s.r.offset ≤ s.tree.pool.size + 16 * s'.r.offset + c
  oldP : ∀ x, live s.tree x = true → C13.P s'.tree x = C13.P s.tree x
  oldLive : ∀ x, live s.tree x = true → live s'.tree x = true
  fiK : ∀ x, live s.tree x = true → ¬ T x → Fi s'.tree x = Fi s.tree x
  kidK : ∀ x, live s.tree x = true → C13.P s.tree x ≠ INV → ¬ T (C13.P s.tree x) →
    Nx s'.tree x = Nx s.tree x ∧ Pay (slot s'.tree x) = Pay (slot s.tree x)
  payK : ∀ x, live s.tree x = true → ¬ T x → (C13.P s.tree x ≠ INV ∨ x = 0) → Pay (slot s'.tree x) = Pay (slot s.tree x)
  kfr : KFr s s'
  same : s'.allBlocks = s.allBlocks ∧ s'.tableHandle = s.tableHandle ∧ s'.streamEnd = s.streamEnd

variable {T : Nat → Prop}

theorem SGrow.frm {c : Nat} {s s' : PState} (h : SGrow T c s s') : Frm T s s' := ⟨h.oldP, h.oldLive, h.fiK, h.kidK, h.payK, h.kfr⟩

theorem SGrow.ofFrm {c : Nat} {s s' : PState} (f : Frm T s s') (off : s.r.offset ≤ s'.r.offset)
    (pool : s.tree.pool.size ≤ s'.tree.pool.size)
    (budget : s'.tree.pool.size + 16 * s.r.offset ≤ s.tree.pool.size + 16 * s'.r.offset + c)
    (same : s'.allBlocks = s.allBlocks ∧ s'.tableHandle = s.tableHandle ∧ s'.streamEnd = s.streamEnd) : SGrow T c s s' :=
  ⟨off, pool, budget, f.oldP, f.oldLive, f.fiK, f.kidK, f.payK, f.kfr, same⟩

theorem SGrow.ofSame {s s' : PState} (ht : s'.tree = s.tree) (ho : s.r.offset ≤ s'.r.offset)
    (hsame : s'.allBlocks = s.allBlocks ∧ s'.tableHandle = s.tableHandle ∧ s'.streamEnd = s.streamEnd) : SGrow T 0 s s' :=
  .ofFrm (.ofTree ht) ho (by rw [ht]; exact Nat.le_refl _) (by rw [ht]; omega) hsame

theorem SGrow.refl (s : PState) : SGrow T 0 s s := SGrow.ofSame rfl (Nat.le_refl _) ⟨rfl, rfl, rfl⟩

theorem SGrow.seq {T1 T2 : Nat → Prop} {c1 c2 : Nat} {a b c : PState} (h1 : SGrow T1 c1 a b) (h2 : SGrow T2 c2 b c)
    (f : Frm T a c) : SGrow T (c1 + c2) a c :=
  .ofFrm f (Nat.le_trans h1.off h2.off) (Nat.le_trans h1.pool h2.pool) (by have := h1.budget; have := h2.budget; omega)
    ⟨by rw [h2.same.1, h1.same.1], by rw [h2.same.2.1, h1.same.2.1], by rw [h2.same.2.2, h1.same.2.2]⟩

theorem SGrow.trans {c1 c2 : Nat} {a b c : PState} (h1 : SGrow T c1 a b) (h2 : SGrow T c2 b c) : SGrow T (c1 + c2) a c :=
  h1.seq h2 (h1.frm.trans h2.frm)

theorem SGrow.comp {T1 T2 : Nat → Prop} {c1 c2 : Nat} {a b c : PState} (h1 : SGrow T1 c1 a b) (h2 : SGrow T2 c2 b c)
    (w : WF a.tree) (hT : ∀ x, live a.tree x = true → T1 x ∨ T2 x → T x) : SGrow T (c1 + c2) a c :=
  h1.seq h2 (h1.frm.comp' h2.frm w hT)

theorem SGrow.weaken {c c' : Nat} {a b : PState} (h : SGrow T c a b) (hc : c ≤ c') : SGrow T c' a b :=
  .ofFrm h.frm h.off h.pool (by have := h.budget; omega) h.same

theorem SGrow.mono {T' : Nat → Prop} {c : Nat} {a b : PState} (h : SGrow T' c a b) (w : WF a.tree)
    (hT : ∀ x, live a.tree x = true → T' x → T x) : SGrow T c a b :=
  .ofFrm (h.frm.mono w hT) h.off h.pool h.budget h.same

theorem SGrow.thenNew {T' : Nat → Prop} {c c' : Nat} {s s1 s2 : PState} (g : SGrow T c s s1) (g' : SGrow T' c' s1 s2)
    (w : WF s.tree) (hT : ∀ x, T' x → T x ∨ live s.tree x = false) : SGrow T (c + c') s s2 :=
  g.comp g' w fun x hx h => h.elim id fun q => (hT x q).elim id fun e => by rw [e] at hx; cases hx

theorem SGrow.thenCur {c c' n : Nat} {s s1 s2 : PState} (g : SGrow T c s s1) (g' : SGrow (fun x => x = n ∨ x = C13.P s1.tree n) c' s1 s2)
    (w : WF s.tree) (hn : live s.tree n = false) (hp : C13.P s1.tree n = INV ∨ T (C13.P s1.tree n)) : SGrow T (c + c') s s2 :=
  g.thenNew g' w fun x q => q.elim (fun e => Or.inr (e ▸ hn)) fun e =>
    hp.elim (fun i => Or.inr (by rw [e, i]; exact live_not_INV w)) (fun t => Or.inl (e ▸ t))

theorem SGrow.ofLex {s s1 : PState} (hs1 : s1 = { s with r := s1.r }) (hle : s.r.offset ≤ s1.r.offset) : SGrow T 0 s s1 :=
  SGrow.ofSame (by rw [hs1]) hle (by rw [hs1]; exact ⟨rfl, rfl, rfl⟩)

/-- a reader-only step that consumed a byte pays for up to 16 objects of what follows -/
theorem SGrow.absorb {c : Nat} {s s1 s' : PState} (hs1 : s1 = { s with r := s1.r }) (hlt : s.r.offset < s1.r.offset)
    (gr : SGrow T c s1 s') (hc : c ≤ 16) : SGrow T 0 s s' := by
  have t := (SGrow.ofLex (T := T) hs1 (Nat.le_of_lt hlt)).trans gr
  have ht : s1.tree = s.tree := by rw [hs1]
  exact .ofFrm t.frm t.off t.pool (by have := gr.budget; rw [ht] at this; omega) t.same

theorem SGrow.ofFresh1 {n : Nat} {s s' : PState} (h : Fresh1 n s s') : SGrow T 1 s s' :=
  .ofFrm (.ofFresh h) h.off h.size.1 (by have := h.size.2; have := h.off; omega) h.same

theorem SGrow.ofPay {obj : Nat} {s s' : PState} (h : PayOnly obj s s') (hp : C13.P s.tree obj = INV ∨ T (C13.P s.tree obj))
    (hT : T obj) (ho : live s.tree obj = true) : SGrow T 0 s s' :=
  .ofFrm (.ofPay h ho hp (Or.inl hT)) h.off (by rw [h.links.size]; exact Nat.le_refl _)
    (by rw [h.links.size]; have := h.off; omega) h.same

theorem SGrow.thenEdit {c : Nat} {s s1 s2 : PState} (g : SGrow T c s s1) {obj arg : Nat}
    (hs2 : s2 = { s1 with tree := s2.tree }) (f : LinkFrame s1.tree s2.tree (· = arg) (· = obj))
    (hnew : live s.tree arg = false) (hT : T obj ∨ (WF s.tree ∧ live s.tree obj = false)) : SGrow T c s s2 := by
  have hr : s2.r = s1.r := by rw [hs2]
  have hsz := f.pay.size
  exact .ofFrm (g.frm.thenEdit f hnew hT) (by rw [hr]; exact g.off) (by rw [hsz]; exact g.pool)
    (by rw [hsz, hr]; exact g.budget) (by rw [hs2]; exact g.same)

/-- touched parents of a function that works under the current scope -/
abbrev TTop (s : PState) : Nat → Prop := fun x => x = topOf s
/-- touched parents of a function that reads the arguments of `curObj` -/
abbrev TCur (s : PState) (curObj : Nat) : Nat → Prop := fun x => x = curObj ∨ x = C13.P s.tree curObj

def methodInfo : Nat := pOpcodeTableIndex opMethod true

theorem method_row : argCnt methodInfo = 4 ∧ argAt methodInfo 0 = argTypePkgLen ∧ argAt methodInfo 1 = argTypeNameString ∧
    argAt methodInfo 2 = argTypeByteData ∧ argAt methodInfo 3 = argTypeTermList := by decide +kernel

theorem method_ops : pOpIsType2 opMethod = false ∧ pOpIsDataObject opMethod = false ∧ pOpIsArg opMethod = false ∧
    isTargetOp opMethod = false := by decide +kernel

theorem method_flags : (opFlags methodInfo).map (fun fl => hasFlag fl flagDeferParsing) = some false := by decide +kernel

/-- the argument kinds that create at most one detached object and touch nothing else -/
def Leaf (argType : Nat) : Prop := isSimpleArg argType = true ∨ argType = argTypePkgLen

theorem method_arg_kinds {j : Nat} (hj : j < argCnt methodInfo) : Leaf (argAt methodInfo j) ∨ argAt methodInfo j = argTypeTermList := by
  obtain ⟨h4, a0, a1, a2, a3⟩ := method_row
  rw [h4] at hj
  have : j = 0 ∨ j = 1 ∨ j = 2 ∨ j = 3 := by omega
  rcases this with h | h | h | h <;> subst h
  · exact Or.inl (Or.inr a0)
  · exact Or.inl (Or.inl (by rw [a1]; decide))
  · exact Or.inl (Or.inl (by rw [a2]; decide))
  · exact Or.inr a3

theorem budS {d : Bytes} {k c : Nat} {s s' : PState} (h : Bud d k s) (hg : SGrow T c s s') (hi : s'.r.offset ≤ d.size)
    (hck : c ≤ k) : Bud d (k - c) s' := by
  unfold Bud at h ⊢
  have := hg.budget; have := hg.off
  omega

theorem popPkgEnd_stepS {d : Bytes} {s : PState} (h : FP d s) :
    ∃ (a : Unit) (s' : PState), popPkgEnd d s = .ok (a, s') ∧ FP d s' ∧ s'.tree = s.tree ∧ s'.scopeStack = s.scopeStack ∧
      s'.r.offset = s.r.offset ∧ (s'.allBlocks = s.allBlocks ∧ s'.tableHandle = s.tableHandle ∧ s'.streamEnd = s.streamEnd) := by
  obtain ⟨a, s', e, h', hs', ho⟩ := popPkgEnd_step h
  exact ⟨a, s', e, h', by rw [hs'], by rw [hs'], ho, by rw [hs'], by rw [hs'], by rw [hs']⟩

/-- `if p.r.EOF() { p.popPkgEnd() }` -/
theorem eofPop_step {d : Bytes} {s : PState} (h : FP d s) :
    ∃ (a : Unit) (s' : PState), (do if (← lex eof) then popPkgEnd d else pure () : P Unit) s = .ok (a, s') ∧ FP d s' ∧
      s'.tree = s.tree ∧ s'.scopeStack = s.scopeStack ∧ s'.r.offset = s.r.offset ∧
      (s'.allBlocks = s.allBlocks ∧ s'.tableHandle = s.tableHandle ∧ s'.streamEnd = s.streamEnd) := by
  refine bind_ex (lex_eof_ex s) ?_
  cases s.r.eof with
  | true => exact popPkgEnd_stepS h
  | false => exact pure_ex ⟨h, rfl, rfl, rfl, rfl, rfl, rfl⟩

theorem rel_parseNameString' (d : Bytes) (hd : d.size + 1024 ≤ 4294967296) : LexRel d (parseNameString d) (fun r a r' =>
    NameRel d r a r' ∧ (a.2 = .ok → ∀ b, (sliceExpr d a.1)[0]? = some b → b ≠ 0)) := by
  intro r hr
  refine wp_mono (parseNameString_spec d r hr) fun a r' ⟨hi, h⟩ => ?_
  obtain ⟨hR, hdat, hlead⟩ := h hd
  refine ⟨hi, hR, fun hok b hb => ?_⟩
  unfold sliceExpr at hb
  rw [hdat hok] at hb
  obtain ⟨hlen, hb0⟩ := sliceBytes_head d _ _ b hb
  obtain ⟨c, hc, hcn⟩ := hlead hok hlen
  rw [hc] at hb0
  cases hb0
  exact hcn

theorem append_stepS {d : Bytes} {c : Nat} {s0 s : PState} {n p : Nat} (w0 : WF s0.tree) (h : FP d s) (g : SGrow T c s0 s)
    (hT : T p) (hp : live s0.tree p = true) (hnew : live s0.tree n = false) (hn : live s.tree n = true)
    (hpn : C13.P s.tree n = INV) :
    ∃ s', tree (·.append p n) s = .ok ((), s') ∧ FP d s' ∧ s' = { s with tree := s'.tree } ∧
      Spliced s.tree s'.tree p n (La s.tree p) INV ∧ SGrow T c s0 s' := by
  obtain ⟨s', e, h', hs', A⟩ := append_step h w0 (fun x hx => ⟨g.oldLive x hx, g.oldP x hx⟩) hp hnew hn hpn
  exact ⟨s', e, h', hs', A, g.thenEdit hs' A.frame hnew (Or.inl hT)⟩

theorem unhang_step {d : Bytes} {c : Nat} {s0 s : PState} {n p : Nat} (h : FP d s) (g : SGrow T c s0 s) (hT : T p)
    (hp : live s.tree p = true) (hnew : live s0.tree n = false) (hn : live s.tree n = true) (hpn : C13.P s.tree n = p) :
    ∃ s', tree (·.detach p n) s = .ok ((), s') ∧ FP d s' ∧ s' = { s with tree := s'.tree } ∧
      Unlinked s.tree s'.tree p n ∧ SGrow T c s0 s' ∧ live s'.tree n = true ∧ C13.P s'.tree n = INV := by
  obtain ⟨t', e, w', E⟩ := detach_spec h.tree.wf hp hn hpn
  exact ⟨_, tree_ex e, h.withTree (h.tree.ofPay w' E.pay) (fun x hx => by rw [E.pay.live]; exact hx), rfl, E,
    g.thenEdit rfl (E.frame h.tree.wf) hnew (Or.inl hT), by rw [E.pay.live]; exact hn, by rw [E.p, if_pos rfl]⟩

/-- what a step does to the two stacks: pushes only; `g` bounds the scope pushes beyond the pkgEnd pushes, and every
pkgEnd push is paid for by a byte consumed (the termination measure of `parseObjectList`) -/
structure Stk (g : Nat) (s s' : PState) : Prop where
  sc : s.scopeStack.size ≤ s'.scopeStack.size
  pk : s.pkgEndStack.size ≤ s'.pkgEndStack.size
  scpk : s'.scopeStack.size + s.pkgEndStack.size ≤ s.scopeStack.size + s'.pkgEndStack.size + g
  pkoff : s'.pkgEndStack.size + s.r.offset ≤ s.pkgEndStack.size + s'.r.offset

theorem Stk.ofEq {s s' : PState} (hsc : s'.scopeStack = s.scopeStack) (hpk : s'.pkgEndStack = s.pkgEndStack)
    (ho : s.r.offset ≤ s'.r.offset) : Stk 0 s s' :=
  ⟨by rw [hsc]; exact Nat.le_refl _, by rw [hpk]; exact Nat.le_refl _, by rw [hsc, hpk]; omega, by rw [hpk]; omega⟩

theorem Stk.trans {g1 g2 : Nat} {a b c : PState} (h1 : Stk g1 a b) (h2 : Stk g2 b c) : Stk (g1 + g2) a c :=
  ⟨Nat.le_trans h1.sc h2.sc, Nat.le_trans h1.pk h2.pk, by have := h1.scpk; have := h2.scpk; omega,
   by have := h1.pkoff; have := h2.pkoff; omega⟩

theorem Stk.weaken {g g' : Nat} {a b : PState} (h : Stk g a b) (hg : g ≤ g') : Stk g' a b :=
  ⟨h.sc, h.pk, by have := h.scpk; omega, h.pkoff⟩

/-- the effect of a first-pass function: the slot frame of `SGrow` and the stack count -/
structure Eff (T : Nat → Prop) (c g : Nat) (s s' : PState) : Prop where
  sg : SGrow T c s s'
  st : Stk g s s'

theorem Eff.grow {c g : Nat} {s s' : PState} (e : Eff T c g s s') : Grow c g s s' :=
  ⟨e.sg.off, e.sg.pool, e.sg.budget, e.sg.oldP, e.sg.oldLive, e.st.sc, e.st.pk, e.st.scpk, e.st.pkoff, e.sg.same⟩

theorem Eff.refl (s : PState) : Eff T 0 0 s s := ⟨SGrow.refl s, Stk.ofEq rfl rfl (Nat.le_refl _)⟩

theorem Eff.trans {c1 g1 c2 g2 : Nat} {a b c : PState} (h1 : Eff T c1 g1 a b) (h2 : Eff T c2 g2 b c) :
    Eff T (c1 + c2) (g1 + g2) a c := ⟨h1.sg.trans h2.sg, h1.st.trans h2.st⟩

theorem Eff.weaken {c g c' g' : Nat} {a b : PState} (h : Eff T c g a b) (hc : c ≤ c') (hg : g ≤ g') : Eff T c' g' a b :=
  ⟨h.sg.weaken hc, h.st.weaken hg⟩

theorem Eff.mono {T' : Nat → Prop} {c g : Nat} {a b : PState} (h : Eff T' c g a b) (w : WF a.tree)
    (hT : ∀ x, live a.tree x = true → T' x → T x) : Eff T c g a b := ⟨h.sg.mono w hT, h.st⟩

theorem Eff.ofLex {s s1 : PState} (hs1 : s1 = { s with r := s1.r }) (hle : s.r.offset ≤ s1.r.offset) : Eff T 0 0 s s1 :=
  ⟨SGrow.ofLex hs1 hle, Stk.ofEq (by rw [hs1]) (by rw [hs1]) hle⟩

theorem Eff.ofFresh1 {n : Nat} {s s' : PState} (h : Fresh1 n s s') : Eff T 1 0 s s' :=
  ⟨SGrow.ofFresh1 h, Stk.ofEq h.scope h.pkg h.off⟩

/-- a new detached object whose index is then pushed on the scope stack (`newScopeBlock`) -/
theorem Eff.ofScopeBlock {n : Nat} {s sm : PState} (f : Fresh1 n s sm) :
    Eff T 1 1 s { sm with scopeStack := sm.scopeStack.push n } := by
  refine ⟨(SGrow.ofFresh1 f).trans (SGrow.ofSame (s := sm) (s' := { sm with scopeStack := sm.scopeStack.push n }) rfl (Nat.le_refl _)
    ⟨rfl, rfl, rfl⟩), ?_⟩
  have hsz : (sm.scopeStack.push n).size = s.scopeStack.size + 1 := by rw [f.scope]; simp
  have := f.off
  exact ⟨by show _ ≤ (sm.scopeStack.push n).size; omega, by show _ ≤ sm.pkgEndStack.size; rw [f.pkg]; exact Nat.le_refl _,
    by show (sm.scopeStack.push n).size + _ ≤ _ + sm.pkgEndStack.size + 1; rw [f.pkg]; omega,
    by show sm.pkgEndStack.size + _ ≤ _ + sm.r.offset; rw [f.pkg]; omega⟩

/-- growth, then what a call did that read the arguments of an object `n` created since: `n` and what hangs under it
need not be listed -/
theorem Eff.thenCur {c g c' g' n : Nat} {s s1 s2 : PState} (e : Eff T c g s s1)
    (e' : Eff (fun x => x = n ∨ x = C13.P s1.tree n) c' g' s1 s2) (w : WF s.tree) (hn : live s.tree n = false)
    (hp : C13.P s1.tree n = INV ∨ T (C13.P s1.tree n)) : Eff T (c + c') (g + g') s s2 :=
  ⟨e.sg.thenCur e'.sg w hn hp, e.st.trans e'.st⟩

theorem Eff.absorb {c g : Nat} {s s1 s' : PState} (hs1 : s1 = { s with r := s1.r }) (hlt : s.r.offset < s1.r.offset)
    (e : Eff T c g s1 s') (hc : c ≤ 16) : Eff T 0 g s s' :=
  ⟨SGrow.absorb hs1 hlt e.sg hc,
   ((Stk.ofEq (by rw [hs1]) (by rw [hs1]) (Nat.le_of_lt hlt)).trans e.st).weaken (by omega)⟩

theorem Stk.ofPkg {s s' : PState} (hsc : s'.scopeStack = s.scopeStack) (ho : s.r.offset ≤ s'.r.offset)
    (hpk : s'.pkgEndStack = s.pkgEndStack ∨ (s'.pkgEndStack.size = s.pkgEndStack.size + 1 ∧ s.r.offset < s'.r.offset)) :
    Stk 0 s s' := by
  rcases hpk with e | ⟨e, hlt⟩
  · exact Stk.ofEq hsc e ho
  · exact ⟨by rw [hsc]; exact Nat.le_refl _, by omega, by rw [hsc]; omega, by omega⟩

/-- a pkgEnd push (no scope push) pays for one scope push of what follows -/
theorem Stk.afterPkg {s s1 s' : PState} (g1 : Stk 0 s s1) (hsc : s1.scopeStack.size = s.scopeStack.size)
    (hpk : s1.pkgEndStack.size = s.pkgEndStack.size + 1) (g2 : Stk 1 s1 s') : Stk 0 s s' :=
  have t := g1.trans g2
  ⟨t.sc, t.pk, by have := g2.scpk; omega, t.pkoff⟩

end Firefly.AmlParser.S

/-! ## the frame of the objects a step does not touch

`OFrame τ` collects what the shape invariants of the first pass need of a step that touches the objects in `τ` only: the
other objects keep their argument lists (`KeepsArgs`, `Proof/AmlTreeOps.lean`), the attached ones their payload.  A walk step
with the slot frame `SGrow T` is one (`τ := T`), `append(obj, arg)` another (`τ := (· = obj)`). -/

namespace Firefly.AmlParser
open Firefly.AmlLex Firefly.AmlTree Firefly.C13 Firefly.AmlParser.G Firefly.AmlParser.S
open Firefly.Gen.C12

theorem G.Frm.keepsArgs {T : Nat → Prop} {s s' : PState} (g : Frm T s s') (w : WF s.tree) {x : Nat}
    (hx : live s.tree x = true) (hT : ¬ T x) : KeepsArgs s.tree s'.tree x :=
  ⟨g.fiK x hx hT, fun k hk hp =>
    have q := g.kidK k hk (by rw [hp]; exact live_ne_INV w.size_le hx) (by rw [hp]; exact hT)
    ⟨g.oldLive k hk, q.1, q.2, by rw [g.oldP k hk]; exact hp⟩⟩

theorem PayOnly.keepsArgs {obj : Nat} {s s' : PState} (h : PayOnly obj s s') {x : Nat} (hp : C13.P s.tree obj ≠ x) :
    KeepsArgs s.tree s'.tree x :=
  ⟨h.links.fi x, fun k hk hkp => ⟨by rw [h.links.live]; exact hk, h.links.nx k, by rw [h.others k fun e => hp (e ▸ hkp)],
    by rw [h.links.p]; exact hkp⟩⟩

structure OFrame (τ : Nat → Prop) (s s' : PState) : Prop where
  args : ∀ x, live s.tree x = true → ¬ τ x → KeepsArgs s.tree s'.tree x
  pay : ∀ x, live s.tree x = true → ¬ τ x → C13.P s.tree x ≠ INV → Pay (slot s'.tree x) = Pay (slot s.tree x)
  par : ∀ x, live s.tree x = true → C13.P s.tree x ≠ INV → C13.P s'.tree x ≠ INV
  kfr : KFr s s'

theorem S.SGrow.oframe {T : Nat → Prop} {c : Nat} {s s' : PState} (g : SGrow T c s s') (w : WF s.tree) : OFrame T s s' :=
  ⟨fun _ hx hT => g.frm.keepsArgs w hx hT, fun x hx hT hp => g.payK x hx hT (Or.inl hp), fun x hx hp => by rw [g.oldP x hx]; exact hp,
    g.kfr⟩

theorem oframe_append {s1 s2 : PState} (w : WF s1.tree) {obj arg : Nat} (ha : C13.P s1.tree arg = INV) (ho : live s1.tree obj = true)
    (hl : ∀ x, live s2.tree x = live s1.tree x) (sp : SamePay s1.tree s2.tree)
    (hP : ∀ x, C13.P s2.tree x = if x = arg then obj else C13.P s1.tree x)
    (hNx : ∀ x, Nx s2.tree x = if x = arg then INV else if x = La s1.tree obj ∧ La s1.tree obj ≠ INV then arg else Nx s1.tree x)
    (hFi : ∀ x, Fi s2.tree x = if x = obj ∧ La s1.tree obj = INV then arg else Fi s1.tree x) : OFrame (· = obj) s1 s2 :=
  ⟨fun _ hx hxo => keepsArgs_append w ha ho hx hxo hl sp hP hNx hFi, fun x _ _ _ => sp.pay x,
    fun x _ hp => by rw [hP, if_neg fun e => hp (by rw [e]; exact ha)]; exact hp, KFr.ofSamePay sp⟩

end Firefly.AmlParser
