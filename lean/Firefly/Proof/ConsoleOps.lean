import Firefly.Proof.Console
/-!
The console operations of `Model/VgaText.lean` and `Model/VesaFb.lean` compute the pointwise
specifications of `Spec/Console.lean`.  The geometry is given by plain hypotheses on the
variables (text console) or by the record `Frame` (pixel console); `Props/C19.lean` supplies them
from its domain predicates.  The framebuffer is read as the function `fun j => fb.getD j 0`
(`C19.view16` / `C19.view8`).
-/
namespace Firefly.ConsoleOps
open Firefly Firefly.FbMem Firefly.ConsoleProof Firefly.Spec.Console

/-- One dimension of a `Fill`: the origin as the models clamp it lies in the grid, and the extent as they clip it
(`if w > n-x+1 { w = n-x+1 }` in 32 bits; `VesaFb.clipExtent` is the same function) ends where the specification's
`fillRect` ends, inside the grid. -/
theorem clip_dim (x w : Nat) {n : Nat} (hn : 1 ≤ n) (h32 : n < 4294967296) :
    (1 ≤ clamp x n ∧ clamp x n ≤ n) ∧
    min (clamp x n - 1 + w) n = clamp x n - 1 + VgaText.clipExtent w n (clamp x n) ∧
    clamp x n - 1 + VgaText.clipExtent w n (clamp x n) ≤ n := by
  have r : 1 ≤ clamp x n ∧ clamp x n ≤ n := by
    unfold clamp; split
    · omega
    · split <;> omega
  generalize clamp x n = cx at r ⊢
  have e : VgaText.clipExtent w n cx = min w (n - cx + 1) := by
    unfold VgaText.clipExtent
    rw [sub32_of_le r.2 h32, add32_of_lt (by omega)]
    split <;> omega
  rw [e]
  exact ⟨r, by omega, by omega⟩

theorem cellOff_eq {x y W H : Nat} (hx : 1 ≤ x ∧ x ≤ W) (hy : 1 ≤ y ∧ y ≤ H) (hs : W * H < 4294967296) :
    add32 (mul32 (sub32 y 1) W) (sub32 x 1) = (y - 1) * W + (x - 1) := by
  have h := @cell_lt W H (y - 1) (x - 1) (by omega) (by omega)
  have hH : H ≤ W * H := Nat.le_mul_of_pos_left _ (by omega)
  have hW : W ≤ W * H := Nat.le_mul_of_pos_right _ (by omega)
  rw [sub32_of_le hy.1 (Nat.lt_of_le_of_lt (Nat.le_trans hy.2 hH) hs), sub32_of_le hx.1 (Nat.lt_of_le_of_lt (Nat.le_trans hx.2 hW) hs),
    mul32_of_le (Nat.le_trans (Nat.le_add_right ..) (Nat.le_of_lt h)) hs, add32_of_lt (Nat.lt_trans h hs)]

section Text
open VgaText

theorem text_write (c : Cons) (fb : Array UInt16) (hs : c.width * c.height < 4294967296)
    (hsz : fb.size = c.width * c.height) (hpal : 1 ≤ c.paletteLen ∧ c.paletteLen ≤ 256) (ch fg bg x y : Nat) :
    ∃ fb', write c fb ch fg bg x y = some fb' ∧ fb'.size = fb.size ∧
      ∀ i, fb'.getD i 0 = textWrite c (fun j => fb.getD j 0) ch fg bg x y i := by
  unfold write
  by_cases hg : x < 1 ∨ x > c.width ∨ y < 1 ∨ y > c.height
  · refine ⟨fb, if_pos hg, rfl, fun i => ?_⟩
    simp only [textWrite]
    rw [if_neg (by omega)]
  · have hin : 1 ≤ x ∧ x ≤ c.width ∧ 1 ≤ y ∧ y ≤ c.height := by omega
    have hidx := @cell_lt c.width c.height (y - 1) (x - 1) (by omega) (by omega)
    rw [if_neg hg, show (c.paletteLen + 255) % 256 = c.paletteLen - 1 by omega,
      cellOff_eq (H := c.height) ⟨hin.1, hin.2.1⟩ hin.2.2 hs]
    refine (put_spec (fb := fb) (cellWord ch (textColor c fg c.defaultFg) (textColor c bg c.defaultBg))
      (show (y - 1) * c.width + (x - 1) < fb.size from hsz ▸ hidx)).computes fun i => ?_
    exact ite_congr (propext ⟨fun h => ⟨hin.1, hin.2.1, hin.2.2.1, hin.2.2.2, h⟩, fun h => h.2.2.2.2⟩) (fun _ => rfl) (fun _ => rfl)

theorem text_fillRect {W H : Nat} (fb : Array UInt16) (w1 : 1 ≤ W) (hs : W * H + W < 4294967296) (hsz : fb.size = W * H)
    (clr : UInt16) (cx cy w h : Nat) (lx : cx - 1 + w ≤ W) (ly : cy - 1 + h ≤ H) :
    ∃ fb', fillRows clr w W fb ((cy - 1) * W + (cx - 1)) h = some fb' ∧ fb'.size = fb.size ∧
      ∀ i, fb'.getD i 0 =
        if i < W * H ∧ cx - 1 ≤ i % W ∧ i % W < cx - 1 + w ∧ cy - 1 ≤ i / W ∧ i / W < cy - 1 + h then clr
        else fb.getD i 0 := by
  have hrows : (cy - 1 + h) * W ≤ fb.size := by rw [hsz, Nat.mul_comm W]; exact Nat.mul_le_mul_right _ ly
  rw [text_fillRows_loop clr w W h fb _ 0, Nat.add_comm]
  refine (rowLoop_spec (pitch := W) (K := cy - 1 + h) (N := fb.size) (blk := fun i => i / W)
    (In := fun i => cx - 1 ≤ i % W ∧ i % W < cx - 1 + w) (val := fun _ _ => some clr) (by omega)
    (fun fb k _ hN hk => ?_) h fb (cy - 1) 0 rfl (Nat.le_refl _)).computes fun i => ?_
  · have hk' := Nat.mul_le_mul_right W (show k + 1 ≤ cy - 1 + h from hk)
    rw [Nat.add_one_mul] at hk'
    rw [add32_of_lt (by omega), Nat.add_sub_cancel_left, Nat.add_comm]
    exact (fillRange_spec clr w fb (k * W + (cx - 1)) (by omega)).congr (fun _ => (row_range lx).symm) (fun _ _ => rfl)
  · refine ite_congr (propext ⟨fun a => ⟨?_, a.2.1, a.2.2, a.1.1, a.1.2⟩, fun b => ⟨⟨b.2.2.2.1, b.2.2.2.2⟩, b.2.1, b.2.2.1⟩⟩)
      (fun _ => rfl) (fun _ => rfl)
    rw [Nat.mul_comm]
    exact (Nat.div_lt_iff_lt_mul w1).1 (Nat.lt_of_lt_of_le a.1.2 ly)

/-- `2^31` where `text_write` has `2^32`: the row loop advances its offset once past the last row, so
`text_fillRect` asks for one row of slack, `W * H + W < 2^32`.  `text_scroll` would do with `2^32`; it takes the
same bound so that the one `TextOk.small` serves both. -/
theorem text_fill (c : Cons) (fb : Array UInt16) (w1 : 1 ≤ c.width) (h1 : 1 ≤ c.height)
    (hs : c.width * c.height < 2147483648) (hsz : fb.size = c.width * c.height) (x y w h fg bg : Nat) :
    ∃ fb', fill c fb x y w h fg bg = some fb' ∧ fb'.size = fb.size ∧
      ∀ i, fb'.getD i 0 = textFill c (fun j => fb.getD j 0) x y w h fg bg i := by
  have hW : c.width ≤ c.width * c.height := Nat.le_mul_of_pos_right _ h1
  have hH : c.height ≤ c.width * c.height := Nat.le_mul_of_pos_left _ w1
  obtain ⟨rx, ex, lx⟩ := clip_dim x w w1 (show c.width < 4294967296 by omega)
  obtain ⟨ry, ey, ly⟩ := clip_dim y h h1 (show c.height < 4294967296 by omega)
  unfold fill
  rw [if_neg (by omega)]
  simp only [show ∀ x n, clampOrigin x n = clamp x n from fun _ _ => rfl, textFill, fillRect, ex, ey]
  rw [cellOff_eq rx ry (by omega)]
  exact text_fillRect fb w1 (by omega) hsz _ _ _ _ _ lx ly

theorem text_scroll (c : Cons) (fb : Array UInt16) (w1 : 1 ≤ c.width) (hs : c.width * c.height < 2147483648)
    (hsz : fb.size = c.width * c.height) (dir lines : Nat) :
    ∃ fb', scroll c fb dir lines = some fb' ∧ fb'.size = fb.size ∧
      ∀ i, fb'.getD i 0 = textScroll c (fun j => fb.getD j 0) dir lines i := by
  unfold scroll
  by_cases hg : lines = 0 ∨ lines > c.height
  · refine ⟨fb, if_pos hg, rfl, fun i => ?_⟩
    simp only [textScroll]
    rw [if_neg (by omega)]
  · have hv : 1 ≤ lines ∧ lines ≤ c.height := by omega
    have hsplit : (c.height - lines) * c.width + lines * c.width = c.width * c.height := by
      rw [← Nat.add_mul, Nat.sub_add_cancel hv.2, Nat.mul_comm]
    have hlw : 1 ≤ lines * c.width := Nat.mul_pos hv.1 w1
    have hN : c.width * c.height < 4294967296 := Nat.lt_trans hs (by decide)
    have hHW : c.height * c.width = c.width * c.height := Nat.mul_comm ..
    have h1 : lines * c.width ≤ c.width * c.height := Nat.le.intro (by rw [Nat.add_comm]; exact hsplit)
    rw [if_neg hg, mul32_of_le h1 hN]
    simp only [textScroll]
    by_cases hd0 : dir = 0
    · rw [if_pos hd0, sub32_of_le hv.2 (Nat.lt_of_le_of_lt (Nat.le_mul_of_pos_left _ w1) hN),
        mul32_of_le (Nat.le.intro hsplit) hN]
      refine (copyAsc_add fb 0 ((c.height - lines) * c.width) (lines * c.width)
        (by rw [Nat.zero_add, hsplit, hsz]; exact Nat.le_refl _) (hsz ▸ hN)).computes fun i => ?_
      rw [← Array.getD_eq_getD_getElem?, if_pos hv, if_pos hd0]
      exact ite_congr (propext (by rw [Nat.zero_add]; exact ⟨fun h => h.2, fun h => ⟨Nat.zero_le _, h⟩⟩)) (fun _ => rfl) (fun _ => rfl)
    · rw [if_neg hd0]
      by_cases hd1 : dir = 1
      · rw [if_pos hd1, mul32_of_le (Nat.le_of_eq hHW) hN, sub32_of_le (hHW ▸ Nat.le_trans hlw h1) (hHW ▸ hN), if_neg (by omega)]
        refine (copyDesc_sub fb (c.height * c.width) (lines * c.width) (Nat.le_of_eq (hHW.trans hsz.symm))
          ⟨hlw, hHW ▸ h1⟩ (hsz ▸ hN)).computes fun i => ?_
        rw [← Array.getD_eq_getD_getElem?, if_pos hv, if_neg hd0, if_pos hd1]
      · rw [if_neg hd1]
        refine ⟨fb, rfl, rfl, fun i => ?_⟩
        rw [if_pos hv, if_neg hd0, if_neg hd1]

end Text

section Pixel
open VesaFb

/-- what the pixel-console lemmas use of the geometry, for a framebuffer of `n` bytes: `Geo`, rows
of `pitch` bytes holding the visible bytes, and 32-bit offsets with one row of slack -/
structure Frame (c : Cons) (f : Font) (n : Nat) : Prop extends Geo c f where
  pitch : c.width * c.bytesPerPixel ≤ c.pitch
  small : c.height * c.pitch + c.pitch + c.bytesPerPixel < 4294967296
  size : n = c.height * c.pitch
  /-- the `case 8` of the depth switch steps by 1 where the other cases step by `bytesPerPixel` -/
  step8 : c.bpp = 8 → c.bytesPerPixel = 1

theorem colorBytes_eq {c : Cons} {idx : Nat} {comp : List UInt8} (h : pixelBytes c idx = some (some comp)) :
    colorBytes c idx = comp := by
  simp only [colorBytes, h]

theorem bytes_cases {c : Cons} (hbpp : c.bpp = 8 ∨ c.bpp = 15 ∨ c.bpp = 16 ∨ c.bpp = 24 ∨ c.bpp = 32)
    (hbytes : c.bytesPerPixel = bytesPerPixelOf c.bpp) :
    (c.bpp = 8 ∧ c.bytesPerPixel = 1) ∨ (c.bpp = 15 ∧ c.bytesPerPixel = 2) ∨ (c.bpp = 16 ∧ c.bytesPerPixel = 2) ∨
    (c.bpp = 24 ∧ c.bytesPerPixel = 3) ∨ (c.bpp = 32 ∧ c.bytesPerPixel = 4) := by
  rcases hbpp with h | h | h | h | h <;> rw [h] at hbytes <;> simp [h, hbytes, bytesPerPixelOf]

/-- the geometry as `C19.PixOk` gives it: a supported depth, the grid `SetFont` computes, at
least one column, and `(height + 1) * pitch + 4` within 32 bits -/
theorem Frame.of {c : Cons} {f : Font} {n : Nat}
    (hbpp : c.bpp = 8 ∨ c.bpp = 15 ∨ c.bpp = 16 ∨ c.bpp = 24 ∨ c.bpp = 32) (hbytes : c.bytesPerPixel = bytesPerPixelOf c.bpp)
    (hgw : 1 ≤ f.gw) (hgh : 1 ≤ f.gh) (hcols : c.cols = c.width / f.gw) (hrows : c.rows = (c.height - c.offsetY) / f.gh)
    (hlogo : c.offsetY ≤ c.height) (hcols1 : 1 ≤ c.cols) (hpitch : c.width * c.bytesPerPixel ≤ c.pitch)
    (hsmall : (c.height + 1) * c.pitch + 4 < 4294967296) (hsize : n = c.height * c.pitch) : Frame c f n := by
  have h1 : c.cols * f.gw ≤ c.width := by rw [hcols]; exact Nat.div_mul_le_self _ _
  have h2 : c.rows * f.gh ≤ c.height - c.offsetY := by rw [hrows]; exact Nat.div_mul_le_self _ _
  have h3 : 1 ≤ c.bytesPerPixel ∧ c.bytesPerPixel ≤ 4 := by
    rcases bytes_cases hbpp hbytes with h | h | h | h | h <;> omega
  have h4 : c.width ≤ c.width * c.bytesPerPixel := Nat.le_mul_of_pos_right _ h3.1
  have h5 : (c.height + 1) * c.pitch = c.height * c.pitch + c.pitch := Nat.add_one_mul ..
  have h6 : 1 ≤ c.cols * f.gw := Nat.mul_pos hcols1 hgw
  exact ⟨⟨hgw, hgh, h3.1, Nat.lt_of_lt_of_le h6 (Nat.le_trans h1 (Nat.le_trans h4 hpitch)), h1,
    Nat.add_le_of_le_sub' hlogo h2⟩, hpitch,
    h5 ▸ Nat.lt_of_le_of_lt (Nat.add_le_add_left h3.2 _) hsmall, hsize, fun h => by rw [hbytes, h]; rfl⟩

theorem Frame.rows_le {c : Cons} {f : Font} {n : Nat} (g : Frame c f n) {R : Nat} (h : R ≤ c.height) :
    R * c.pitch ≤ n := by
  rw [g.size]; exact Nat.mul_le_mul_right _ h

theorem Frame.height_lt {c : Cons} {f : Font} {n : Nat} (g : Frame c f n) : c.height + 1 < 4294967296 := by
  have := Nat.le_mul_of_pos_right c.height g.pitch1
  have := g.small
  have := g.pitch1
  omega

theorem Frame.size_lt {c : Cons} {f : Font} {n : Nat} (g : Frame c f n) : n + c.pitch < 4294967296 := by
  have := g.small; rw [g.size]; omega

theorem Frame.pitch_lt {c : Cons} {f : Font} {n : Nat} (g : Frame c f n) : c.pitch < 4294967296 :=
  Nat.lt_of_le_of_lt (Nat.le_add_left ..) g.size_lt

theorem Frame.rowOff_lt {c : Cons} {f : Font} {n : Nat} (g : Frame c f n) {R : Nat} (h : R ≤ c.height) :
    R * c.pitch + c.pitch < 4294967296 :=
  Nat.lt_of_le_of_lt (Nat.add_le_add_right (g.rows_le h) _) g.size_lt

theorem Frame.width_lt {c : Cons} {f : Font} {n : Nat} (g : Frame c f n) : c.width + 1 < 4294967296 := by
  have := Nat.le_mul_of_pos_right c.width g.bpp1
  have := g.pitch
  have := g.small
  have := g.bpp1
  omega

theorem Frame.cols_lt {c : Cons} {f : Font} {n : Nat} (g : Frame c f n) : c.cols < 4294967296 :=
  Nat.lt_of_le_of_lt (Nat.le_trans (Nat.le_mul_of_pos_right _ g.gw1) g.colsw) (Nat.lt_of_succ_lt g.width_lt)

theorem Frame.rows_lt {c : Cons} {f : Font} {n : Nat} (g : Frame c f n) : c.rows < 4294967296 :=
  Nat.lt_of_le_of_lt (Nat.le_trans (Nat.le_mul_of_pos_right _ g.gh1) (Nat.le_of_add_left_le g.rowsh))
    (Nat.lt_of_succ_lt g.height_lt)

theorem fbOffset_eq (c : Cons) {x y : Nat} (hp : 0 < c.pitch)
    (h : (y + c.offsetY) * c.pitch + x * c.bytesPerPixel < 4294967296) :
    fbOffset c x y = (y + c.offsetY) * c.pitch + x * c.bytesPerPixel := by
  have := Nat.le_mul_of_pos_right (y + c.offsetY) hp
  unfold fbOffset
  rw [add32_of_lt (show y + c.offsetY < 4294967296 by omega),
    mul32_of_lt (show (y + c.offsetY) * c.pitch < 4294967296 by omega),
    mul32_of_lt (show x * c.bytesPerPixel < 4294967296 by omega), add32_of_lt h]

theorem Frame.fbOffset_row {c : Cons} {f : Font} {n : Nat} (g : Frame c f n) {y : Nat} (h : y + c.offsetY ≤ c.height) :
    fbOffset c 0 y = (y + c.offsetY) * c.pitch := by
  rw [fbOffset_eq c g.pitch1 (by rw [Nat.zero_mul, Nat.add_zero]; exact Nat.lt_of_le_of_lt (Nat.le_add_right ..) (g.rowOff_lt h)),
    Nat.zero_mul, Nat.add_zero]

/-- `Scroll` hands `fbOffset` a row relative to the logo, `a - offsetY` in 32 bits (wrapped when the
row lies in the logo); `fbOffset` adds `offsetY` back -/
theorem Frame.fbOffset_sub {c : Cons} {f : Font} {n : Nat} (g : Frame c f n) {a : Nat} (h : a ≤ c.height) :
    fbOffset c 0 (sub32 a c.offsetY) = a * c.pitch := by
  have hlt : a * c.pitch < 4294967296 := Nat.lt_of_le_of_lt (Nat.le_add_right ..) (g.rowOff_lt h)
  have e : add32 (sub32 a c.offsetY) c.offsetY = a := by have := g.height_lt; unfold add32 sub32; omega
  unfold fbOffset
  rw [e, mul32_of_lt hlt, show mul32 0 c.bytesPerPixel = 0 by rw [mul32, Nat.zero_mul], add32_of_lt hlt, Nat.add_zero]

theorem cellPix_eq {cx n g W : Nat} (hc : 1 ≤ cx ∧ cx - 1 ≤ n) (hg : 0 < g) (hn : n * g ≤ W) (hW : W + 1 < 4294967296) :
    mul32 (sub32 cx 1) g = (cx - 1) * g := by
  have := Nat.le_mul_of_pos_right n hg
  have := Nat.mul_le_mul_right g hc.2
  rw [sub32_of_le hc.1 (by omega), mul32_of_lt (by omega)]

/-- `body` is any row body that, for rows inside the framebuffer, is the pixel row `pixRowF`: `Fill` and
`Write` have different ones. -/
theorem pix_rect {c : Cons} {f : Font} {fb : Array UInt8} (g : Frame c f fb.size)
    {body : Array UInt8 → Nat → Nat → Option (Array UInt8)}
    (color : Nat → Nat → List UInt8) (len : Nat) (hlen : ∀ x y, (color x y).length = len) (hle : len ≤ c.bytesPerPixel)
    (cx cy w h : Nat) (rx : 1 ≤ cx ∧ cx - 1 + w ≤ c.cols) (ry : 1 ≤ cy ∧ cy - 1 + h ≤ c.rows)
    (hbody : ∀ (fb : Array UInt8) (R py : Nat),
      R * c.pitch + (cx - 1) * f.gw * c.bytesPerPixel + w * f.gw * c.bytesPerPixel < 4294967296 →
      body fb (R * c.pitch + (cx - 1) * f.gw * c.bytesPerPixel) py =
        pixRowF (fun x => color x py) c.bytesPerPixel (w * f.gw) fb (R * c.pitch + (cx - 1) * f.gw * c.bytesPerPixel) 0) :
    fbOffset c (mul32 (sub32 cx 1) f.gw) (mul32 (sub32 cy 1) f.gh) =
      ((cy - 1) * f.gh + c.offsetY) * c.pitch + (cx - 1) * f.gw * c.bytesPerPixel ∧
    ∃ fb', rowLoop body c.pitch (h * f.gh) fb
        (((cy - 1) * f.gh + c.offsetY) * c.pitch + (cx - 1) * f.gw * c.bytesPerPixel) 0 = some fb' ∧
      fb'.size = fb.size ∧
      ∀ i, fb'.getD i 0 =
        paint c (fun j => fb.getD j 0) ((cx - 1) * f.gw) ((cx - 1 + w) * f.gw) (c.offsetY + (cy - 1) * f.gh)
          (c.offsetY + (cy - 1 + h) * f.gh) color i := by
  have hX : ((cx - 1) * f.gw + w * f.gw) * c.bytesPerPixel ≤ c.pitch := by
    rw [← Nat.add_mul]
    exact Nat.le_trans (Nat.mul_le_mul_right _ (Nat.le_trans (Nat.mul_le_mul_right _ rx.2) g.colsw)) g.pitch
  have hY : (cy - 1) * f.gh + c.offsetY + h * f.gh ≤ c.height := by
    have := Nat.mul_le_mul_right f.gh ry.2
    have := g.rowsh
    rw [Nat.add_mul] at *
    omega
  have hsz := g.rows_le hY
  have hsmall := g.small
  rw [← g.size] at hsmall
  constructor
  · rw [Nat.add_mul] at hX
    rw [cellPix_eq ⟨rx.1, Nat.le_trans (Nat.le_add_right ..) rx.2⟩ g.gw1 g.colsw g.width_lt,
      cellPix_eq ⟨ry.1, Nat.le_trans (Nat.le_add_right ..) ry.2⟩ g.gh1 (Nat.le_of_add_left_le g.rowsh) g.height_lt,
      fbOffset_eq c g.pitch1 (Nat.lt_of_le_of_lt (Nat.add_le_add_left (Nat.le_trans (Nat.le_add_right ..) hX) _)
        (g.rowOff_lt (Nat.le_trans (Nat.le_add_right ..) hY)))]
  · obtain ⟨fb', k1, k2, k3⟩ := paint_spec c color len (w * f.gw) ((cx - 1) * f.gw) hlen hle hX hbody
      (h * f.gh) fb ((cy - 1) * f.gh + c.offsetY) hsz hsmall
    refine ⟨fb', k1, k2, fun i => ?_⟩
    rw [k3, ← Nat.add_mul, Nat.add_comm _ c.offsetY, Nat.add_assoc, ← Nat.add_mul]

theorem paint_padding (c : Cons) (old : Nat → UInt8) {px0 px1 r0 r1 : Nat} (color : Nat → Nat → List UInt8) {i : Nat}
    (hbpp : 0 < c.bytesPerPixel) (hx : px1 ≤ c.width) (hy : c.offsetY ≤ r0)
    (hi : c.width * c.bytesPerPixel ≤ i % c.pitch ∨ i / c.pitch < c.offsetY) :
    paint c old px0 px1 r0 r1 color i = old i := by
  simp only [paint]
  rw [if_neg]
  intro ⟨a1, _, _, a4⟩
  rcases hi with hi | hi
  · exact Nat.lt_irrefl _ (Nat.lt_of_lt_of_le (Nat.lt_of_lt_of_le a4 hx) ((Nat.le_div_iff_mul_le hbpp).2 hi))
  · omega

theorem pix_fill {c : Cons} {f : Font} {fb : Array UInt8} (g : Frame c f fb.size) (hfont : c.font = some f)
    (hcols : 1 ≤ c.cols) (hrows : 1 ≤ c.rows)
    (x y w h fg bg : Nat) (comp : List UInt8) (hcomp : pixelBytes c bg = some (some comp))
    (hlen : comp.length ≤ c.bytesPerPixel) :
    ∃ fb', fill c fb x y w h fg bg = some fb' ∧ fb'.size = fb.size ∧
      ∀ i, fb'.getD i 0 = pixFill c f (fun j => fb.getD j 0) x y w h bg i := by
  obtain ⟨rx, ex, lx⟩ := clip_dim x w hcols g.cols_lt
  obtain ⟨ry, ey, ly⟩ := clip_dim y h hrows g.rows_lt
  unfold fill
  rw [hfont]
  simp only []
  rw [if_neg (by omega)]
  simp only [show ∀ x n, VesaFb.clampOrigin x n = clamp x n from fun _ _ => rfl,
    show ∀ w n x, VesaFb.clipExtent w n x = VgaText.clipExtent w n x from fun _ _ _ => rfl, hcomp, pixFill, fillRect, colorBytes_eq hcomp,
    ex, ey]
  generalize clamp x c.cols = cx at rx lx ⊢
  generalize clamp y c.rows = cy at ry ly ⊢
  generalize VgaText.clipExtent w c.cols cx = w' at lx ⊢
  generalize VgaText.clipExtent h c.rows cy = h' at ly ⊢
  have hW : w' * f.gw ≤ c.width :=
    Nat.le_trans (Nat.mul_le_mul_right _ (Nat.le_trans (Nat.le_add_left ..) lx)) g.colsw
  have hH : h' * f.gh ≤ c.height :=
    Nat.le_trans (Nat.mul_le_mul_right _ (Nat.le_trans (Nat.le_add_left ..) ly)) (Nat.le_of_add_left_le g.rowsh)
  have hWb : w' * f.gw * c.bytesPerPixel ≤ c.pitch := Nat.le_trans (Nat.mul_le_mul_right _ hW) g.pitch
  rw [mul32_of_le hW (Nat.lt_of_succ_lt g.width_lt), mul32_of_le hH (Nat.lt_of_succ_lt g.height_lt)]
  obtain ⟨hoff, fb', k1, k2, k3⟩ := pix_rect g (fun _ _ => comp) comp.length (fun _ _ => rfl) hlen cx cy w' h'
    ⟨rx.1, lx⟩ ⟨ry.1, ly⟩
    (body := fun fb off _ => pixRow comp c.bytesPerPixel fb off
      ((add32 off (w' * f.gw * c.bytesPerPixel) - off + (c.bytesPerPixel - 1)) / c.bytesPerPixel))
    (fun fb R _ hB => vesa_fillRow_eq comp c.bytesPerPixel (w' * f.gw) _ g.bpp1 hB fb)
  refine ⟨fb', ?_, k2, k3⟩
  rw [hoff]
  by_cases hb8 : c.bpp = 8
  · rw [if_pos hb8]
    rw [g.step8 hb8, Nat.mul_one] at k1
    rw [vesa_fillRows_loop comp 1 c.pitch (w' * f.gw) (h' * f.gh) fb _ 0]
    rw [g.step8 hb8]
    exact k1
  · rw [if_neg hb8, mul32_of_le hWb g.pitch_lt,
      vesa_fillRows_loop comp c.bytesPerPixel c.pitch (w' * f.gw * c.bytesPerPixel) (h' * f.gh) fb _ 0]
    exact k1

theorem pix_scroll {c : Cons} {f : Font} {fb : Array UInt8} (g : Frame c f fb.size) (hfont : c.font = some f)
    (dir lines : Nat) :
    ∃ fb', scroll c fb dir lines = some fb' ∧ fb'.size = fb.size ∧
      ∀ i, fb'.getD i 0 = pixScroll c f (fun j => fb.getD j 0) dir lines i := by
  unfold scroll
  rw [hfont]
  simp only []
  by_cases hg : lines = 0 ∨ lines > c.rows
  · refine ⟨fb, if_pos hg, rfl, fun i => ?_⟩
    simp only [pixScroll]
    rw [if_neg (by omega)]
  · have hv : 1 ≤ lines ∧ lines ≤ c.rows := by omega
    have hd1 : c.offsetY + lines * f.gh ≤ c.height :=
      Nat.le_trans (Nat.add_le_add_left (Nat.mul_le_mul_right _ hv.2) _) g.rowsh
    have hlh : lines * f.gh ≤ c.height := Nat.le_trans (Nat.le_add_left ..) hd1
    have hd0 : 1 ≤ lines * f.gh := Nat.mul_pos hv.1 g.gh1
    have hH := Nat.lt_of_succ_lt g.height_lt
    have hp := g.pitch1
    rw [if_neg hg, mul32_of_le hlh hH, g.fbOffset_sub hlh, mul32_of_le g.pitch g.pitch_lt]
    simp only [pixScroll]
    by_cases hd0' : dir = 0
    · rw [if_pos hd0', sub32_of_le hlh hH, g.fbOffset_sub (Nat.sub_le ..),
        g.fbOffset_row (show 0 + c.offsetY ≤ c.height by omega), Nat.zero_add, rows_count hp]
      refine (scrollRowsUp_spec (lines * f.gh) (c.width * c.bytesPerPixel) c.pitch g.pitch
        (c.height - lines * f.gh - c.offsetY) fb c.offsetY (g.rows_le (by omega)) g.size_lt).computes fun i => ?_
      rw [← Array.getD_eq_getD_getElem?, if_pos hd0', ite_and_swap]
      simp only [hv.1, hv.2, true_and, scroll_rows hd1]
    · rw [if_neg hd0']
      by_cases hd1' : dir = 1
      · have hRn : lines * f.gh + c.offsetY + (c.height - (lines * f.gh + c.offsetY)) = c.height := by omega
        rw [if_pos hd1', g.fbOffset_row (show lines * f.gh + c.offsetY ≤ c.height by omega),
          if_neg (fun h => Nat.ne_of_gt hp h.1),
          (Nat.mod_eq_of_lt (Nat.lt_of_le_of_lt (Nat.le_add_right ..) g.size_lt)).trans g.size, rows_count hp]
        have k := scrollRowsDown_spec (lines * f.gh) (c.width * c.bytesPerPixel) c.pitch g.pitch hd0
          (c.height - (lines * f.gh + c.offsetY)) fb (lines * f.gh + c.offsetY) (g.rows_le (by omega)) (Nat.le_add_right ..)
          g.size_lt
        rw [hRn] at k
        refine k.computes fun i => ?_
        rw [← Array.getD_eq_getD_getElem?, if_neg hd0', if_pos hd1', ite_and_swap]
        simp only [hv.1, hv.2, true_and, Nat.add_comm (lines * f.gh) c.offsetY]
      · rw [if_neg hd1']
        refine ⟨fb, rfl, rfl, fun i => ?_⟩
        rw [if_neg hd0', if_neg hd1']
        split <;> rfl

theorem pixelBytes_len {c : Cons} (hbpp : c.bpp = 8 ∨ c.bpp = 15 ∨ c.bpp = 16 ∨ c.bpp = 24 ∨ c.bpp = 32)
    (hbytes : c.bytesPerPixel = bytesPerPixelOf c.bpp) (hpal : c.palette.size = 256) :
    ∃ len, len ≤ c.bytesPerPixel ∧ ∀ idx, idx < 256 →
      ∃ comp, pixelBytes c idx = some (some comp) ∧ comp.length = len := by
  refine ⟨if c.bpp = 8 then 1 else if c.bpp = 15 ∨ c.bpp = 16 then 2 else 3, ?_, fun idx hidx => ?_⟩
  · rcases bytes_cases hbpp hbytes with h | h | h | h | h <;> simp [h.1, h.2]
  · obtain ⟨rgb, hrgb⟩ : ∃ rgb, c.palette[idx]? = some rgb :=
      ⟨_, Array.getElem?_eq_getElem (by rw [hpal]; exact hidx)⟩
    rcases hbpp with h | h | h | h | h <;>
      simp [pixelBytes, packColor16, packColor24, h, hrgb]

theorem pix_write {c : Cons} {f : Font} {fb : Array UInt8} (g : Frame c f fb.size) (hfont : c.font = some f)
    (hbpr : 8 * (f.bpr - 1) < f.gw ∧ f.gw ≤ 8 * f.bpr) (hdata : f.data.size = 256 * f.bpr * f.gh)
    (hdsmall : f.data.size < 4294967296)
    (ch fg bg x y : Nat) (hch : ch < 256) (hin : 1 ≤ x ∧ x ≤ c.cols ∧ 1 ≤ y ∧ y ≤ c.rows)
    (fgC bgC : List UInt8) (len : Nat) (hfg : pixelBytes c fg = some (some fgC)) (hbg : pixelBytes c bg = some (some bgC))
    (hfl : fgC.length = len) (hbl : bgC.length = len) (hle : len ≤ c.bytesPerPixel) :
    ∃ fb', write c fb ch fg bg x y = some fb' ∧ fb'.size = fb.size ∧
      ∀ i, fb'.getD i 0 = pixWrite c f (fun j => fb.getD j 0) ch fg bg x y i := by
  have hstep : (if c.bpp = 8 then 1 else c.bytesPerPixel) = c.bytesPerPixel := by
    split
    · rename_i h; exact (g.step8 h).symm
    · rfl
  have hB : ch * f.bpr * f.gh + f.gh * f.bpr ≤ f.data.size := by
    have := Nat.mul_le_mul_right (f.bpr * f.gh) (show ch + 1 ≤ 256 by omega)
    rw [hdata, Nat.mul_assoc, Nat.mul_assoc, Nat.mul_comm f.gh f.bpr]
    rw [Nat.add_mul, Nat.one_mul] at this
    exact this
  have hfo : mul32 (mul32 ch f.bpr) f.gh = ch * f.bpr * f.gh := by
    have hle : ch * f.bpr * f.gh ≤ f.data.size := Nat.le_trans (Nat.le_add_right ..) hB
    rw [mul32_of_le (Nat.le_trans (Nat.le_mul_of_pos_right _ g.gh1) hle) hdsmall, mul32_of_le hle hdsmall]
  obtain ⟨hoff, fb', k1, k2, k3⟩ := pix_rect g (fun px py => if glyphBit f ch px py then fgC else bgC) len
    (by intro px py; split <;> assumption) hle x y 1 1 (by omega) (by omega)
    (body := fun fb off py => pixRowF (fun px => if glyphBit f ch px py then fgC else bgC) c.bytesPerPixel f.gw fb off 0)
    (fun _ _ _ _ => by rw [Nat.one_mul])
  refine ⟨fb', ?_, k2, fun i => ?_⟩
  · unfold write
    rw [hfont]
    simp only [if_neg (show ¬ (x < 1 ∨ x > c.cols ∨ y < 1 ∨ y > c.rows) by omega), hfg, hbg, hstep, hfo, hoff]
    rw [glyphRows_eq f fgC bgC c.bytesPerPixel c.pitch ch hdsmall g.gw1 (by omega) f.gh fb _ 0 _
      (by rw [Nat.zero_mul, Nat.add_zero]) hB]
    rw [Nat.one_mul] at k1
    exact k1
  · rw [k3 i]
    simp only [pixWrite]
    rw [if_pos hin, colorBytes_eq hfg, colorBytes_eq hbg, Nat.sub_add_cancel hin.1, Nat.sub_add_cancel hin.2.2.1]

end Pixel

end Firefly.ConsoleOps
