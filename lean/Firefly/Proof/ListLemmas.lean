/-
Facts about lists that core Lean does not have and that more than one region uses: `flatMap` under pointwise hypotheses, sums of
`map`, trichotomy in a pairwise list, the pigeonhole bound, a fold over chunks.
-/
namespace Firefly

variable {α : Type u} {β : Type v}

theorem flatMap_congr {f g : α → List β} {l : List α} (h : ∀ a ∈ l, f a = g a) : l.flatMap f = l.flatMap g := by
  rw [List.flatMap_def, List.flatMap_def, List.map_congr_left h]

theorem flatMap_eq_map {f : α → List β} {k : α → β} {l : List α} (h : ∀ a ∈ l, f a = [k a]) : l.flatMap f = l.map k :=
  (flatMap_congr h).trans List.map_eq_flatMap.symm

theorem length_flatMap_const {f : α → List β} {l : List α} {k : Nat} (h : ∀ a ∈ l, (f a).length = k) :
    (l.flatMap f).length = l.length * k := by
  rw [List.length_flatMap, List.map_congr_left h, List.map_const', List.sum_replicate_nat]

theorem le_sum_map (f : α → Nat) {l : List α} {a : α} (h : a ∈ l) : f a ≤ (l.map f).sum := by
  induction l with
  | nil => cases h
  | cons b l ih =>
    rw [List.map_cons, List.sum_cons]
    rcases List.mem_cons.1 h with e | h'
    · rw [e]; omega
    · have := ih h'; omega

theorem sum_map_add_sub (l : List α) (g h : α → Nat) (hle : ∀ x ∈ l, g x ≤ h x) :
    (l.map g).sum + (l.map fun x => h x - g x).sum = (l.map h).sum := by
  induction l with
  | nil => rfl
  | cons a l ih =>
    have := hle a (List.mem_cons_self ..)
    have := ih fun x hx => hle x (List.mem_cons_of_mem _ hx)
    simp only [List.map_cons, List.sum_cons]
    omega

theorem sum_map_le {f g : α → Nat} {l : List α} (h : ∀ a ∈ l, f a ≤ g a) : (l.map f).sum ≤ (l.map g).sum :=
  Nat.le.intro (sum_map_add_sub l f g h)

theorem pairwise_trichotomy {R : α → α → Prop} {l : List α} (h : l.Pairwise R) {a b : α}
    (ha : a ∈ l) (hb : b ∈ l) : a = b ∨ R a b ∨ R b a :=
  List.Pairwise.forall_of_forall_of_flip (R := fun a b => a = b ∨ R a b ∨ R b a) (fun _ _ => Or.inl rfl)
    (h.imp fun h => Or.inr (Or.inl h)) (h.imp fun h => Or.inr (Or.inr h)) ha hb

theorem nodup_lt_length {l : List Nat} {n : Nat} (hnd : l.Nodup) (h : ∀ x ∈ l, x < n) : l.length ≤ n := by
  have := hnd.length_le_of_subset (l₂ := List.range n) fun x hx => List.mem_range.2 (h x hx)
  rwa [List.length_range] at this

theorem foldl_flatten {σ : Type w} {f : σ → List α → σ} (nil : ∀ s, f s [] = s) (app : ∀ s a b, f (f s a) b = f s (a ++ b))
    (cs : List (List α)) (s : σ) : cs.foldl f s = f s cs.flatten := by
  induction cs generalizing s with
  | nil => exact (nil s).symm
  | cons c t ih => rw [List.foldl_cons, ih, app, List.flatten_cons]

end Firefly
