import Firefly.Spec.Term
/-!
Lemmas about the abstract console of C18 (`Spec/Term.lean`, `Console`): what `write`, `scrollUp`
and `fill` do to the cell shown at a position, and that they keep the screen's shape.
-/
namespace Firefly.VtCons
open Firefly.Vt Firefly.Term

/-- shape of a console screen: `h` lines of `w` cells -/
structure WF (k : Console) : Prop where
  len : k.cells.length = k.h
  rows : ∀ r, r < k.h → (k.cells.getD r []).length = k.w

theorem at_eq (k : Console) (r c : Nat) : k.at r c = ((k.cells[r]?.getD [])[c]?).getD default := by
  simp [Console.at, List.getD_eq_getElem?_getD]

theorem row_eq {k : Console} (wf : WF k) {r : Nat} (hr : r < k.h) :
    ∃ line, k.cells[r]? = some line ∧ line.length = k.w := by
  have h1 : r < k.cells.length := by rw [wf.len]; exact hr
  refine ⟨k.cells[r], by simp [h1], ?_⟩
  have := wf.rows r hr
  simpa [List.getD_eq_getElem?_getD, h1] using this

theorem new_wf (w h : Nat) (c : Cell) : WF (Console.new w h c) := by
  constructor
  · simp [Console.new]
  · intro r hr
    have hr' : r < h := hr
    simp [Console.new, List.getD_eq_getElem?_getD, hr']

/-- `k'` is the screen `k` redrawn with `F r c` at `(r, c)`: same shape, still well-formed, no new
request outside the grid -/
structure Redraw (k k' : Console) (F : Nat → Nat → Cell) : Prop where
  w : k'.w = k.w
  h : k'.h = k.h
  wf : WF k'
  outside : k'.outside = k.outside
  cell : ∀ r c, r < k.h → c < k.w → k'.at r c = F r c

theorem Redraw.trans {k k' k'' : Console} {F G H : Nat → Nat → Cell} (a : Redraw k k' F) (b : Redraw k' k'' G)
    (h : ∀ r c, r < k.h → c < k.w → G r c = H r c) : Redraw k k'' H :=
  ⟨b.w.trans a.w, b.h.trans a.h, b.wf, b.outside.trans a.outside, fun r c hr hc =>
    (b.cell r c (a.h ▸ hr) (a.w ▸ hc)).trans (h r c hr hc)⟩

theorem Redraw.vals {k k' : Console} {F G : Nat → Nat → Cell} (a : Redraw k k' F)
    (h : ∀ r c, r < k.h → c < k.w → F r c = G r c) : Redraw k k' G :=
  ⟨a.w, a.h, a.wf, a.outside, fun r c hr hc => (a.cell r c hr hc).trans (h r c hr hc)⟩

theorem write_in {k : Console} (wf : WF k) (ch fg bg : UInt8) {x y : Nat}
    (hx : 1 ≤ x ∧ x ≤ k.w) (hy : 1 ≤ y ∧ y ≤ k.h) :
    Redraw k (k.write ch fg bg x y) fun r c => if r = y - 1 ∧ c = x - 1 then ⟨ch, fg, bg⟩ else k.at r c := by
  have hin : 1 ≤ x ∧ x ≤ k.w ∧ 1 ≤ y ∧ y ≤ k.h := ⟨hx.1, hx.2, hy.1, hy.2⟩
  have e : k.write ch fg bg x y =
      { k with cells := k.cells.modify (y - 1) fun line => line.set (x - 1) ⟨ch, fg, bg⟩ } := by
    simp [Console.write, hin]
  rw [e]
  refine ⟨rfl, rfl, ⟨by simp [wf.len], ?_⟩, rfl, ?_⟩
  · intro r hr
    obtain ⟨line, hl, hlen⟩ := row_eq wf (show r < k.h from hr)
    simp only [List.getD_eq_getElem?_getD, List.getElem?_modify, hl, Option.map_eq_map, Option.map_some,
      Option.getD_some]
    split <;> simp [hlen]
  · intro r c hr hc
    obtain ⟨line, hl, hlen⟩ := row_eq wf hr
    simp only [at_eq, List.getElem?_modify, hl, Option.map_eq_map, Option.map_some, Option.getD_some]
    by_cases h1 : y - 1 = r
    · simp only [h1, if_true, List.getElem?_set]
      by_cases h2 : x - 1 = c
      · have : c < line.length := by rw [hlen]; exact hc
        simp [h2, this]
      · have h2' : ¬ c = x - 1 := fun h => h2 h.symm
        simp [h2, h2']
    · have h1' : ¬ r = y - 1 := fun h => h1 h.symm
      simp [h1, h1']

theorem scrollUp_at {k : Console} (wf : WF k) {n : Nat} (hn : 1 ≤ n ∧ n ≤ k.h) :
    Redraw k (k.scrollUp n) fun r c => if r + n < k.h then k.at (r + n) c else k.at r c := by
  have hn' : ¬ (n = 0 ∨ n > k.h) := by omega
  have e : k.scrollUp n = { k with cells := k.cells.drop n ++ k.cells.drop (k.h - n) } := by
    unfold Console.scrollUp; rw [if_neg hn']
  have hlen := wf.len
  have rowAt : ∀ r, r < k.h → (k.cells.drop n ++ k.cells.drop (k.h - n))[r]? =
      if r + n < k.h then k.cells[r + n]? else k.cells[r]? := by
    intro r hr
    rw [List.getElem?_append, List.length_drop, hlen, List.getElem?_drop, List.getElem?_drop]
    by_cases c1 : r + n < k.h
    · rw [if_pos (by omega), if_pos c1, Nat.add_comm]
    · rw [if_neg (by omega), if_neg c1, show k.h - n + (r - (k.h - n)) = r by omega]
  rw [e]
  refine ⟨rfl, rfl, ⟨?_, ?_⟩, rfl, ?_⟩
  · show (k.cells.drop n ++ k.cells.drop (k.h - n)).length = k.h
    rw [List.length_append, List.length_drop, List.length_drop, hlen]; omega
  · intro r hr
    have hr' : r < k.h := hr
    have h1 := wf.rows (r + n)
    have h2 := wf.rows r hr'
    simp only [List.getD_eq_getElem?_getD, rowAt r hr'] at h1 h2 ⊢
    split
    · exact h1 ‹_›
    · exact h2
  · intro r c hr hc
    simp only [at_eq, rowAt r hr]
    split <;> rfl

theorem fill_in {k : Console} (wf : WF k) {x y fw fh : Nat} (fg bg : UInt8)
    (hin : 1 ≤ x ∧ 1 ≤ y ∧ x + fw ≤ k.w + 1 ∧ y + fh ≤ k.h + 1) :
    Redraw k (k.fill x y fw fh fg bg) fun r c =>
      if y ≤ r + 1 ∧ r + 1 < y + fh ∧ x ≤ c + 1 ∧ c + 1 < x + fw then ⟨32, fg, bg⟩ else k.at r c := by
  have e : k.fill x y fw fh fg bg = { k with cells := Console.fillCells k.cells x y fw fh fg bg } := by
    unfold Console.fill
    simp only [hin, and_self, if_true]
  rw [e]
  unfold Console.fillCells
  refine ⟨rfl, rfl, ⟨by simp [wf.len], ?_⟩, rfl, ?_⟩
  · intro r hr
    obtain ⟨line, hl, hlen⟩ := row_eq wf (show r < k.h from hr)
    simp only [List.getD_eq_getElem?_getD, List.getElem?_mapIdx, hl, Option.map_some, Option.getD_some]
    split <;> simp [hlen]
  · intro r c hr hc
    obtain ⟨line, hl, hlen⟩ := row_eq wf hr
    have hcl : c < line.length := by rw [hlen]; exact hc
    simp only [at_eq, List.getElem?_mapIdx, hl, Option.map_some, Option.getD_some]
    by_cases c1 : y ≤ r + 1 ∧ r + 1 < y + fh
    · simp only [c1, and_self, if_true, true_and, List.getElem?_mapIdx]
      have : line[c]? = some line[c] := by simp [hcl]
      rw [this]
      by_cases c2 : x ≤ c + 1 ∧ c + 1 < x + fw <;> simp [c2]
    · have : ¬ (y ≤ r + 1 ∧ r + 1 < y + fh ∧ x ≤ c + 1 ∧ c + 1 < x + fw) := fun h => c1 ⟨h.1, h.2.1⟩
      simp [c1, this]

theorem scrollFill_redraw {k : Console} (wf : WF k) (h1 : 1 ≤ k.h) (fg bg : UInt8) :
    Redraw k ((k.scrollUp 1).fill 1 k.h k.w 1 fg bg) fun r c => if r + 1 < k.h then k.at (r + 1) c else ⟨32, fg, bg⟩ := by
  have s := scrollUp_at wf (n := 1) ⟨Nat.le_refl 1, h1⟩
  refine s.trans (fill_in (x := 1) (y := k.h) (fw := k.w) (fh := 1) s.wf fg bg (by rw [s.w, s.h]; omega)) fun r c hr hc => ?_
  rw [s.cell r c hr hc]
  by_cases l : r + 1 < k.h
  · rw [if_neg (by omega), if_pos l, if_pos l]
  · rw [if_pos (by omega), if_neg l]

theorem applyLog_append (k : Console) (a b : List Call) :
    k.applyLog (a ++ b) = (k.applyLog b).applyLog a := by
  simp [Console.applyLog, List.foldr_append]

theorem applyLog_cons (k : Console) (c : Call) (log : List Call) :
    k.applyLog (c :: log) = (k.applyLog log).apply c := rfl

theorem cells_ext {k : Console} (wf : WF k) {g : Grid} (hl : g.length = k.h)
    (hrow : ∀ r, r < k.h → (g.getD r []).length = k.w)
    (hat : ∀ r c, r < k.h → c < k.w → k.at r c = (g.getD r []).getD c default) : k.cells = g := by
  apply List.ext_getElem (by rw [wf.len, hl])
  intro r h1 h2
  have hr : r < k.h := by rw [← wf.len]; exact h1
  have e1 := wf.rows r hr
  have e2 := hrow r hr
  simp only [List.getD_eq_getElem?_getD, List.getElem?_eq_getElem h1, List.getElem?_eq_getElem h2,
    Option.getD_some] at e1 e2
  apply List.ext_getElem (by rw [e1, e2])
  intro c h3 h4
  have hc : c < k.w := by rw [← e1]; exact h3
  have := hat r c hr hc
  simpa [Console.at, List.getD_eq_getElem?_getD, List.getElem?_eq_getElem h1, List.getElem?_eq_getElem h2,
    List.getElem?_eq_getElem h3, List.getElem?_eq_getElem h4] using this

end Firefly.VtCons
