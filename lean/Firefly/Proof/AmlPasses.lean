import Firefly.Proof.AmlRun
/-!
Panic-freedom and well-formedness of the tree passes that do not free objects
(`attachSiblingsAsArgs`, `connectNamedObjArgs`, …; the one that does, `mergeScopeDirectives`, is in `Proof/AmlMerge.lean`):
whatever they return, they do not end in `.panic` (`NPs` of `Proof/AmlRun.lean`), and in the state they return the pool satisfies
`C13.WF` with the same set of live slots.
Termination (the fuel bound) is not part of these statements.  The tree edits the passes are made of (`detach`+`append`,
`free`, a payload update) are stated once, as steps (`MoveEff`, `FreeEff`, `UpdEff`): each is the pool's record of the edit
(`C13.Moved`, `C13.Freed`, `Upd`) with `TP` of the result and what is left of the rest of the state.
-/

namespace Firefly.AmlParser
open Firefly.AmlLex Firefly.AmlTree Firefly.C13
open Firefly.Gen.C12

/-- the move `detach(P m, m); append(T, m)` (`C13.Moved`) as a step of a tree pass -/
structure MoveEff (s s2 : PState) (T m : Nat) : Prop extends Moved s.tree s2.tree T m where
  tp : TP s2
  mv : Mv s s2

/-- what a move asks of its three objects can be read off it -/
theorem MoveEff.lives {s s2 : PState} {T m : Nat} (mv : MoveEff s s2 T m) :
    live s.tree T = true ∧ live s.tree m = true ∧ live s.tree (C13.P s.tree m) = true :=
  let ⟨_, u, a⟩ := mv.edits
  ⟨by rw [← u.pay.live]; exact a.lo, u.lv, mv.lp⟩

theorem Mv.ofPay {s s' : PState} (sp : SamePay s.tree s'.tree) (hs : s' = { s with tree := s'.tree }) : Mv s s' :=
  ⟨sp.size, sp.live, by rw [hs], by rw [hs], by rw [hs], by rw [hs], by rw [hs]⟩

theorem move_eff {s : PState} (h : TP s) {T m : Nat} (hT : live s.tree T = true) (hm : live s.tree m = true)
    (hpl : live s.tree (C13.P s.tree m) = true) (hanc : ¬ anc s.tree m T) :
    ∃ s1 s2, tree (·.detach (C13.P s.tree m) m) s = .ok ((), s1) ∧ tree (·.append T m) s1 = .ok ((), s2) ∧
      MoveEff s s2 T m := by
  obtain ⟨t1, t2, e1, e2, mo⟩ := move_spec h.wf hT hm hpl hanc
  exact ⟨_, _, tree_ex e1, tree_ex (s := { s with tree := t1 }) e2, mo, h.ofTree mo.wf2 mo.pay, .ofPay mo.pay rfl⟩

/-- `free(y)` of a live childless `y` -/
structure FreeEff (s s1 : PState) (y : Nat) : Prop extends Freed s.tree s1.tree y where
  wf : WF s.tree
  ly : live s.tree y = true
  fy : Fi s.tree y = INV
  tp : TP s1
  rest : s1 = { s with tree := s1.tree }

theorem free_step {s : PState} (h : TP s) {y : Nat} (hl : live s.tree y = true) (hfi : Fi s.tree y = INV) (hy0 : y ≠ 0) :
    ∃ s1, tree (·.free y) s = .ok ((), s1) ∧ FreeEff s s1 y := by
  obtain ⟨t', e, w', f⟩ := free_spec h.wf hl hfi
  refine ⟨_, tree_ex e, f, h.wf, hl, hfi, ⟨w', (f.live_iff 0).2 ⟨h.root, Ne.symm hy0⟩, fun x hx => ?_⟩, rfl⟩
  obtain ⟨hx0, hxy⟩ := (f.live_iff x).1 hx
  show InfoOK (slot t' x).infoIndex
  rw [pay_info (f.pay x hxy)]; exact h.info x hx0

/-- the root is not freed -/
theorem FreeEff.ne_root {s s1 : PState} {y : Nat} (fe : FreeEff s s1 y) : (0 : Nat) ≠ y := ((fe.live_iff 0).1 fe.tp.root).2

/-- what a round of a reverse walk may have done, seen from `x`: nothing was created or freed, and every ancestor-or-self of
`x` has the parent it had.  The second half does not compose without the first: the ancestors of `x` in the middle state are
known through it (`Rev.anc`). -/
structure Rev (s s' : PState) (x : Nat) : Prop where
  mv : Mv s s'
  par : ∀ a, anc s.tree a x → C13.P s'.tree a = C13.P s.tree a

theorem Rev.refl (s : PState) (x : Nat) : Rev s s x := ⟨Mv.refl s, fun _ _ => rfl⟩

theorem Rev.anc {s s' : PState} {x : Nat} (r : Rev s s' x) (h : TP s) (hx : live s.tree x = true) (a : Nat) :
    anc s'.tree a x ↔ anc s.tree a x :=
  anc_congr h.wf (by rw [r.mv.size]; exact h.wf.size_le) hx (fun y hy => ⟨r.mv.alive (anc_left_live hy), r.par y hy⟩) a

theorem Rev.trans {a b c : PState} {x : Nat} (r1 : Rev a b x) (h : TP a) (hx : live a.tree x = true) (r2 : Rev b c x) :
    Rev a c x :=
  ⟨r1.mv.trans r2.mv, fun y hy => by rw [r2.par y ((r1.anc h hx y).2 hy), r1.par y hy]⟩

/-- the ancestors of the parent are ancestors of the child -/
theorem Rev.lift {s s' : PState} {c obj : Nat} (r : Rev s s' c) (h : TP s) (hc : live s.tree c = true)
    (hp : C13.P s.tree c = obj) : Rev s s' obj := by
  refine ⟨r.mv, fun a ha => r.par a ?_⟩
  by_cases hca : c = a
  · rw [← hca]; exact h.wf.anc_self hc
  · rw [h.wf.anc_step hc hca, hp]; exact ha

theorem Rev.self {s s' : PState} {x : Nat} (r : Rev s s' x) (h : TP s) (hx : live s.tree x = true) :
    C13.P s'.tree x = C13.P s.tree x := r.par x (h.wf.anc_self hx)

/-- a step that leaves every link alone -/
theorem Rev.ofLinks {s s' : PState} (m : Mv s s') (sl : SameLinks s.tree s'.tree) (x : Nat) : Rev s s' x := ⟨m, fun a _ => sl.p a⟩

/-- a move of an object that is no ancestor-or-self of `x` -/
theorem MoveEff.rev {s s2 : PState} {T m x : Nat} (mv : MoveEff s s2 T m) (hna : ¬ anc s.tree m x) : Rev s s2 x :=
  ⟨mv.mv, fun a ha => by rw [mv.p, if_neg]; rintro rfl; exact hna ha⟩

/-- **The reverse argument walk**, for any pair `V`, `L` of functions that unfold to `visitBody` and `revLoopBody` (the three
passes do, by `rfl`): it keeps an invariant `I` that the rest of a round keeps.  A round may move objects, but not an
ancestor of the argument it is called on (`Rev`), so the arguments still to be visited keep their parent.  Of the rest of
a round, `after obj a k`, the walk asks only that it returns or goes on with `k` in a state its step can have left. -/
theorem revWalk_np {after : Nat → Nat → P PRes → P PRes} {V : Nat → Nat → P PRes} {L : Nat → Nat → Nat → P PRes}
    {I : PState → Prop} (hw : RevWalk after V L) (hI : ∀ {s}, I s → TP s)
    (hafter : ∀ {s : PState} {obj a : Nat} {k : P PRes} {Q : PRes → PState → Prop}, I s → live s.tree obj = true →
      live s.tree a = true → C13.P s.tree a = obj → (∀ res s1, I s1 → Rev s s1 a → Q res s1) →
      (∀ s1, I s1 → Rev s s1 a → NPs k s1 Q) → NPs (after obj a k) s Q) : ∀ (f : Nat),
    (∀ {s : PState} (objIndex : Nat), I s → live s.tree objIndex = true →
      NPs (V f objIndex) s (fun _ s' => I s' ∧ Rev s s' objIndex)) ∧
    (∀ {s : PState} (obj argIndex : Nat), I s → live s.tree obj = true →
      (argIndex = INV ∨ (live s.tree argIndex = true ∧ C13.P s.tree argIndex = obj)) →
      NPs (L f obj argIndex) s (fun _ s' => I s' ∧ Rev s s' obj)) := by
  intro f
  induction f with
  | zero => exact ⟨fun _ _ _ => by rw [hw.v0]; exact NPs.fuel, fun _ _ _ _ _ => by rw [hw.l0]; exact NPs.fuel⟩
  | succ f ih =>
    constructor
    · intro s objIndex hi ho
      rw [hw.v]
      exact NPs.derefObj ho (ih.2 objIndex _ hi ho ((hI hi).wf.la_child ho))
    · intro s obj argIndex hi ho ha
      have h := hI hi
      rw [hw.l]
      unfold revLoopBody
      by_cases h0 : argIndex = invalidIndex
      · rw [if_pos h0]; exact NPs.pure ⟨hi, Rev.refl s _⟩
      · rw [if_neg h0]
        obtain ⟨hal, hap⟩ := ha.resolve_left h0
        refine NPs.derefObj hal ?_
        rw [h.wf.index_eq argIndex (live_lt hal)]
        refine NPs.bind (ih.1 argIndex hi hal) ?_
        rintro res s1 ⟨hi1, r1⟩
        have ro1 : Rev s s1 obj := r1.lift h hal hap
        refine NPs.ite (fun _ => NPs.pure ⟨hi1, ro1⟩) fun _ => ?_
        have ho1 : live s1.tree obj = true := r1.mv.alive ho
        have ha1 : live s1.tree argIndex = true := r1.mv.alive hal
        have hp1 : C13.P s1.tree argIndex = obj := by rw [r1.self h hal]; exact hap
        -- whatever the step did from `s1`, seen from `s` and from `obj`
        have ro : ∀ {s2}, Rev s1 s2 argIndex → Rev s s2 obj := fun r2 => ro1.trans h ho (r2.lift (hI hi1) ha1 hp1)
        refine hafter hi1 ho1 ha1 hp1 (fun _ s2 hi2 r2 => ⟨hi2, ro r2⟩) fun s2 hi2 r2 => ?_
        have ha2 : live s2.tree argIndex = true := r2.mv.alive ha1
        have hp2 : C13.P s2.tree argIndex = obj := by rw [r2.self (hI hi1) ha1]; exact hp1
        exact NPs.step (prevOf_live ha2) ((ih.2 obj (Pv s2.tree argIndex) hi2 (r2.mv.alive ho1)
          (((hI hi2).wf.pv_sib ha2).imp_right fun hc => ⟨hc.1, hc.2.trans hp2⟩)).mono
          fun _ s3 q => ⟨q.1, (ro r2).trans h ho q.2⟩)

theorem afterStep_np {step : Nat → Nat → P Bool} {I : PState → Prop}
    (hstep : ∀ {s : PState} {obj a : Nat}, I s → live s.tree obj = true → live s.tree a = true → C13.P s.tree a = obj →
      NPs (step obj a) s (fun _ s' => I s' ∧ Rev s s' a))
    {s : PState} {obj a : Nat} {k : P PRes} {Q : PRes → PState → Prop} (hi : I s) (ho : live s.tree obj = true)
    (ha : live s.tree a = true) (hp : C13.P s.tree a = obj) (hex : ∀ res s1, I s1 → Rev s s1 a → Q res s1)
    (hk : ∀ s1, I s1 → Rev s s1 a → NPs k s1 Q) : NPs (afterStep step obj a k) s Q :=
  NPs.bind (hstep hi ho ha hp) fun _ s1 ⟨i1, r1⟩ => NPs.ite (fun _ => NPs.pure (hex _ s1 i1 r1)) fun _ => hk s1 i1 r1

/-- the cursor of `attachSiblingsAsArgs`: `i` is the sibling behind `a`, and `a` is `x` or — `x` being the last argument of
`p`, and `u` set — `p` -/
def Behind (t : ObjectTree) (p x : Nat) (u : Bool) (i : Nat) : Prop :=
  (u = true → C13.P t x = p) ∧ ∃ a, live t a = true ∧ i = Nx t a ∧ (a = x ∨ (u = true ∧ a = p ∧ Nx t x = INV))

/-- what is behind `x` can be moved under `x` -/
theorem Behind.movable {t : ObjectTree} (w : WF t) {p x S : Nat} {u : Bool} (hx : live t x = true) (b : Behind t p x u S)
    (hS : S ≠ INV) : live t S = true ∧ live t (C13.P t S) = true ∧ x ≠ C13.P t S ∧ x ≠ S ∧ ¬ anc t S x ∧
      (C13.P t S = C13.P t x ∨ u = true) := by
  obtain ⟨hup, a, ha, rfl, hax⟩ := b
  obtain ⟨hl, hpv, hpp, hlp, hna⟩ := next_sib w ha hS
  rw [hpp]
  rcases hax with rfl | ⟨hu, rfl, _⟩
  · exact ⟨hl, hlp, fun e => w.P_ne_self ha e.symm, fun e => w.Nx_ne_self ha e.symm, hna, Or.inl rfl⟩
  · have hpx := hup hu
    have hne : x ≠ Nx t a := fun e => w.P_ne_self ha (by rw [← hpp, ← e, hpx])
    exact ⟨hl, hlp, fun e => w.P_P_ne hx ha hpx e.symm, hne, not_anc_child w hx hpx hne hna, Or.inr hu⟩

/-- and once it has been, what was behind it is behind `x` -/
theorem Behind.moved {t t2 : ObjectTree} (w : WF t) {p x S : Nat} {u : Bool} (hx : live t x = true) (b : Behind t p x u S)
    (hS : S ≠ INV) (mv : Moved t t2 x S) : Behind t2 p x u (Nx t S) := by
  obtain ⟨_, _, hxp, hxS, _, _⟩ := b.movable w hx hS
  obtain ⟨hup, a, ha, rfl, hax⟩ := b
  obtain ⟨hl, hpv, hpp, _, _⟩ := next_sib w ha hS
  have haS : a ≠ Nx t a := fun e => w.Nx_ne_self ha e.symm
  -- the last argument of `x` is neither `x` nor its parent
  have hla : ∀ y, y = x ∨ C13.P t x = y → ¬ (y = La t x ∧ La t x ≠ INV) := by
    rintro y hy ⟨e, h0⟩
    have hpl := ((w.lP hx).la h0).1
    rw [← e] at hpl
    rcases hy with rfl | hy
    · exact w.P_ne_self hx hpl
    · exact w.P_P_ne hx (e ▸ w.live_la hx h0) hy hpl
  have hnx := mv.nx_exact hxp
  have hnxa : Nx t2 a = Nx t (Nx t a) := by
    rw [hnx, if_neg haS, if_neg (hla a (hax.imp id fun h => (hup h.1).trans h.2.1.symm)),
      if_pos ⟨hpv.symm, by rw [hpv]; exact live_ne_INV w.size_le ha⟩]
  refine ⟨fun hu => by rw [mv.p, if_neg hxS]; exact hup hu, a, by rw [mv.pay.live]; exact ha, hnxa.symm,
    hax.imp id fun ⟨hu, hap, hn⟩ => ⟨hu, hap, ?_⟩⟩
  rw [hnx, if_neg hxS, if_neg (hla x (Or.inl rfl)), if_neg fun c => w.P_ne_self hx (by rw [hup hu, ← hap, ← hpv]; exact c.1.symm)]
  exact hn

/-- `attachSiblingsAsArgs(parentObj, targetObj, numArgs, useParentSiblings)` started at the sibling behind
`targetObj` (or, those exhausted, behind its parent): never panics, keeps the pool well-formed and frees nothing; and it
keeps any `J` that each of its moves keeps (what is moved is a sibling of `targetObj`, or of its parent when
`useParentSiblings` is set) -/
theorem attach_np (parentObj targetObj : Nat) (useParent : Bool) {J : PState → Prop}
    (hJ : ∀ {s s2 : PState} {m : Nat}, J s → (C13.P s.tree m = C13.P s.tree targetObj ∨ useParent = true) →
      MoveEff s s2 targetObj m → J s2) :
    ∀ (n sib0 : Nat) {s : PState}, TP s → J s → live s.tree targetObj = true → live s.tree parentObj = true →
      Behind s.tree parentObj targetObj useParent sib0 →
      NPs (attachSiblingsAsArgs parentObj targetObj useParent n sib0) s
        (fun _ s' => TP s' ∧ J s' ∧ Rev s s' targetObj ∧ SamePay s.tree s'.tree) := by
  intro n
  induction n with
  | zero =>
    intro sib0 s h hj _ _ _
    unfold attachSiblingsAsArgs
    exact NPs.pure ⟨h, hj, Rev.refl s _, SamePay.refl _⟩
  | succ n ih =>
    intro sib0 s h hj ht hpo hb
    have w := h.wf
    unfold attachSiblingsAsArgs
    extract_lets rest
    suffices main : ∀ S, Behind s.tree parentObj targetObj useParent S →
        NPs (rest S) s (fun _ s' => TP s' ∧ J s' ∧ Rev s s' targetObj ∧ SamePay s.tree s'.tree) by
      refine NPs.ite (fun hc => NPs.step (getObj_live hpo) (main _ ?_)) fun _ => main _ hb
      -- nothing is behind `targetObj`: go on behind its parent
      obtain ⟨hup, a, _, e, hax⟩ := hb
      exact ⟨hup, parentObj, hpo, rfl, Or.inr ⟨hc.2, rfl, hax.elim (fun ea => by rw [← ea, ← e]; exact hc.1) (·.2.2)⟩⟩
    intro S hb
    dsimp only [rest]
    refine NPs.ite (fun _ => NPs.pure ⟨h, hj, Rev.refl s _, SamePay.refl _⟩) fun hS0 => ?_
    obtain ⟨hSl, hpl, htp, hne, hna, hg⟩ := hb.movable w ht hS0
    refine NPs.derefObj hSl (NPs.deref hpl ?_)
    obtain ⟨s1, s2, e1, e2, mv⟩ := move_eff h ht hSl hpl hna
    refine NPs.step e1 (NPs.step e2 ?_)
    exact (ih (Nx s.tree S) mv.tp (hJ hj hg mv) (mv.mv.alive ht) (mv.mv.alive hpo)
      (hb.moved w ht hS0 mv.toMoved)).mono
      fun a s' hq => ⟨hq.1, hq.2.1, (mv.rev hna).trans h ht hq.2.2.1, mv.pay.trans hq.2.2.2⟩

/-- `updObj i f` for an `f` that keeps the links and the liveness of the slot (`Upd`), as a step of a tree pass -/
structure UpdEff (s s1 : PState) (i : Nat) (f : Obj → Obj) : Prop extends Upd s.tree s1.tree i f where
  tp : TP s1
  mv : Mv s s1

theorem updObj_tp {s : PState} (h : TP s) {i : Nat} (hi : live s.tree i = true) (f : Obj → Obj) (hf : KeepsLinks f)
    (hl : KeepsLive s.tree i f) (hinfo : InfoOK (f (slot s.tree i)).infoIndex) :
    ∃ s1, updObj i f s = .ok ((), s1) ∧ UpdEff s s1 i f := by
  have u := upd_setAt s.tree (live_lt hi) f hf hl
  exact ⟨_, updObj_ex f (live_lt hi), u, tp_of_treeG (s := { s with tree := setAt s.tree i f }) (G.treeG_setAt h.treeG i f hf hl fun _ => hinfo),
    ⟨u.links.size, u.links.live, rfl, rfl, rfl, rfl, rfl⟩⟩

theorem liftR_ex {α : Type} {x : Res α} {a : α} (e : x = .ok a) (s : PState) : liftR x s = .ok (a, s) := by
  unfold liftR; rw [e]; rfl

/-- the row `info` has no `TermArg` / `DataRefObj` argument -/
def NoTerm (info : Nat) : Prop :=
  ∀ j, j < argCnt info → argAt info j ≠ argTypeTermArg ∧ argAt info j ≠ argTypeDataRefObj

/-- `firstTermArg` reads the table only: it returns, in the state it was called in, and with `argCount` when no argument
from `i` on is a `TermArg` / `DataRefObj` -/
theorem firstTermArg_spec {info : Nat} (hinfo : InfoOK info) (argCount : Nat) : ∀ (n i : Nat) (s : PState), i + n = argCount →
    ∃ v, firstTermArg info n i argCount s = .ok (v, s) ∧
      ((∀ j, i ≤ j → j < argCount → argAt info j ≠ argTypeTermArg ∧ argAt info j ≠ argTypeDataRefObj) → v = argCount) := by
  intro n
  induction n with
  | zero => intro i s h; unfold firstTermArg; exact ⟨i, rfl, fun _ => h⟩
  | succ n ih =>
    intro i s h
    unfold firstTermArg
    rw [if_pos (by omega), opArg_of_info hinfo i, bind_run (optP_ex _ s)]
    by_cases ht : argAt info i = argTypeTermArg ∨ argAt info i = argTypeDataRefObj
    · rw [if_pos ht]
      exact ⟨i, rfl, fun hno => absurd ht (not_or.2 (hno i (Nat.le_refl i) (by omega)))⟩
    · rw [if_neg ht]
      obtain ⟨v, e, hv⟩ := ih (i + 1) s (by omega)
      exact ⟨v, e, fun hno => hv fun j hj => hno j (by omega)⟩

/-- a row without `TermArg` / `DataRefObj` arguments: `firstTermArg` runs to the end -/
theorem firstTermArg_noTerm {info : Nat} (hinfo : InfoOK info) (argCount : Nat)
    (hno : ∀ j, j < argCount → argAt info j ≠ argTypeTermArg ∧ argAt info j ≠ argTypeDataRefObj)
    (n i : Nat) (s : PState) (h : i + n = argCount) : firstTermArg info n i argCount s = .ok (argCount, s) := by
  obtain ⟨v, e, hv⟩ := firstTermArg_spec hinfo argCount n i s h
  rw [e, hv fun j _ => hno j]

theorem numArgs_np {s : PState} (h : TP s) {obj : Nat} (ho : live s.tree obj = true) :
    ∃ k, numArgs obj s = .ok (k, s) :=
  ⟨_, bind_ex' (s1 := s) rfl (liftR_ex (h.wf.numArgs_eq ho) s)⟩

theorem namedInfo_some {i : Nat} (h : InfoOK i) : (namedInfo i).isSome = true := by
  obtain ⟨fl, hfl⟩ := opFlags_of_info h
  unfold namedInfo; rw [hfl]; rfl

theorem tableHandle_ex (s : PState) : tableHandle s = .ok (s.tableHandle, s) := rfl

theorem passCounters_ex (s : PState) : passCounters s = .ok ((s.resolvePasses, s.relocatedObjects), s) := rfl

/-- the table row of `x` carries `flagNamed` -/
def NamedAt (s : PState) (x : Nat) : Prop :=
  ∃ fl, opFlags (slot s.tree x).infoIndex = some fl ∧ hasFlag fl flagNamed = true

theorem NamedAt.ofInfo {s s' : PState} {x : Nat} (h : NamedAt s x) (e : (slot s'.tree x).infoIndex = (slot s.tree x).infoIndex) :
    NamedAt s' x := by
  unfold NamedAt; rw [e]; exact h

/-- An invariant `I` of `connectNamedObjArgs` and `relocateNamedObjects`: it implies `TP` and is kept by each edit these
passes make, given what the code has checked when it makes the edit.  The walks below are proved once, for any such
`I`; `TP` itself is one, the merge invariant with the `Method` shapes (`MIJ`, Proof/AmlMerge.lean) another. -/
structure PassInv (I : PState → Prop) : Prop where
  tp : ∀ {s}, I s → TP s
  /-- a change of the counters -/
  counters : ∀ {s s'}, I s → s'.tree = s.tree → Mv s s' → I s'
  /-- `m` moves to the end of the list of `T`.  A child `c` of the old parent (`m` itself, or `T`) has arguments and is
  not a scope block; `T` is a scope block, or a named object with arguments whose row has a term argument. -/
  move : ∀ {s s2 T m c}, I s → MoveEff s s2 T m → live s.tree c = true → C13.P s.tree c = C13.P s.tree m → Fi s.tree c ≠ INV →
    (slot s.tree c).opcode ≠ opIntScopeBlock →
    ((slot s.tree T).opcode = opIntScopeBlock ∨
      (NamedAt s T ∧ Fi s.tree T ≠ INV ∧ ¬ NoTerm (slot s.tree T).infoIndex)) → I s2
  /-- the first argument of a named object gets a `[]byte` value -/
  updVal : ∀ {s s1 o off len}, I s → UpdEff s s1 (Fi s.tree o) (fun a => { a with value := .bytes off len }) →
    live s.tree o = true → NamedAt s o → Fi s.tree o ≠ INV → I s1
  /-- a named object with arguments gets its name -/
  updName : ∀ {s s1 o n}, I s → UpdEff s s1 o (fun a => { a with name := n }) → live s.tree o = true → NamedAt s o →
    Fi s.tree o ≠ INV → I s1

theorem TP.congr {s s' : PState} (h : TP s) (ht : s'.tree = s.tree) : TP s' :=
  ⟨by rw [ht]; exact h.wf, by rw [ht]; exact h.root, by rw [ht]; exact h.info⟩

theorem PassInv.ofTP : PassInv TP :=
  ⟨id, fun h ht _ => h.congr ht, fun _ mv _ _ _ _ _ => mv.tp, fun _ u _ _ _ => u.tp, fun _ u _ _ _ => u.tp⟩

section walks
variable {I : PState → Prop} (hI : PassInv I)
include hI

/-- one iteration of the `connectNamedObjArgs` loop after the recursive call -/
theorem connectNamedStep_walk (d : Bytes) {s : PState} (h : I s) {obj argObj : Nat} (ho : live s.tree obj = true)
    (ha : live s.tree argObj = true) :
    NPs (connectNamedStep d obj argObj) s (fun _ s' => I s' ∧ Rev s s' argObj) := by
  have htp := hI.tp h
  unfold connectNamedStep
  refine NPs.step (getObj_live ha) ?_
  have hinfo := htp.info argObj ha
  obtain ⟨fl, hfl⟩ := opFlags_of_info hinfo
  rw [hfl]
  refine NPs.step (optP_ex fl s) ?_
  refine NPs.step (tableHandle_ex s) ?_
  refine NPs.ite (fun _ => NPs.pure ⟨h, Rev.refl s _⟩) fun hc => ?_
  · have hnamed : NamedAt s argObj := ⟨fl, hfl, by
      by_cases hq : hasFlag fl flagNamed = true
      · exact hq
      · exact absurd (Or.inl (by simp [hq])) hc⟩
    have hfi : Fi s.tree argObj ≠ INV := fun e => hc (Or.inr (Or.inr (Or.inl e)))
    have hnsb : (slot s.tree argObj).opcode ≠ opIntScopeBlock := fun e => hc (Or.inr (Or.inr (Or.inr e)))
    refine NPs.derefObj (htp.wf.live_fi ha hfi) ?_
    split
    · exact NPs.pure ⟨h, Rev.refl s _⟩
    · rename_i nb _
      refine NPs.ite (fun _ => NPs.pure ⟨h, Rev.refl s _⟩) fun _ => ?_
      · obtain ⟨s1, e1, u1⟩ := updObj_tp htp ha
          (fun o => { o with name := Name.ofList (nb.2.2.drop (nb.2.1 - Gen.C12.amlNameLen)) }) (fun _ => rfl) Iff.rfl hinfo
        refine NPs.step e1 ?_
        have hi1 : I s1 := hI.updName h u1 ha hnamed hfi
        have m1 := u1.mv
        have hinfo1 : (slot s1.tree argObj).infoIndex = (slot s.tree argObj).infoIndex := by rw [u1.self]
        have hop1 : (slot s1.tree argObj).opcode = (slot s.tree argObj).opcode := by rw [u1.self]
        rw [opArgCount_of_info hinfo]
        refine NPs.step (optP_ex _ s1) ?_
        obtain ⟨ti, eti, hti⟩ := firstTermArg_spec hinfo _ _ 0 s1 (Nat.zero_add _)
        refine NPs.step eti ?_
        have ha1 : live s1.tree argObj = true := m1.alive ha
        obtain ⟨k, ek⟩ := numArgs_np u1.tp ha1
        refine NPs.step ek ?_
        refine NPs.ite (fun _ => NPs.pure ⟨hi1, .ofLinks m1 u1.links _⟩) fun hcnt => ?_
        · refine NPs.step (nextOf_live ha1) ?_
          -- the moves of `attachSiblingsAsArgs` keep `I` and what is known of `argObj`
          have := attach_np obj argObj false
            (J := fun s => I s ∧ NamedAt s argObj ∧ (slot s.tree argObj).opcode ≠ opIntScopeBlock ∧ Fi s.tree argObj ≠ INV ∧
              ¬ NoTerm (slot s.tree argObj).infoIndex)
            (fun {s s2 m} hj hpp mv => by
              obtain ⟨hi, hn, hsb, hf, hnt⟩ := hj
              obtain ⟨ht, hm, _⟩ := mv.lives
              have hpp' := hpp.resolve_right (by simp)
              have e := mv.pay.pay argObj
              exact ⟨hI.move hi mv ht hpp'.symm hf hsb (Or.inr ⟨hn, hf, hnt⟩), hn.ofInfo (pay_info e),
                by rw [pay_opcode e]; exact hsb,
                fi_ne_of_child mv.tp.wf (mv.mv.alive ht) (mv.mv.alive hm) (by rw [mv.p, if_pos rfl]),
                by rw [pay_info e]; exact hnt⟩)
            (argCnt (slot s.tree argObj).infoIndex - ti) (Nx s1.tree argObj) u1.tp
            ⟨hi1, hnamed.ofInfo hinfo1, by rw [hop1]; exact hnsb, by rw [u1.links.fi]; exact hfi,
              fun hno => hcnt (Or.inr (by rw [hinfo1] at hno; rw [hti fun j _ => hno j]; exact Nat.le_refl _))⟩
            ha1 (m1.alive ho) ⟨nofun, argObj, ha1, rfl, Or.inl rfl⟩
          refine NPs.bind this ?_
          intro res s3 hq
          have q : I s3 ∧ Rev s s3 argObj :=
            ⟨hq.2.1.1, (Rev.ofLinks m1 u1.links _).trans htp ha hq.2.2.1⟩
          exact NPs.ite (fun _ => NPs.pure q) fun _ => NPs.pure q

theorem connectNamed_walk (d : Bytes) : ∀ (f : Nat),
    (∀ {s : PState} (objIndex : Nat), I s → live s.tree objIndex = true →
      NPs (connectNamedObjArgs d f objIndex) s (fun _ s' => I s' ∧ Rev s s' objIndex)) ∧
    (∀ {s : PState} (obj argIndex : Nat), I s → live s.tree obj = true →
      (argIndex = INV ∨ (live s.tree argIndex = true ∧ C13.P s.tree argIndex = obj)) →
      NPs (connectNamedLoop d f obj argIndex) s (fun _ s' => I s' ∧ Rev s s' obj)) := by
  refine revWalk_np (connectNamed_rev d) hI.tp fun hi ho ha _ hex hk => ?_
  refine NPs.bind (connectNamedStep_walk hI d hi ho ha) ?_
  rintro (res | _) s1 ⟨i1, r1⟩
  · exact NPs.pure (hex res s1 i1 r1)
  · exact hk s1 i1 r1

end walks

/-- attached objects stay attached -/
def KeepAtt (s s' : PState) : Prop := ∀ x, C13.P s.tree x ≠ INV → C13.P s'.tree x ≠ INV

theorem KeepAtt.refl (s : PState) : KeepAtt s s := fun _ h => h
theorem KeepAtt.trans {a b c : PState} (h1 : KeepAtt a b) (h2 : KeepAtt b c) : KeepAtt a c := fun x h => h2 x (h1 x h)
theorem KeepAtt.ofLinks {s s' : PState} (h : SameLinks s.tree s'.tree) : KeepAtt s s' := fun x hx => by rw [h.p]; exact hx
/-- a move neither detaches nor attaches: what is moved had a parent and has one -/
theorem MoveEff.att {s s2 : PState} {T m : Nat} (mv : MoveEff s s2 T m) (x : Nat) :
    C13.P s2.tree x = INV ↔ C13.P s.tree x = INV := by
  obtain ⟨_, u, a⟩ := mv.edits
  have hT : T ≠ INV := live_ne_INV mv.wf.size_le (by rw [← u.pay.live]; exact a.lo)
  rw [mv.p]
  split
  · rename_i e; rw [e]; exact ⟨fun h => absurd h hT, fun h => absurd h (live_ne_INV mv.wf.size_le mv.lp)⟩
  · rfl

theorem MoveEff.keepAtt {s s2 : PState} {T m : Nat} (mv : MoveEff s s2 T m) : KeepAtt s s2 :=
  fun x hx h => hx ((mv.att x).1 h)

/-- An invariant of the passes, together with what relates the state to an earlier one `s0` (nothing created or freed,
what was attached still attached), is an invariant of the passes.  So the walk of `relocateNamedObjects` states only
that it keeps `I`; who wants the relation to the state `s` of a call makes the call at `hI.since s`. -/
theorem PassInv.since {I : PState → Prop} (hI : PassInv I) (s0 : PState) :
    PassInv (fun s => I s ∧ Mv s0 s ∧ KeepAtt s0 s) where
  tp h := hI.tp h.1
  counters h ht m := ⟨hI.counters h.1 ht m, h.2.1.trans m, fun x hx => by rw [ht]; exact h.2.2 x hx⟩
  move h mv hc hcp hcf hcsb hT := ⟨hI.move h.1 mv hc hcp hcf hcsb hT, h.2.1.trans mv.mv, h.2.2.trans mv.keepAtt⟩
  updVal h u ho hn hfi := ⟨hI.updVal h.1 u ho hn hfi, h.2.1.trans u.mv, h.2.2.trans (.ofLinks u.links)⟩
  updName h u ho hn hfi := ⟨hI.updName h.1 u ho hn hfi, h.2.1.trans u.mv, h.2.2.trans (.ofLinks u.links)⟩

/-- the loop of `scopeBlockOf` over the arguments of `par`: what it finds is a scope block among them -/
theorem findScopeBlock_np {s : PState} (h : TP s) (par : Nat) : ∀ (f i : Nat),
    (i = INV ∨ (live s.tree i = true ∧ C13.P s.tree i = par)) →
    NPs (findScopeBlock f i) s (fun r s' => s' = s ∧ ∀ x, r = some x → live s.tree x = true ∧
      (slot s.tree x).opcode = opIntScopeBlock ∧ C13.P s.tree x = par) := by
  intro f
  induction f with
  | zero => intro i _; unfold findScopeBlock; exact NPs.fuel
  | succ f ih =>
    intro i hi
    unfold findScopeBlock
    by_cases h0 : i = invalidIndex
    · rw [if_pos h0]; exact NPs.pure ⟨rfl, fun x hx => by cases hx⟩
    · rw [if_neg h0]
      obtain ⟨hl, hp⟩ := hi.resolve_left h0
      refine NPs.derefObj hl ?_
      exact NPs.ite (fun hop => NPs.pure ⟨rfl, fun x hx => by cases hx; exact ⟨hl, hop, hp⟩⟩)
        fun _ => ih _ ((h.wf.nx_sib hl).imp_right fun hn => ⟨hn.1, hn.2.trans hp⟩)

/-- `scopeBlockOf`: the scope block of the lookup result — the object itself or one of its arguments -/
theorem scopeBlockOf_np {s : PState} (h : TP s) (fuel : Nat) {t0 : Nat} (ht : live s.tree t0 = true) :
    NPs (scopeBlockOf fuel t0) s (fun r s' => s' = s ∧ ∀ x, r = some x → live s.tree x = true ∧
      (slot s.tree x).opcode = opIntScopeBlock ∧ (x = t0 ∨ C13.P s.tree x = t0)) := by
  unfold scopeBlockOf
  refine NPs.step (getObj_live ht) ?_
  exact NPs.ite (fun _ => (findScopeBlock_np h t0 fuel _ (h.wf.fi_child ht)).mono
      (fun r s' hq => ⟨hq.1, fun x hx => ⟨(hq.2 x hx).1, (hq.2 x hx).2.1, Or.inr (hq.2 x hx).2.2⟩⟩))
    fun hop => NPs.pure ⟨rfl, fun x hx => by cases hx; exact ⟨ht, Decidable.not_not.1 hop, Or.inl rfl⟩⟩

/-- the guard of `relocateNamedObjects`: when it answers "no", `obj` is not `a` or one of its ancestors -/
theorem isAncP_np {s : PState} (h : TP s) {obj : Nat} (ho : live s.tree obj = true) : ∀ (f a : Nat),
    (a = INV ∨ live s.tree a = true) →
    NPs (AmlParser.isAncestorOrSelf obj f a) s (fun r s' => s' = s ∧ (r = false → ¬ anc s.tree obj a)) := by
  intro f
  induction f with
  | zero => intro a _; unfold AmlParser.isAncestorOrSelf; exact NPs.fuel
  | succ f ih =>
    intro a ha
    unfold AmlParser.isAncestorOrSelf
    refine NPs.ite (fun h0 => NPs.pure ⟨rfl, fun _ hc => live_ne_INV h.wf.size_le (anc_live hc) h0⟩) fun h0 => ?_
    have ha := ha.resolve_left h0
    refine NPs.step (getObj_live ho) ?_
    rw [h.wf.index_eq obj (live_lt ho)]
    refine NPs.ite (fun _ => NPs.pure ⟨rfl, nofun⟩) fun hao => NPs.derefObj ha ?_
    -- `a` is not `obj`: the answer for `a` is the one for its parent
    exact (ih _ (h.wf.lP ha).lp).mono fun r s' hq => ⟨hq.1, fun hr hc => hq.2 hr ((h.wf.anc_step ha hao).1 hc)⟩

/-- **One round of a forward sibling loop** (`fwdLoopBody`: `mergeLoop`, `relocateLoop`): the visit of `sib`, then the loop
from the sibling saved before the visit.  What the visit leaves has to be good enough for the loop to go on from there. -/
theorem fwdLoopBody_np {V : Nat → P PRes} {L : Nat → PRes → P PRes} {s : PState} {sib : Nat} {res : PRes}
    {Q : PRes → PState → Prop} (w : WF s.tree) (hs : sib = INV ∨ live s.tree sib = true) (h0 : Q res s)
    (hV : live s.tree sib = true →
      NPs (V sib) s (fun _ s1 => Q .failed s1 ∧ ∀ res', NPs (L (Nx s.tree sib) res') s1 Q)) :
    NPs (fwdLoopBody V L sib res) s Q := by
  unfold fwdLoopBody
  by_cases hi : sib = invalidIndex
  · rw [if_pos hi]; exact NPs.pure h0
  · rw [if_neg hi]
    have hl := hs.resolve_left hi
    refine NPs.derefObj hl ?_
    rw [w.index_eq sib (live_lt hl)]
    refine NPs.bind (hV hl) ?_
    rintro r s1 ⟨hf, hk⟩
    cases r with
    | failed => exact NPs.pure hf
    | requireExtraPass => exact hk _
    | ok => exact hk _
    | shortCircuit => exact hk _

section walks
variable {I : PState → Prop} (hI : PassInv I)
include hI

theorem relocateOne_walk (d : Bytes) (fuel : Nat) {s : PState} (h : I s) {obj : Nat} (ho : live s.tree obj = true)
    (hp : C13.P s.tree obj ≠ INV) (hfi : Fi s.tree obj ≠ INV) (hnsb : (slot s.tree obj).opcode ≠ opIntScopeBlock)
    (hnamed : NamedAt s obj) (off len : Nat) (bytes : List UInt8) :
    NPs (relocateOne d fuel obj off len bytes) s (fun _ s' => I s') := by
  have htp := hI.tp h
  have w := htp.wf
  unfold relocateOne
  refine NPs.step (a := s.tree) (s1 := s) rfl ?_
  obtain ⟨anc0, eanc, hanc0⟩ := w.closestNamedAncestor_ok namedInfo (fun i hi => namedInfo_some (htp.info i hi)) ho
  refine NPs.step (liftR_ex eanc s) ?_
  obtain ⟨ti, efind, hti⟩ := find_ok w anc0 (bytes.take (len - Gen.C12.amlNameLen)) htp.root hanc0
  refine NPs.step (liftR_ex efind s) ?_
  by_cases hti0 : ti = invalidIndex
  · rw [if_pos hti0]
    refine NPs.step (passCounters_ex s) ?_
    exact NPs.ite (fun _ => NPs.pure h) fun _ => NPs.pure h
  · rw [if_neg hti0]
    have htl := hti.resolve_left hti0
    refine NPs.deref htl (NPs.bind (scopeBlockOf_np htp fuel htl) ?_)
    rintro r s1 ⟨rfl, hr⟩
    cases r with
    | none => exact NPs.pure h
    | some target =>
      obtain ⟨htg, htop, _⟩ := hr target rfl
      refine NPs.step (getObj_live htg) ?_
      rw [w.index_eq target (live_lt htg)]
      refine NPs.bind (isAncP_np htp ho fuel target (Or.inr htg)) ?_
      rintro b s2 ⟨rfl, hb⟩
      cases b with
      | true => exact NPs.pure h
      | false =>
        have hpl := w.live_p ho hp
        refine NPs.step (getObj_live ho) (NPs.deref hpl ?_)
        obtain ⟨s3, s4, e3, e4, mv⟩ := move_eff htp htg ho hpl (hb rfl)
        refine NPs.step e3 (NPs.step e4 ?_)
        have hi4 : I s4 := hI.move h mv ho rfl hfi hnsb (Or.inl htop)
        have ho4 : live s4.tree obj = true := mv.mv.alive ho
        have hfi4 : Fi s4.tree obj ≠ INV := by rw [mv.fim]; exact hfi
        have hfl4 := mv.tp.wf.live_fi ho4 hfi4
        refine NPs.step (getObj_live ho4) (NPs.deref hfl4 ?_)
        obtain ⟨s5, e5, u5⟩ := updObj_tp mv.tp hfl4
          (fun fo => { fo with value := .bytes (off + (len - Gen.C12.amlNameLen)) (len - (len - Gen.C12.amlNameLen)) })
          (fun _ => rfl) Iff.rfl (mv.tp.info _ hfl4)
        refine NPs.step e5 ?_
        have hi5 : I s5 := hI.updVal hi4 u5 ho4 (hnamed.ofInfo (pay_info (mv.pay.pay obj))) hfi4
        refine NPs.step (a := ()) (s1 := { s5 with relocatedObjects := u32 (s5.relocatedObjects + 1) }) rfl ?_
        exact NPs.pure (hI.counters hi5 rfl ⟨rfl, fun _ => rfl, rfl, rfl, rfl, rfl, rfl⟩)

/-- the named-object case of `relocateNamedObjects` -/
theorem relocateNamed_walk (d : Bytes) (fuel : Nat) {s : PState} (h : I s) {obj : Nat} (ho : live s.tree obj = true)
    (hp : C13.P s.tree obj ≠ INV) (hfi : Fi s.tree obj ≠ INV) (hnsb : (slot s.tree obj).opcode ≠ opIntScopeBlock)
    (hnamed : NamedAt s obj) :
    NPs (relocateNamed d fuel obj) s (fun _ s' => I s') := by
  unfold relocateNamed
  refine NPs.step (getObj_live ho) (NPs.derefObj ((hI.tp h).wf.live_fi ho hfi) ?_)
  split
  · exact NPs.pure h
  · exact NPs.ite (fun _ => relocateOne_walk hI d fuel h ho hp hfi hnsb hnamed _ _ _) fun _ => NPs.pure h

end walks

/-- `relocateNamedObjects` keeps every invariant of the passes.  Where the walk itself needs to know what a call has done
(the object it is at, and the sibling it saved, are still live and attached) it asks for the invariant `hI.since` of
the state before the call. -/
theorem relocate_walk (d : Bytes) : ∀ (f : Nat) {I : PState → Prop}, PassInv I →
    (∀ {s : PState} (objIndex : Nat), I s → live s.tree objIndex = true →
      (C13.P s.tree objIndex ≠ INV ∨ (slot s.tree objIndex).opcode = opIntScopeBlock) →
      NPs (relocateNamedObjects d f objIndex) s (fun _ s' => I s')) ∧
    (∀ {s : PState} (sib : Nat) (res : PRes), I s → (sib = INV ∨ (live s.tree sib = true ∧ C13.P s.tree sib ≠ INV)) →
      NPs (relocateLoop d f sib res) s (fun _ s' => I s')) := by
  intro f
  induction f with
  | zero =>
    intro I _
    constructor
    · intro s _ _ _ _; unfold relocateNamedObjects; exact NPs.fuel
    · intro s _ _ _ _; unfold relocateLoop; exact NPs.fuel
  | succ f ih =>
    intro I hI
    constructor
    · intro s objIndex h ho hroot
      have htp := hI.tp h
      unfold relocateNamedObjects
      refine NPs.derefObj ho ?_
      obtain ⟨fl, hfl⟩ := opFlags_of_info (htp.info objIndex ho)
      rw [hfl]
      refine NPs.step (optP_ex fl s) ?_
      -- the counter reset does not touch the tree
      refine NPs.ite_modify rfl ⟨rfl, fun _ => rfl, rfl, rfl, rfl, rfl, rfl⟩ fun s0 ht0 m0 => ?_
      have h0 : I s0 := hI.counters h ht0 m0
      have ho0 : live s0.tree objIndex = true := by rw [ht0]; exact ho
      have kids : ∀ {s1 : PState}, TP s1 → live s1.tree objIndex = true →
          (Fi s1.tree objIndex = INV ∨ (live s1.tree (Fi s1.tree objIndex) = true ∧ C13.P s1.tree (Fi s1.tree objIndex) ≠ INV)) :=
        fun h1 ho1 => (h1.wf.fi_child ho1).imp_right fun hc => ⟨hc.1, by rw [hc.2]; exact live_ne_INV h1.wf.size_le ho1⟩
      dsimp only
      refine NPs.ite (fun _ => NPs.pure h0) fun _ => ?_
      · refine NPs.step (tableHandle_ex s0) ?_
        refine NPs.ite (fun hc => ?_) fun _ => ?_
        · refine NPs.bind (relocateNamed_walk (hI.since s0) d f ⟨h0, Mv.refl s0, KeepAtt.refl s0⟩ ho0
            (by rw [ht0]; exact hroot.resolve_right hc.2.2.2) (by rw [ht0]; exact hc.2.1) (by rw [ht0]; exact hc.2.2.2)
            ⟨fl, by rw [ht0]; exact hfl, hc.1⟩) ?_
          rintro r s1 ⟨h1, m1, _⟩
          cases r with
          | inl res => exact NPs.pure h1
          | inr _ =>
            have ho1 : live s1.tree objIndex = true := m1.alive ho0
            exact NPs.step (getObj_live ho1) ((ih hI).2 _ PRes.ok h1 (kids (hI.tp h1) ho1))
        · have := kids (hI.tp h0) ho0
          rw [ht0] at this
          exact (ih hI).2 _ PRes.ok h0 (by rw [ht0]; exact this)
    · intro s sib res h hsib
      have htp := hI.tp h
      rw [show relocateLoop d (f + 1) sib res = fwdLoopBody (relocateNamedObjects d f) (relocateLoop d f) sib res from rfl]
      refine fwdLoopBody_np htp.wf (hsib.imp_right And.left) h fun hl => ?_
      have hp := (hsib.resolve_left (live_ne_INV htp.wf.size_le hl)).2
      refine ((ih (hI.since s)).1 sib ⟨h, Mv.refl s, KeepAtt.refl s⟩ hl (Or.inl hp)).mono
        fun _ s1 ⟨h1, m1, k1⟩ => ⟨h1, fun res' => (ih hI).2 _ res' h1 ?_⟩
      -- the sibling saved before the call is still a live attached object
      exact (htp.wf.nx_sib hl).imp_right fun hn => ⟨by rw [m1.live]; exact hn.1, k1 _ (by rw [hn.2]; exact hp)⟩

theorem connectNonNamedStep_np {s : PState} {obj argObj : Nat} (h : TP s) (ho : live s.tree obj = true)
    (ha : live s.tree argObj = true) (hp : C13.P s.tree argObj = obj) :
    NPs (connectNonNamedStep obj argObj) s (fun _ s' => TP s' ∧ Rev s s' argObj) := by
  unfold connectNonNamedStep
  refine NPs.step (getObj_live ha) ?_
  have hinfo := h.info argObj ha
  obtain ⟨fl, hfl⟩ := opFlags_of_info hinfo
  rw [hfl]
  refine NPs.step (optP_ex fl s) ?_
  refine NPs.step (tableHandle_ex s) ?_
  refine NPs.ite (fun _ => NPs.pure ⟨h, Rev.refl s _⟩) fun _ => ?_
  · rw [opArgCount_of_info hinfo]
    refine NPs.step (optP_ex _ s) ?_
    obtain ⟨ti, eti, _⟩ := firstTermArg_spec hinfo _ _ 0 s (Nat.zero_add _)
    refine NPs.step eti ?_
    obtain ⟨k, ek⟩ := numArgs_np h ha
    refine NPs.step ek ?_
    refine NPs.ite (fun _ => NPs.pure ⟨h, Rev.refl _ _⟩) fun _ => ?_
    · refine NPs.step (nextOf_live ha) ?_
      refine NPs.bind (attach_np obj argObj true (J := fun _ => True) (fun _ _ _ => trivial)
        (argCnt (slot s.tree argObj).infoIndex - ti) (Nx s.tree argObj) h trivial ha ho ⟨fun _ => hp, argObj, ha, rfl, Or.inl rfl⟩) ?_
      intro res s3 hq
      exact NPs.ite (fun _ => NPs.pure ⟨hq.1, hq.2.2.1⟩) fun _ => NPs.pure ⟨hq.1, hq.2.2.1⟩

theorem connectNonNamed_np : ∀ (f : Nat),
    (∀ {s : PState} (objIndex : Nat), TP s → live s.tree objIndex = true →
      NPs (connectNonNamedObjArgs f objIndex) s (fun _ s' => TP s' ∧ Rev s s' objIndex)) ∧
    (∀ {s : PState} (obj argIndex : Nat), TP s → live s.tree obj = true →
      (argIndex = INV ∨ (live s.tree argIndex = true ∧ C13.P s.tree argIndex = obj)) →
      NPs (connectNonNamedLoop f obj argIndex) s (fun _ s' => TP s' ∧ Rev s s' obj)) :=
  revWalk_np connectNonNamed_rev id (afterStep_np connectNonNamedStep_np)

/-- every unresolved name-or-call object holds the `[]byte` of its path -/
def CallShape (s : PState) : Prop :=
  ∀ x, live s.tree x = true → (slot s.tree x).opcode = opIntNamePathOrMethodCall → ∃ off len, (slot s.tree x).value = .bytes off len

/-- nothing new is live, and what is live has the payload it had -/
theorem CallShape.ofPay {s s' : PState} (h : CallShape s)
    (hp : ∀ x, live s'.tree x = true → live s.tree x = true ∧ Pay (slot s'.tree x) = Pay (slot s.tree x)) : CallShape s' := by
  intro x hx hop
  obtain ⟨hx0, e⟩ := hp x hx
  rw [pay_value e]
  exact h x hx0 (by rw [← pay_opcode e]; exact hop)

/-- an update keeps `CallShape` if it leaves no name-or-call object without its `[]byte` at `i` -/
theorem CallShape.upd {s s1 : PState} (h : CallShape s) {i : Nat} {f : Obj → Obj} (u : UpdEff s s1 i f)
    (hv : live s.tree i = true → (f (slot s.tree i)).opcode = opIntNamePathOrMethodCall →
      ∃ off len, (f (slot s.tree i)).value = .bytes off len) : CallShape s1 := by
  intro x hx hopx
  have hx0 : live s.tree x = true := by rw [← u.mv.live]; exact hx
  by_cases hxi : x = i
  · rw [hxi, u.self] at hopx ⊢; exact hv (hxi ▸ hx0) hopx
  · rw [u.other x hxi] at hopx ⊢; exact h x hx0 hopx

theorem UpdEff.trans {s s1 s2 : PState} {i : Nat} {f g : Obj → Obj} (u1 : UpdEff s s1 i f) (u2 : UpdEff s1 s2 i g) :
    UpdEff s s2 i (g ∘ f) where
  links := u1.links.trans u2.links
  self := by rw [u2.self, u1.self]; rfl
  other x hx := by rw [u2.other x hx, u1.other x hx]
  tp := u2.tp
  mv := u1.mv.trans u2.mv

/-- what `resolveMethodCalls` keeps, across an update that leaves no name-or-call opcode at `i` -/
theorem UpdEff.resolved {s s1 : PState} {i : Nat} {f : Obj → Obj} (u : UpdEff s s1 i f) (hc : CallShape s)
    (hop : (f (slot s.tree i)).opcode ≠ opIntNamePathOrMethodCall) (x : Nat) : (TP s1 ∧ CallShape s1) ∧ Rev s s1 x :=
  ⟨⟨u.tp, hc.upd u fun _ h => absurd h hop⟩, .ofLinks u.mv u.links x⟩

/-- `argObj.opcode = op; argObj.infoIndex = pOpcodeTableIndex(op, true)` for an opcode that has a table row (so it is not "freed") -/
theorem mutateOpcode_eff {s : PState} (h : TP s) {argObj : Nat} (ha : live s.tree argObj = true) (op : Nat)
    (hinfo : InfoOK (pOpcodeTableIndex op true)) :
    ∃ s1, mutateOpcode argObj op s = .ok ((), s1) ∧
      UpdEff s s1 argObj ((fun o => { o with infoIndex := pOpcodeTableIndex op true }) ∘ fun o => { o with opcode := op }) := by
  obtain ⟨s1, e1, u1⟩ := updObj_tp h ha (fun o => { o with opcode := op }) (fun _ => rfl)
    (Iff.intro (fun hq => absurd hq (ne_freed_of_infoOK hinfo)) (fun hq => absurd hq (live_opcode ha))) (h.info argObj ha)
  obtain ⟨s2, e2, u2⟩ := updObj_tp u1.tp (u1.mv.alive ha)
    (fun o => { o with infoIndex := pOpcodeTableIndex op true }) (fun _ => rfl) Iff.rfl hinfo
  exact ⟨s2, bind_ex' e1 e2, u1.trans u2⟩

/-- `mutateOpcode(argObj, op); argObj.value = v` -/
theorem retarget_eff {s : PState} (h : TP s) {argObj : Nat} (ha : live s.tree argObj = true) (op v : Nat)
    (hinfo : InfoOK (pOpcodeTableIndex op true)) {β : Type} {k : P β} {R : β → PState → Prop}
    (hk : ∀ s2 f, UpdEff s s2 argObj f → (f (slot s.tree argObj)).opcode = op → NPs k s2 R) :
    NPs (mutateOpcode argObj op >>= fun _ => updObj argObj (fun o => { o with value := .idx v }) >>= fun _ => k) s R := by
  obtain ⟨s1, e1, u1⟩ := mutateOpcode_eff h ha op hinfo
  obtain ⟨s2, e2, u2⟩ := updObj_tp u1.tp (u1.mv.alive ha) (fun o => { o with value := .idx v }) (fun _ => rfl) Iff.rfl
    (u1.tp.info argObj (u1.mv.alive ha))
  exact NPs.step e1 (NPs.step e2 (hk s2 _ (u1.trans u2) rfl))

/-- the `case pOpMethod:` of `resolveMethodCalls` -/
theorem resolveToMethod_np {s : PState} (h : TP s) (hc : CallShape s) {obj argObj resolvedObj : Nat}
    (ho : live s.tree obj = true) (ha : live s.tree argObj = true) (hr : live s.tree resolvedObj = true)
    (hp : C13.P s.tree argObj = obj) :
    NPs (resolveToMethod obj argObj resolvedObj) s (fun _ s' => (TP s' ∧ CallShape s') ∧ Rev s s' argObj) := by
  unfold resolveToMethod
  refine NPs.step (getObj_live hr) ?_
  refine retarget_eff h ha _ _ (infoOK_const (by decide)) fun s2 f u hop => ?_
  obtain ⟨⟨h2, c2⟩, r12⟩ := u.resolved hc (by rw [hop]; decide) argObj
  refine NPs.step (a := s2.tree) (s1 := s2) rfl ?_
  obtain ⟨r, er, hrl⟩ := h2.wf.argAt_ok 1 (u.mv.alive hr)
  refine NPs.step (liftR_ex er s2) ?_
  cases r with
  | none => exact NPs.pure ⟨⟨h2, c2⟩, r12⟩
  | some mf =>
    refine NPs.step (getObj_live (hrl mf rfl)) ?_
    split
    · rename_i argCount _
      have ha2 : live s2.tree argObj = true := u.mv.alive ha
      refine NPs.step (nextOf_live ha2) ?_
      refine NPs.bind (attach_np obj argObj true (J := fun _ => True) (fun _ _ _ => trivial) (argCount &&& 0x7)
        (Nx s2.tree argObj) h2 trivial ha2 (u.mv.alive ho) ⟨fun _ => (u.links.p _).trans hp, argObj, ha2, rfl, Or.inl rfl⟩) ?_
      rintro res s3 ⟨h3, _, r3, sp3⟩
      split <;> exact NPs.pure ⟨⟨h3, c2.ofPay fun x hx => ⟨by rw [← r3.mv.live]; exact hx, sp3.pay x⟩⟩, r12.trans h ha r3⟩
    · exact NPs.pure ⟨⟨h2, c2⟩, r12⟩

/-- one iteration of the `resolveMethodCalls` loop after the recursive call -/
theorem resolveStep_np (d : Bytes) {s : PState} {obj argObj : Nat} (hi : TP s ∧ CallShape s)
    (ho : live s.tree obj = true) (ha : live s.tree argObj = true) (hp : C13.P s.tree argObj = obj) :
    NPs (resolveStep d obj argObj) s (fun _ s' => (TP s' ∧ CallShape s') ∧ Rev s s' argObj) := by
  obtain ⟨h, hc⟩ := hi
  unfold resolveStep
  refine NPs.step (getObj_live ha) ?_
  refine NPs.step (tableHandle_ex s) ?_
  refine NPs.ite (fun _ => NPs.pure ⟨⟨h, hc⟩, Rev.refl s _⟩) fun hcond => ?_
  · have hopc : (slot s.tree argObj).opcode = opIntNamePathOrMethodCall :=
      Decidable.not_not.1 fun hq => hcond (Or.inl hq)
    obtain ⟨off, len, hv⟩ := hc argObj ha hopc
    refine NPs.step (bytesValue_ex (live_lt ha) hv) ?_
    refine NPs.step (a := s.tree) (s1 := s) rfl ?_
    obtain ⟨ti, efind, hti⟩ := find_ok h.wf (C13.P s.tree argObj) (sliceBytes d off len) h.root (h.wf.lP ha).lp
    refine NPs.step (liftR_ex (x := s.tree.Find (slot s.tree argObj).parentIndex _) efind s) ?_
    by_cases hti0 : ti = invalidIndex
    · rw [if_pos hti0]
      obtain ⟨s1, e1, u1⟩ := mutateOpcode_eff h ha opIntNamePath (infoOK_const (by decide))
      exact NPs.step e1 (NPs.pure (u1.resolved hc (show opIntNamePath ≠ _ by decide) _))
    · rw [if_neg hti0]
      have htl := hti.resolve_left hti0
      refine NPs.derefObj htl ?_
      refine NPs.ite (fun _ => resolveToMethod_np h hc ho ha htl hp) fun _ => ?_
      exact retarget_eff h ha _ _ (infoOK_const (by decide)) fun s2 f u hop =>
        NPs.pure (u.resolved hc (by rw [hop]; decide) _)

theorem resolve_np (d : Bytes) : ∀ (f : Nat),
    (∀ {s : PState} (objIndex : Nat), TP s ∧ CallShape s → live s.tree objIndex = true →
      NPs (resolveMethodCalls d f objIndex) s (fun _ s' => (TP s' ∧ CallShape s') ∧ Rev s s' objIndex)) ∧
    (∀ {s : PState} (obj argIndex : Nat), TP s ∧ CallShape s → live s.tree obj = true →
      (argIndex = INV ∨ (live s.tree argIndex = true ∧ C13.P s.tree argIndex = obj)) →
      NPs (resolveLoop d f obj argIndex) s (fun _ s' => (TP s' ∧ CallShape s') ∧ Rev s s' obj)) :=
  revWalk_np (I := fun s => TP s ∧ CallShape s) (resolve_rev d) And.left (afterStep_np (resolveStep_np d))

end Firefly.AmlParser
