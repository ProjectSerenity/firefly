import Firefly.Proof.SpinInv
import Firefly.Proof.Locked
import Firefly.Model.Locked
/-!
# The spin lock under the lock-protected objects of C09

`Model/Locked.lean` (C09) runs lock-protected operations over an *abstract* lock: a field `holder : Option Nat`, an acquire
step enabled only while `holder = none`, micro-steps and the release only by the holder; `absStep` (Proof/SpinInv.lean) is that
interface as a labelled transition system. Here: (1) the traces of the spin-lock machine are traces of that lock (`exec_own`),
and every step of the Locked machine moves its `holder` by such a step (`locked_step_is_abslock`); (2) what the lock-discipline
checker (`disciplined`, sound by `check_sound`) means for the lock calls of a client function (`disciplined_calls`); (3) the
composed machine `cstep`, the real lock with the shared object and clients of `Model/Locked.lean`, refines the Locked machine
(`cstep_refines`, `creachable_proj`).
-/

namespace Firefly.Spin

def absRun : Option Nat → List LockEv → Option (Option Nat)
  | h, [] => some h
  | h, e :: es => match absStep h e with
    | some h' => absRun h' es
    | none => none

theorem absStep_acq {h h' : Option Nat} {i : Nat} (e : absStep h (.acq i) = some h') : h = none ∧ h' = some i := by
  simp only [absStep] at e
  split at e <;> cases e
  exact ⟨‹_›, rfl⟩

theorem absStep_rel {h h' : Option Nat} {i : Nat} (e : absStep h (.rel i) = some h') : h = some i ∧ h' = none := by
  simp only [absStep] at e
  split at e <;> cases e
  exact ⟨‹_›, rfl⟩

inductive Exec (cfg : Config) (s0 : State) : List LockEv → State → Prop where
  | nil : Exec cfg s0 [] s0
  | snoc {s s' : State} {evs : List LockEv} (i : Nat) (ch : Choice) :
      Exec cfg s0 evs s → step cfg s i ch = some s' → Exec cfg s0 (evs ++ [evOf s s' i]) s'

theorem absRun_append (h : Option Nat) (a b : List LockEv) (h1 : Option Nat) (ha : absRun h a = some h1) :
    absRun h (a ++ b) = absRun h1 b := by
  induction a generalizing h with
  | nil => simp [absRun] at ha; subst ha; rfl
  | cons e es ih =>
    simp only [absRun, List.cons_append] at ha ⊢
    split at ha
    · rename_i h2 he; exact ih h2 ha
    · cases ha

/-- on a reachable state the abstraction relation is the invariant: `Abs s h` fixes the ghost holder -/
theorem reachable_abs {cfg : Config} {n : Nat} {s : State} {h : Option Nat} (hr : Reachable cfg n s) (ha : Abs s h) :
    Own cfg s h := by
  obtain ⟨h0, hO⟩ := reachable_own hr
  cases hO.abs_eq ha
  exact hO

/-- **Trace inclusion.** The visible trace of every execution of the spin-lock machine (any number
of threads, any schedule) is a trace of the abstract lock, and the abstract lock ends up held by
the unique owner. -/
theorem exec_own {cfg : Config} {n : Nat} {evs : List LockEv} {s : State}
    (h : Exec cfg (init n) evs s) : ∃ hd, absRun none evs = some hd ∧ Own cfg s hd := by
  induction h with
  | nil => exact ⟨none, rfl, own_init cfg n⟩
  | snoc i ch hex hs ih =>
    obtain ⟨hd, hrun, hO⟩ := ih
    obtain ⟨hd', hstep, hO'⟩ := step_own hO hs
    refine ⟨hd', ?_, hO'⟩
    rw [absRun_append none _ _ hd hrun]
    simp [absRun, hstep]

/-- every step of C09's Locked machine moves its `holder` field by a step of the abstract lock:
an acquire (from `none`), a release (by the holder), or a micro-step of the holder. -/
theorem locked_step_is_abslock {σ ρ O : Type} (S : Locked.Sys σ ρ O) (s s' : Locked.State σ ρ O) (i : Nat)
    (h : Locked.step S s i = some s') :
    absStep s.holder (.acq i) = some s'.holder ∨ absStep s.holder (.rel i) = some s'.holder ∨
    (s.holder = some i ∧ s'.holder = some i) := by
  rcases Locked.step_cases h with ⟨hcur, hh, o, hc⟩ | ⟨hh, o, rem, loc, hcur⟩
  · rw [Locked.step_acquire hcur hh hc] at h
    cases h
    exact .inl (by rw [hh]; rfl)
  · cases rem with
    | nil =>
      rw [Locked.step_release hcur hh] at h
      cases h
      exact .inr (.inl (by rw [hh, absStep, if_pos rfl]))
    | cons f fs =>
      rw [Locked.step_micro hcur hh] at h
      cases h
      exact .inr (.inr ⟨hh, hh⟩)

end Firefly.Spin

/-! ## the lock calls of a disciplined client: the shape `cstep` assumes of every client call -/

namespace Firefly.Spin
open Firefly.Locked

def lockCalls (tr : List Ev) : List Ev := tr.filter fun e => e == .acq || e == .rel

theorem lockCalls_of_lockEvents (tr : List Ev) : lockCalls tr = lockCalls (lockEvents tr) := by
  unfold lockCalls lockEvents
  rw [List.filter_filter]
  apply List.filter_congr
  intro e _
  cases e <;> rfl

theorem lockCalls_section (k : Nat) : lockCalls (Ev.acq :: (List.replicate k Ev.tch ++ [Ev.rel])) = [.acq, .rel] := by
  induction k with
  | zero => rfl
  | succ k ih => simp [lockCalls, List.replicate_succ, List.filter] at ih ⊢

/-- If the checker accepts a skeleton then every trace of it — whatever the conditions evaluate to,
however often the loops iterate — ends by `return` or by reaching the end of the body, and its lock
calls are exactly one `Acquire` followed by one `Release`: the lock is never released un-acquired,
never taken twice, and released on every return path. -/
theorem disciplined_calls (s : Skel) (h : disciplined s = true) {tr : List Ev} {x : Exit} (hr : Runs s tr x) :
    (x = .fall ∨ x = .ret) ∧ lockCalls tr = [.acq, .rel] := by
  obtain ⟨hx, hw⟩ := disciplined_wb h hr
  obtain ⟨k, hk⟩ := wb_pre hw
  exact ⟨hx, by rw [lockCalls_of_lockEvents, hk, lockCalls_section]⟩

end Firefly.Spin

/-!
## lock-protected objects over the real spin lock

`cstep` composes the spin-lock machine (regenerated programs) with the shared object and the
clients of `Model/Locked.lean`: every thread loops
`Acquire(); micro-steps of its next operation; Release()`.  Micro-steps are taken only by a thread
that has returned from `Acquire` and not yet called `Release` (that is what the Go code does; no
reference to any abstract holder).  `holder` and `log` are ghost fields, updated on the events of
the lock word.  `proj` maps composed states to `Locked.State`.
-/

section
set_option linter.unusedVariables false
namespace Firefly.Spin

/-- `ch` executes the next instruction of the running method -/
def Choice.isRun : Choice → Bool
  | .run | .havoc .. => true
  | _ => false

theorem tstep_idle_isRun {cfg : Config} {sh : Shared} {t : Thread} {ch : Choice}
    (hph : t.ph = .idle) (hr : ch.isRun = true) : tstep cfg sh t ch = none := by
  unfold tstep
  rw [hph]
  cases ch <;> first | rfl | cases hr

/-- state of the composed machine: the spin-lock machine, the shared object, the clients'
bookkeeping (as in `Locked.Thread`), and two ghost fields -/
structure CState (σ ρ O : Type) where
  spin : State
  sh : σ
  cl : Nat → Locked.Thread σ ρ O := fun _ => {}
  /-- ghost: operations in the order of their winning exchanges -/
  log : List (Nat × O) := []
  /-- ghost: the abstract lock -/
  holder : Option Nat := none

inductive CMove where
  /-- a move of the lock machine: `callAcquire`, `run`/`havoc`, `callRelease` -/
  | lock (ch : Choice)
  /-- one micro-step of the current operation on the shared object -/
  | micro

/-- one instruction of the lock program by thread `i`; the ghost fields follow the events of the
lock word (`holder`, `log`), and the operation is booked as completed at the Release store -/
def crun {σ ρ O : Type} (S : Locked.Sys σ ρ O) (cfg : Config) (c : CState σ ρ O) (i : Nat) (ch : Choice) :
    Option (CState σ ρ O) :=
  match step cfg c.spin i ch with
  | none => none
  | some sp' =>
    match evOf c.spin sp' i, (c.cl i).cur with
    | .acq _, some (o, _, _) => some { c with spin := sp', holder := some i, log := c.log ++ [(i, o)] }
    | .acq _, none => some { c with spin := sp', holder := some i }
    | .rel _, some (o, _, loc) =>
      some { c with spin := sp', holder := none,
                    cl := Locked.upd c.cl i { hist := (c.cl i).hist ++ [(o, loc)], cur := none } }
    | .rel _, none => some { c with spin := sp', holder := none }
    | .tau, _ => some { c with spin := sp' }

/-- Thread `i` of the composed machine makes a move.  A thread starts `Acquire` when its client has
a next operation; executes that operation's micro-steps between the return of `Acquire` and the
call of `Release`; calls `Release` when no micro-step is left. -/
def cstep {σ ρ O : Type} (S : Locked.Sys σ ρ O) (cfg : Config) (c : CState σ ρ O) (i : Nat) :
    CMove → Option (CState σ ρ O)
  | .micro =>
    match c.spin.threads[i]?, (c.cl i).cur with
    | some t, some (o, f :: fs, loc) =>
      if t.ph = .idle ∧ t.held = true then
        some { c with sh := (f (c.sh, loc)).1,
                      cl := Locked.upd c.cl i { (c.cl i) with cur := some (o, fs, (f (c.sh, loc)).2) } }
      else none
    | _, _ => none
  | .lock .callAcquire =>
    match (c.cl i).cur, S.client i (c.cl i).hist, step cfg c.spin i .callAcquire with
    | none, some o, some sp' =>
      some { c with spin := sp',
                    cl := Locked.upd c.cl i { (c.cl i) with cur := some (o, (S.sem o).steps, (S.sem o).init) } }
    | _, _, _ => none
  | .lock .callRelease =>
    match (c.cl i).cur, step cfg c.spin i .callRelease with
    | some (_, [], _), some sp' => some { c with spin := sp' }
    | _, _ => none
  | .lock ch => if ch.isRun then crun S cfg c i ch else none

def cinit {σ ρ O : Type} (n : Nat) (s0 : σ) : CState σ ρ O := { spin := init n, sh := s0 }

inductive CReachable {σ ρ O : Type} (S : Locked.Sys σ ρ O) (cfg : Config) (n : Nat) (s0 : σ) :
    CState σ ρ O → Prop where
  | init : CReachable S cfg n s0 (cinit n s0)
  | step {c c' : CState σ ρ O} (i : Nat) (mv : CMove) :
      CReachable S cfg n s0 c → cstep S cfg c i mv = some c' → CReachable S cfg n s0 c'

/-- projection to the machine of `Model/Locked.lean`: a thread's current operation is visible only
from its winning exchange to its Release store -/
def proj {σ ρ O : Type} (c : CState σ ρ O) : Locked.State σ ρ O :=
  { sh := c.sh, holder := c.holder, log := c.log,
    threads := fun j => if c.holder = some j then c.cl j else { hist := (c.cl j).hist, cur := none } }

/-- how the client bookkeeping of a thread relates to where its lock program stands -/
def Coupled {σ ρ O : Type} (S : Locked.Sys σ ρ O) (j : Nat) (t : Thread) (ct : Locked.Thread σ ρ O) : Prop :=
  match t.ph with
  | .idle => if t.held = true then ct.cur.isSome = true else ct.cur = none
  | .go .acquire _ => ∃ o, ct.cur = some (o, (S.sem o).steps, (S.sem o).init) ∧ S.client j ct.hist = some o
  | .asm _ _ _ => ∃ o, ct.cur = some (o, (S.sem o).steps, (S.sem o).init) ∧ S.client j ct.hist = some o
  | .go .release 0 => ∃ o loc, ct.cur = some (o, [], loc)
  | .go .release _ => ct.cur = none
  | .go .try_ _ => False
  | .fault => False

structure CInv {σ ρ O : Type} (S : Locked.Sys σ ρ O) (cfg : Config) (c : CState σ ρ O) : Prop where
  own : Own cfg c.spin c.holder
  coupled : ∀ (j : Nat) (t : Thread), c.spin.threads[j]? = some t → Coupled S j t (c.cl j)

theorem cinit_inv {σ ρ O : Type} (S : Locked.Sys σ ρ O) (cfg : Config) (n : Nat) (s0 : σ) :
    CInv S cfg (cinit n s0 : CState σ ρ O) := by
  refine ⟨own_init cfg n, ?_⟩
  intro j t h
  rw [init_get h]
  rfl

end Firefly.Spin
end

namespace Firefly.Spin

variable {σ ρ O : Type}

theorem lstate_ext {a b : Locked.State σ ρ O} (h1 : a.sh = b.sh) (h2 : a.holder = b.holder)
    (h3 : ∀ j, a.threads j = b.threads j) (h4 : a.log = b.log) : a = b := by
  cases a; cases b
  cases h1; cases h2; cases h4; cases (funext h3 : _ = _)
  rfl

theorem coupled_of_other {S : Locked.Sys σ ρ O} {cfg : Config} {c : CState σ ρ O} (hI : CInv S cfg c) {i : Nat}
    {th : List Thread} {cl' : Nat → Locked.Thread σ ρ O} {t' : Thread}
    (hth : ∀ j, j ≠ i → th[j]? = c.spin.threads[j]?) (hcl : ∀ j, j ≠ i → cl' j = c.cl j)
    (hi' : th[i]? = some t') (hc : Coupled S i t' (cl' i)) :
    ∀ j t, th[j]? = some t → Coupled S j t (cl' j) := by
  intro j t hj
  by_cases hji : j = i
  · subst hji; cases hi'.symm.trans hj; exact hc
  · rw [hth j hji] at hj; rw [hcl j hji]; exact hI.coupled j t hj

/-! One lemma per client move: what `cstep` requires of the thread (with no assumption on the state),
and, under the invariant, what the move is in the Locked machine. -/

theorem cstep_micro (S : Locked.Sys σ ρ O) (cfg : Config) (c c' : CState σ ρ O) (i : Nat)
    (h : cstep S cfg c i .micro = some c') :
    (∃ t, c.spin.threads[i]? = some t ∧ t.ph = .idle ∧ t.held = true) ∧
    (CInv S cfg c → CInv S cfg c' ∧ Locked.step S (proj c) i = some (proj c')) := by
  simp only [cstep] at h
  split at h
  · rename_i t o f fs loc ht hcur
    split at h <;> cases h
    next hc =>
    obtain ⟨hph, hheld⟩ := hc
    refine ⟨⟨t, ht, hph, hheld⟩, fun hI => ?_⟩
    have hh : c.holder = some i := (hI.own.thr i t ht).2.1 (.inl hheld)
    constructor
    · exact ⟨hI.own, coupled_of_other hI (fun _ _ => rfl) (fun j hj => Locked.upd_other _ _ _ _ hj) ht
        (by simp [Coupled, hph, hheld, Locked.upd_self])⟩
    · simp only [Locked.step, proj, hh, if_true, hcur]
      refine congrArg some (lstate_ext rfl rfl (fun j => ?_) rfl)
      by_cases hji : j = i
      · subst hji; simp [Locked.upd]
      · simp [Locked.upd, hji, Ne.symm hji]
  · cases h

theorem cinv_tau {S : Locked.Sys σ ρ O} {cfg : Config} {c : CState σ ρ O} (hI : CInv S cfg c) {i : Nat} {ch : Choice}
    {sp' : State} (hs : step cfg c.spin i ch = some sp') (hl : sp'.sh.lock = c.spin.sh.lock)
    {cl' : Nat → Locked.Thread σ ρ O} (hcl : ∀ j, j ≠ i → cl' j = c.cl j)
    {t' : Thread} (hi' : sp'.threads[i]? = some t') (hc : Coupled S i t' (cl' i)) :
    CInv S cfg { c with spin := sp', cl := cl' } := by
  obtain ⟨h', hst, hO'⟩ := step_own hI.own hs
  rw [evOf_tau i hl] at hst
  cases hst
  exact ⟨hO', coupled_of_other hI (fun _ hj => step_other hs hj) hcl hi' hc⟩

theorem cstep_callAcquire (S : Locked.Sys σ ρ O) (cfg : Config) (c c' : CState σ ρ O) (i : Nat)
    (h : cstep S cfg c i (.lock .callAcquire) = some c') :
    (∃ t, c.spin.threads[i]? = some t ∧ t.ph = .idle ∧ t.held = false ∧ (c.cl i).cur = none) ∧
    (CInv S cfg c → CInv S cfg c' ∧ proj c' = proj c) := by
  simp only [cstep] at h
  split at h <;> cases h
  next o sp' hcur hcl hs =>
  obtain ⟨t, sh', t', hi, hts, rfl⟩ := step_cases hs
  obtain ⟨hp, hh, e⟩ := tstep_callAcquire hts
  cases e
  refine ⟨⟨t, hi, hp, hh, hcur⟩, fun hI => ?_⟩
  have hne : c.holder ≠ some i := fun e => by simpa [Owner, hp, hh] using (hI.own.thr i t hi).2.2 e
  refine ⟨cinv_tau hI hs rfl (fun j hj => Locked.upd_other _ _ _ _ hj) (get_set_self hi)
    (by rw [Locked.upd_self]; exact ⟨o, rfl, hcl⟩), lstate_ext rfl rfl (fun j => ?_) rfl⟩
  by_cases hji : j = i <;> simp [proj, Locked.upd, hji, hne]

theorem cstep_callRelease (S : Locked.Sys σ ρ O) (cfg : Config) (c c' : CState σ ρ O) (i : Nat)
    (h : cstep S cfg c i (.lock .callRelease) = some c') :
    (∃ t, c.spin.threads[i]? = some t ∧ t.ph = .idle ∧ t.held = true) ∧
    (CInv S cfg c → CInv S cfg c' ∧ proj c' = proj c) := by
  simp only [cstep] at h
  split at h <;> cases h
  next o loc sp' hcur hs =>
  obtain ⟨t, sh', t', hi, hts, rfl⟩ := step_cases hs
  obtain ⟨hp, hh, e⟩ := tstep_callRelease hts
  cases e
  exact ⟨⟨t, hi, hp, hh⟩, fun hI => ⟨cinv_tau hI hs rfl (fun _ _ => rfl) (get_set_self hi) ⟨o, loc, hcur⟩, rfl⟩⟩

theorem crun_refines (S : Locked.Sys σ ρ O) (cfg : Config) (c c' : CState σ ρ O) (i : Nat) (ch : Choice)
    (hr : ch.isRun = true) (hI : CInv S cfg c) (h : crun S cfg c i ch = some c') :
    CInv S cfg c' ∧ (proj c' = proj c ∨ Locked.step S (proj c) i = some (proj c')) := by
  cases hs : step cfg c.spin i ch with
  | none => simp [crun, hs] at h
  | some sp' =>
    obtain ⟨t, sh', t', hi, hts, hsp⟩ := step_cases hs
    have hi' : sp'.threads[i]? = some t' := hsp ▸ get_set_self hi
    have hshp : sp'.sh = sh' := hsp ▸ rfl
    have hL := (hI.own.thr i t hi).1
    have hc := hI.coupled i t hi
    obtain ⟨hd', hst, hO'⟩ := step_own hI.own hs
    -- a step that leaves the lock word alone: ghost fields, object and bookkeeping unchanged
    have tau : sp'.sh.lock = c.spin.sh.lock → Coupled S i t' (c.cl i) →
        CInv S cfg c' ∧ (proj c' = proj c ∨ Locked.step S (proj c) i = some (proj c')) := by
      intro hl hc'
      simp only [crun, hs, evOf_tau i hl] at h
      cases h
      exact ⟨cinv_tau hI hs hl (fun _ _ => rfl) hi' hc', .inl rfl⟩
    cases hp : t.ph with
    | idle => rw [tstep_idle_isRun hp hr] at hts; cases hts
    | fault => simp [Coupled, hp] at hc
    | go m pc =>
      cases m <;> simp only [Local, hp] at hL
      case try_ => simp [Coupled, hp] at hc
      all_goals obtain rfl | rfl : pc = 0 ∨ pc = 1 := by omega
      all_goals simp only [Coupled, hp] at hc
      · -- the call of `archAcquireSpinlock`
        obtain ⟨rfl, rfl⟩ := Prod.mk.inj ((tstep_go hp hts).trans (goStep_acquire_0 ..))
        exact tau (congrArg _ hshp) hc
      · -- the return of `Acquire`
        obtain ⟨rfl, rfl⟩ := Prod.mk.inj ((tstep_go hp hts).trans (goStep_acquire_1 ..))
        obtain ⟨o, hcur, _⟩ := hc
        exact tau (congrArg _ hshp) (by simp [Coupled, hcur])
      · -- the Release store: abstract release, the operation completes
        obtain ⟨rfl, rfl⟩ := Prod.mk.inj ((tstep_go hp hts).trans (goStep_release_0 ..))
        obtain ⟨o, loc, hcur⟩ := hc
        have hev : evOf c.spin sp' i = .rel i :=
          evOf_rel i (hI.own.lock1 ((hI.own.thr i t hi).2.1 (.inr (by simp only [hp])))) (hshp ▸ rfl)
        rw [hev] at hst
        obtain ⟨hh, rfl⟩ := absStep_rel hst
        simp only [crun, hs, hev, hcur] at h
        cases h
        refine ⟨⟨hO', coupled_of_other hI (fun _ hj => step_other hs hj)
          (fun j hj => Locked.upd_other _ _ _ _ hj) hi' (by simp [Coupled, Locked.upd_self])⟩, .inr ?_⟩
        simp only [Locked.step, proj, hh, if_true, hcur]
        refine congrArg some (lstate_ext rfl rfl (fun j => ?_) rfl)
        by_cases hji : j = i
        · subst hji; simp [Locked.upd]
        · simp [Locked.upd, hji, Ne.symm hji]
      · -- the return of `Release`
        obtain ⟨rfl, rfl⟩ := Prod.mk.inj ((tstep_go hp hts).trans (goStep_release_1 ..))
        exact tau (congrArg _ hshp) (by simp [Coupled, hL.2, hc])
    | asm m rpc pc =>
      simp only [Local, hp] at hL
      obtain ⟨rfl, rfl, -, hA⟩ := hL
      simp only [Coupled, hp] at hc
      obtain ⟨hv, e⟩ := tstep_asm hp hts
      obtain ⟨-, -, -, -, hn⟩ := asm_effect cfg c.spin.sh t .acquire 0 pc hv hA hI.own.word01
      rw [← e] at hn
      have hc' : Coupled S i t' (c.cl i) := by
        rcases hn with ⟨_, hp', -⟩ | ⟨-, hp', -⟩ <;> (simp only [Coupled, show t'.ph = _ from hp']; exact hc)
      rcases hn with ⟨_, -, -, ⟨hk, -⟩ | ⟨-, h0, h1, -⟩⟩ | ⟨-, -, hk⟩
      · exact tau (hshp ▸ hk) hc'
      · -- the winning exchange: abstract acquire, the operation enters the log
        have hev : evOf c.spin sp' i = .acq i := evOf_acq i h0 (hshp ▸ h1)
        rw [hev] at hst
        obtain ⟨hh, rfl⟩ := absStep_acq hst
        obtain ⟨o, hcur, hcl⟩ := hc
        simp only [crun, hs, hev, hcur] at h
        cases h
        refine ⟨⟨hO', coupled_of_other hI (fun _ hj => step_other hs hj) (fun _ _ => rfl) hi' hc'⟩, .inr ?_⟩
        simp only [Locked.step, proj, hh, reduceCtorEq, if_false, hcl]
        refine congrArg some (lstate_ext rfl rfl (fun j => ?_) rfl)
        by_cases hji : j = i
        · subst hji
          cases hci : c.cl j with
          | mk hist cur => simp [Locked.upd, hci] at hcur ⊢; exact hcur.symm
        · simp [Locked.upd, hji, Ne.symm hji]
      · exact tau (hshp ▸ hk) hc'

/-- **Every move of the composed machine is invisible under `proj` or is exactly one step of
C09's Locked machine**, and the coupling invariant is preserved. -/
theorem cstep_refines (S : Locked.Sys σ ρ O) (cfg : Config) (c c' : CState σ ρ O) (i : Nat) (mv : CMove)
    (hI : CInv S cfg c) (h : cstep S cfg c i mv = some c') :
    CInv S cfg c' ∧ (proj c' = proj c ∨ Locked.step S (proj c) i = some (proj c')) := by
  cases mv with
  | micro => exact (fun r => ⟨r.1, Or.inr r.2⟩) ((cstep_micro S cfg c c' i h).2 hI)
  | lock ch =>
    cases ch with
    | callAcquire => exact (fun r => ⟨r.1, Or.inl r.2⟩) ((cstep_callAcquire S cfg c c' i h).2 hI)
    | callRelease => exact (fun r => ⟨r.1, Or.inl r.2⟩) ((cstep_callRelease S cfg c c' i h).2 hI)
    | run => exact crun_refines S cfg c c' i .run rfl hI (by simpa [cstep, Choice.isRun] using h)
    | havoc a b cc d z =>
      exact crun_refines S cfg c c' i (.havoc a b cc d z) rfl hI (by simpa [cstep, Choice.isRun] using h)
    | callTry => simp [cstep, Choice.isRun] at h
    | csRead => simp [cstep, Choice.isRun] at h
    | csWrite => simp [cstep, Choice.isRun] at h

/-- **Refinement.** Every reachable state of the composed machine (real spin-lock program, any
number of threads, any schedule, any register values left by the yield function) projects to a
reachable state of the machine of `Model/Locked.lean`. -/
theorem creachable_proj (S : Locked.Sys σ ρ O) (cfg : Config) (n : Nat) (s0 : σ) {c : CState σ ρ O}
    (h : CReachable S cfg n s0 c) : CInv S cfg c ∧ Locked.Reachable S s0 (proj c) := by
  induction h with
  | init => exact ⟨cinit_inv S cfg n s0, by
      have : proj (cinit n s0 : CState σ ρ O) = { sh := s0 } := lstate_ext rfl rfl (fun j => by simp [proj, cinit]) rfl
      rw [this]; exact Locked.Reachable.init⟩
  | step i mv _ hs ih =>
    obtain ⟨hI', hp⟩ := cstep_refines S cfg _ _ i mv ih.1 hs
    refine ⟨hI', ?_⟩
    rcases hp with hp | hp
    · rw [hp]; exact ih.2
    · exact Locked.Reachable.step i ih.2 hp

def crunSched (S : Locked.Sys σ ρ O) (cfg : Config) (c : CState σ ρ O) : List (Nat × CMove) → Option (CState σ ρ O)
  | [] => some c
  | (i, mv) :: rest => match cstep S cfg c i mv with
    | none => none
    | some c' => crunSched S cfg c' rest

theorem crunSched_reachable (S : Locked.Sys σ ρ O) (cfg : Config) (n : Nat) (s0 : σ) (sched : List (Nat × CMove)) :
    ∀ {c c' : CState σ ρ O}, CReachable S cfg n s0 c → crunSched S cfg c sched = some c' →
      CReachable S cfg n s0 c' := by
  induction sched with
  | nil => intro c c' hr h; simp [crunSched] at h; subst h; exact hr
  | cons mv rest ih =>
    intro c c' hr h
    obtain ⟨i, m⟩ := mv
    simp only [crunSched] at h
    split at h
    · cases h
    · rename_i c1 h1
      exact ih (CReachable.step i m hr h1) h

end Firefly.Spin
