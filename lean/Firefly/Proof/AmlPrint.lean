import Firefly.Replay.AmlCommon
import Firefly.Proof.AmlTreeAbs
/-!
`print_total`: the walk of `PrettyPrint` (the model of its panic sites, `Replay.Aml.printWalk`) over a well-formed
pool whose values have the dynamic types `toString` asserts returns normally — no `.panic`, and the fuel
`printFuel` (quadratic in the pool size: at most `size + 1` levels of at most `size` siblings) is enough.
-/
namespace Firefly.AmlParser
open Firefly.AmlLex Firefly.AmlTree Firefly.C13 Firefly.AmlTree.ObjectTree
open Firefly.Gen.C12

/-- the dynamic types `toString` asserts, and the objects it dereferences -/
structure PrintOK (t : ObjectTree) (x : Nat) : Prop where
  call : (slot t x).opcode = opIntMethodCall → ∃ i fl v, (slot t x).value = .idx i ∧ C13.live t i = true ∧
    t.ArgAt (some i) 1 = .ok (some fl) ∧ C13.live t fl = true ∧ (slot t fl).value = .u64 v
  resolved : (slot t x).opcode = opIntResolvedNamePath → ∃ i, (slot t x).value = .idx i ∧ C13.live t i = true
  field : (slot t x).opcode = opIntNamedField → ∃ a b c d e f g h i, (slot t x).value = .field a b c d e f g h i
  str : ((slot t x).opcode = opStringPrefix ∨ (slot t x).opcode = opIntNamePath) → ∃ off len, (slot t x).value = .bytes off len
  dword : (slot t x).opcode = opDwordPrefix → (∃ v, (slot t x).value = .u64 v) → C13.live t (C13.P t x) = true

theorem printKids_end (t : ObjectTree) {f : Nat} (hf : 0 < f) : Replay.Aml.printKids t f invalidIndex = .ok () := by
  obtain ⟨f, rfl⟩ := Nat.exists_eq_add_one.mpr hf
  unfold Replay.Aml.printKids
  rw [if_pos rfl]; rfl

theorem printKids_ok {t : ObjectTree} (hs : t.pool.size ≤ INV) {g : Nat} : ∀ (ks : List Nat) (i f : Nat),
    Chain t (Nx t) i ks → (∀ k ∈ ks, ∀ f', g ≤ f' → Replay.Aml.printWalk t f' k = .ok ()) → ks.length + 1 + g ≤ f →
    Replay.Aml.printKids t f i = .ok ()
  | [], i, f, hc, _, hf => by
    obtain rfl : i = invalidIndex := hc
    exact printKids_end t (by omega)
  | k :: ks, i, 0, _, _, hf => by simp at hf
  | k :: ks, i, f + 1, ⟨e, hk, hc⟩, hw, hf => by
    subst e
    simp only [List.length_cons] at hf
    unfold Replay.Aml.printKids
    rw [if_neg (show ¬ i = invalidIndex from live_ne_INV hs hk)]
    simp only [bind, Except.bind]
    rw [hw i (List.mem_cons_self ..) f (by omega)]
    simp only [objectAt_live hk, deref_some, obj_eq (live_lt hk)]
    exact printKids_ok hs ks _ f hc (fun k hk' => hw k (List.mem_cons_of_mem _ hk')) (by omega)

theorem printWalk_node {t : ObjectTree} (w : WF t) {x : Nat} (hx : C13.live t x = true) (hpx : PrintOK t x) (f : Nat) :
    Replay.Aml.printWalk t (f + 1) x = Replay.Aml.printKids t f (slot t x).firstArgIndex := by
  unfold Replay.Aml.printWalk
  simp only [objectAt_live hx, deref_some, obj_eq (live_lt hx), bind, Except.bind]
  -- `ArgAt` of a `Method` succeeds, and after it the check is the same for every opcode
  rw [w.argAt_eq 1 hx]
  simp only [ite_self]
  by_cases h1 : (slot t x).opcode = opIntMethodCall
  · rw [if_pos h1]
    obtain ⟨i, fl, v, hv, hil, harg, hfl, hfv⟩ := hpx.call h1
    rw [hv]
    simp only [objectAt_live hil, harg, deref_some, obj_eq (live_lt hfl), hfv]
  · rw [if_neg h1]
    by_cases h2 : (slot t x).opcode = opIntResolvedNamePath
    · rw [if_pos h2]
      obtain ⟨i, hv, hil⟩ := hpx.resolved h2
      rw [hv]
      simp only [objectAt_live hil, deref_some]
    · rw [if_neg h2]
      by_cases h3 : (slot t x).opcode = opIntNamedField
      · rw [if_pos h3]
        obtain ⟨a, b, c, d', e, f', g, h', i, hv⟩ := hpx.field h3
        rw [hv]
      · rw [if_neg h3]
        by_cases h4 : (slot t x).opcode = opStringPrefix ∨ (slot t x).opcode = opIntNamePath
        · rw [if_pos h4]
          obtain ⟨off, len, hv⟩ := hpx.str h4
          rw [hv]
        · rw [if_neg h4]
          cases hv : (slot t x).value with
          | u64 v =>
            simp only
            by_cases h5 : (slot t x).opcode = opDwordPrefix
            · rw [if_pos h5]
              have := hpx.dword h5 ⟨v, hv⟩
              have hpp : (slot t x).parentIndex = C13.P t x := rfl
              rw [hpp, objectAt_live this, deref_some]
            · rw [if_neg h5]
          | none => rfl
          | idx _ => rfl
          | bytes _ _ => rfl
          | field _ _ _ _ _ _ _ _ _ => rfl

/-- the walk below a node `m` levels above the deepest possible level: `size + 2` units of fuel per level -/
theorem print_levels {t : ObjectTree} (w : WF t) (hp : ∀ x, C13.live t x = true → PrintOK t x) :
    ∀ (m x f : Nat) (l : List Nat), C13.live t x = true → Chain t (C13.P t) x l → t.pool.size + 1 ≤ l.length + m →
      m * (t.pool.size + 2) ≤ f → Replay.Aml.printWalk t f x = .ok ()
  | 0, x, f, l, hx, hc, hlen, _ => by
    obtain ⟨l', hc', hlen'⟩ := w.parChain x (Or.inr hx)
    cases chain_det (C13.P t) w.size_le _ _ _ hc hc'
    omega
  | m + 1, x, f, l, hx, hc, hlen, hf => by
    have hm := Nat.add_one_mul m (t.pool.size + 2)
    obtain ⟨f, rfl⟩ : ∃ f', f = f' + 1 := ⟨f - 1, by omega⟩
    obtain ⟨hck, -, hklen⟩ := w.args_eq hx
    rw [printWalk_node w hx (hp x hx)]
    refine printKids_ok (g := m * (t.pool.size + 2)) w.size_le _ _ f hck (fun k hk f' hf' => ?_) (by omega)
    obtain ⟨hkl, hkp⟩ := (w.kids_mem x hx k).1 hk
    exact print_levels w hp m k f' (k :: l) hkl ⟨rfl, hkl, hkp ▸ hc⟩ (by simp only [List.length_cons]; omega) hf'

/-- **`PrettyPrint` is total on well-formed pools**: the walk from the root returns normally with the fuel the
replay oracle gives it -/
theorem print_total' {t : ObjectTree} (w : WF t) (hroot : C13.live t 0 = true) (hp : ∀ x, C13.live t x = true → PrintOK t x) :
    Replay.Aml.printWalk t (Replay.Aml.printFuel t) 0 = .ok () ∧ Replay.Aml.printOutcome t = "ok" := by
  obtain ⟨l, hc, _⟩ := w.parChain 0 (Or.inr hroot)
  have h1 : Replay.Aml.printWalk t (Replay.Aml.printFuel t) 0 = .ok () := by
    refine print_levels w hp (t.pool.size + 1) 0 _ l hroot hc (by omega) ?_
    unfold Replay.Aml.printFuel
    have : (t.pool.size + 2) * (t.pool.size + 2) = (t.pool.size + 1) * (t.pool.size + 2) + (t.pool.size + 2) := by
      rw [← Nat.succ_mul]
    omega
  refine ⟨h1, ?_⟩
  unfold Replay.Aml.printOutcome
  have hsz : t.pool.size ≠ 0 := by have := live_lt hroot; omega
  rw [if_neg hsz, h1]

end Firefly.AmlParser
