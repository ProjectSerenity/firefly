import Firefly.Proof.Spin
/-!
C08: the global inductive invariant (any number of threads), carried together with the holder of the
abstract lock (`Own`), and its preservation by every step of every thread as a step of that abstract lock
(`step_own`); `Inv` and `Abs`, which `Props/C08.lean` speaks of, are its two readings.
-/
namespace Firefly.Spin

structure Inv (cfg : Config) (s : State) : Prop where
  word : s.sh.lock = 0 ∨ s.sh.lock = 1
  loc : ∀ (i : Nat) (t : Thread), s.threads[i]? = some t → Local cfg t
  own1 : s.sh.lock = 1 → ∃ (i : Nat) (t : Thread), s.threads[i]? = some t ∧ Owner t
  own0 : ∀ (i : Nat) (t : Thread), s.threads[i]? = some t → Owner t → s.sh.lock = 1
  uniq : ∀ (i j : Nat) (ti tj : Thread), s.threads[i]? = some ti → s.threads[j]? = some tj → Owner ti → Owner tj → i = j
  ctr : s.sh.ctr = s.sh.incs
  cs : ∀ (i : Nat) (t : Thread) (v : Nat), s.threads[i]? = some t → t.loc = some v → v = s.sh.ctr ∧ t.held = true

theorem get_set_self {l : List Thread} {i : Nat} {t t' : Thread} (h : l[i]? = some t) :
    (l.set i t')[i]? = some t' :=
  List.getElem?_set_self (List.getElem?_eq_some_iff.1 h).1

theorem step_cases {cfg : Config} {s s' : State} {i : Nat} {ch : Choice} (h : step cfg s i ch = some s') :
    ∃ t sh' t', s.threads[i]? = some t ∧ tstep cfg s.sh t ch = some (sh', t') ∧
      s' = { sh := sh', threads := s.threads.set i t' } := by
  unfold step at h
  split at h
  · cases h
  · rename_i t ht
    split at h
    · cases h
    · rename_i sh' t' hts
      cases h
      exact ⟨t, sh', t', ht, hts, rfl⟩

theorem step_at {cfg : Config} {s s' : State} {i : Nat} {ch : Choice} {t t' : Thread}
    (h : step cfg s i ch = some s') (hi : s.threads[i]? = some t) (hi' : s'.threads[i]? = some t') :
    tstep cfg s.sh t ch = some (s'.sh, t') := by
  obtain ⟨t0, sh', t1, hi0, hts, rfl⟩ := step_cases h
  cases hi.symm.trans hi0
  cases (get_set_self hi).symm.trans hi'
  exact hts

theorem init_get {n i : Nat} {t : Thread} (h : (init n).threads[i]? = some t) : t = {} := by
  simp only [init, List.getElem?_replicate] at h
  split at h <;> cases h
  rfl

inductive LockEv where
  | acq (i : Nat) | rel (i : Nat) | tau
  deriving DecidableEq, Repr

/-- The abstract lock: `acq i` is enabled only while nobody holds it, `rel i` only for the holder. -/
def absStep (h : Option Nat) : LockEv → Option (Option Nat)
  | .acq i => if h = none then some (some i) else none
  | .rel i => if h = some i then some none else none
  | .tau => some h

/-- the visible event of a machine step by thread `i`, read off the lock word -/
def evOf (s s' : State) (i : Nat) : LockEv :=
  if s.sh.lock = 0 ∧ s'.sh.lock ≠ 0 then .acq i
  else if s.sh.lock ≠ 0 ∧ s'.sh.lock = 0 then .rel i
  else .tau

/-- abstraction relation: the abstract holder is the (unique) owner -/
def Abs (s : State) : Option Nat → Prop
  | none => ∀ (j : Nat) (t : Thread), s.threads[j]? = some t → ¬ Owner t
  | some i => ∃ t, s.threads[i]? = some t ∧ Owner t

theorem evOf_tau {s s' : State} (i : Nat) (hl : s'.sh.lock = s.sh.lock) : evOf s s' i = .tau := by
  simp [evOf, hl]

theorem evOf_acq {s s' : State} (i : Nat) (h0 : s.sh.lock = 0) (h1 : s'.sh.lock = 1) : evOf s s' i = .acq i := by
  simp [evOf, h0, h1]

theorem evOf_rel {s s' : State} (i : Nat) (h1 : s.sh.lock = 1) (h0 : s'.sh.lock = 0) : evOf s s' i = .rel i := by
  simp [evOf, h0, h1]

/-- The inductive invariant with the holder `h` of the abstract lock as a ghost: the lock word says
whether there is a holder, and a thread is an `Owner` exactly when it is that holder.  `Inv` (no
ghost) and `Abs` are its two readings. -/
structure Own (cfg : Config) (s : State) (h : Option Nat) : Prop where
  word : s.sh.lock = if h = none then 0 else 1
  thr : ∀ (i : Nat) (t : Thread), s.threads[i]? = some t → Local cfg t ∧ (Owner t ↔ h = some i)
  live : ∀ i, h = some i → ∃ t, s.threads[i]? = some t
  ctr : s.sh.ctr = s.sh.incs
  cs : ∀ (i : Nat) (t : Thread) (v : Nat), s.threads[i]? = some t → t.loc = some v → v = s.sh.ctr ∧ t.held = true

theorem Own.word01 {cfg : Config} {s : State} {h : Option Nat} (hO : Own cfg s h) :
    s.sh.lock = 0 ∨ s.sh.lock = 1 := by
  rw [hO.word]; split <;> simp

theorem Own.lock1 {cfg : Config} {s : State} {h : Option Nat} (hO : Own cfg s h) {i : Nat} (e : h = some i) :
    s.sh.lock = 1 := by
  rw [hO.word, e]; rfl

theorem Own.inv {cfg : Config} {s : State} {h : Option Nat} (hO : Own cfg s h) : Inv cfg s where
  word := hO.word01
  loc i t hi := (hO.thr i t hi).1
  own1 h1 := by
    cases h with
    | none => rw [hO.word] at h1; cases h1
    | some i =>
      obtain ⟨t, hi⟩ := hO.live i rfl
      exact ⟨i, t, hi, (hO.thr i t hi).2.2 rfl⟩
  own0 i t hi ho := hO.lock1 ((hO.thr i t hi).2.1 ho)
  uniq i j ti tj hi hj hoi hoj :=
    Option.some.inj (((hO.thr i ti hi).2.1 hoi).symm.trans ((hO.thr j tj hj).2.1 hoj))
  ctr := hO.ctr
  cs := hO.cs

theorem Own.abs {cfg : Config} {s : State} {h : Option Nat} (hO : Own cfg s h) : Abs s h := by
  cases h with
  | none => exact fun j t hj ho => nomatch (hO.thr j t hj).2.1 ho
  | some i =>
    obtain ⟨t, hi⟩ := hO.live i rfl
    exact ⟨t, hi, (hO.thr i t hi).2.2 rfl⟩

theorem Own.abs_eq {cfg : Config} {s : State} {h h' : Option Nat} (hO : Own cfg s h) (ha : Abs s h') : h' = h := by
  cases h' with
  | none =>
    cases h with
    | none => rfl
    | some i =>
      obtain ⟨t, hi⟩ := hO.live i rfl
      exact absurd ((hO.thr i t hi).2.2 rfl) (ha i t hi)
  | some i =>
    obtain ⟨t, hi, ho⟩ := ha
    exact ((hO.thr i t hi).2.1 ho).symm

theorem own_init (cfg : Config) (n : Nat) : Own cfg (init n) none := by
  refine ⟨rfl, fun i t h => ?_, nofun, rfl, fun i t v h hl => ?_⟩
  · rw [init_get h]; exact ⟨trivial, iff_of_false (fun ho => by simp [Owner] at ho) nofun⟩
  · rw [init_get h] at hl; cases hl

theorem init_inv (cfg : Config) (n : Nat) : Inv cfg (init n) := (own_init cfg n).inv

/-- **Every step of every thread is a step of the abstract lock on its visible event, and keeps the
invariant**: the winning exchange (`XCHGL` reading 0 / successful `TryToAcquire` swap) is `acq i`, the
store of `Release` is `rel i`, everything else a stutter.  Only thread `i` changes, so only its side of
`Owner t ↔ h = some i` has to be re-established; `LockEffect` is what it is re-established from: the lock word changes only
together with `Owner` of the thread that steps. -/
theorem step_own {cfg : Config} {s s' : State} {i : Nat} {ch : Choice} {h : Option Nat}
    (hO : Own cfg s h) (hs : step cfg s i ch = some s') :
    ∃ h', absStep h (evOf s s' i) = some h' ∧ Own cfg s' h' := by
  obtain ⟨t, sh', t', hi, hts, rfl⟩ := step_cases hs
  obtain ⟨hLt, hOt⟩ := hO.thr i t hi
  obtain ⟨hL', hlock, hctr⟩ := tstep_local cfg s.sh sh' t t' ch hLt hO.word01 (fun ho => hO.lock1 (hOt.1 ho))
    (fun v hv => hO.cs i t v hi hv) hts
  have hself : (s.threads.set i t')[i]? = some t' := get_set_self hi
  have hget : ∀ j tj, (s.threads.set i t')[j]? = some tj → (j = i ∧ tj = t') ∨ (j ≠ i ∧ s.threads[j]? = some tj) := by
    intro j tj hj
    rw [List.getElem?_set] at hj
    split at hj
    · next e => exact .inl ⟨e.symm, by split at hj <;> cases hj; rfl⟩
    · next ne => exact .inr ⟨fun e => ne e.symm, hj⟩
  -- the new holder: it explains the new lock word, thread `i` owns iff it is `i`, nothing changes for the others
  obtain ⟨h', hstep, hword', hown', hoth⟩ : ∃ h', absStep h (evOf s ⟨sh', s.threads.set i t'⟩ i) = some h' ∧
      sh'.lock = (if h' = none then 0 else 1) ∧ (Owner t' ↔ h' = some i) ∧ ∀ j, j ≠ i → (h' = some j ↔ h = some j) := by
    rcases hlock with ⟨hl, ho⟩ | ⟨h0, h1, hno, ho'⟩ | ⟨h0', hot, hno'⟩
    · exact ⟨h, by rw [evOf_tau i hl]; rfl, hl.trans hO.word, ho.trans hOt, fun _ _ => Iff.rfl⟩
    · obtain rfl : h = none := by
        cases h with
        | none => rfl
        | some k => have := hO.lock1 rfl; omega
      exact ⟨some i, by rw [evOf_acq i h0 h1]; rfl, h1, iff_of_true ho' rfl,
        fun j hj => iff_of_false (fun e => hj (Option.some.inj e).symm) nofun⟩
    · obtain rfl : h = some i := hOt.1 hot
      exact ⟨none, by rw [evOf_rel i (hO.lock1 rfl) h0', absStep, if_pos rfl], h0', iff_of_false hno' nofun,
        fun j hj => iff_of_false nofun fun e => hj (Option.some.inj e).symm⟩
  have hcc : sh'.ctr = sh'.incs ∧ ∀ (j : Nat) (tj : Thread) (v : Nat), (s.threads.set i t')[j]? = some tj →
      tj.loc = some v → v = sh'.ctr ∧ tj.held = true := by
    rcases hctr with ⟨hc, hi', hl⟩ | ⟨hheld, hc, hi', hl, _⟩
    · refine ⟨by rw [hc, hi']; exact hO.ctr, fun j tj v hj hv => ?_⟩
      rw [hc]
      rcases hget j tj hj with ⟨_, rfl⟩ | ⟨_, hj'⟩
      · exact hl v hv
      · exact hO.cs j tj v hj' hv
    · refine ⟨by rw [hc, hi', hO.ctr], fun j tj v hj hv => ?_⟩
      rcases hget j tj hj with ⟨_, rfl⟩ | ⟨hne, hj'⟩
      · rw [hl] at hv; cases hv
      · -- another thread with a pending local copy would be a second holder
        have hj2 := (hO.thr j tj hj').2.1 (Or.inl (hO.cs j tj v hj' hv).2)
        exact absurd (Option.some.inj (hj2.symm.trans (hOt.1 (Or.inl hheld)))) hne
  refine ⟨h', hstep, hword', fun j tj hj => ?_, fun j hj => ?_, hcc.1, hcc.2⟩
  · rcases hget j tj hj with ⟨rfl, rfl⟩ | ⟨hne, hj'⟩
    · exact ⟨hL', hown'⟩
    · exact ⟨(hO.thr j tj hj').1, (hO.thr j tj hj').2.trans (hoth j hne).symm⟩
  · by_cases hji : j = i
    · exact ⟨t', hji ▸ hself⟩
    · obtain ⟨tj, hj'⟩ := hO.live j ((hoth j hji).1 hj)
      exact ⟨tj, (List.getElem?_set_ne (Ne.symm hji)).trans hj'⟩

theorem reachable_own {cfg : Config} {n : Nat} {s : State} (h : Reachable cfg n s) : ∃ hd, Own cfg s hd := by
  induction h with
  | init => exact ⟨none, own_init cfg n⟩
  | step i ch _ hs ih =>
    obtain ⟨hd, hO⟩ := ih
    obtain ⟨hd', -, hO'⟩ := step_own hO hs
    exact ⟨hd', hO'⟩

theorem reachable_inv {cfg : Config} {n : Nat} {s : State} (h : Reachable cfg n s) : Inv cfg s :=
  (reachable_own h).elim fun _ hO => hO.inv

theorem step_other {cfg : Config} {s s' : State} {i j : Nat} {ch : Choice}
    (h : step cfg s i ch = some s') (hne : j ≠ i) : s'.threads[j]? = s.threads[j]? := by
  obtain ⟨t, sh', t', hi, hts, rfl⟩ := step_cases h
  exact List.getElem?_set_ne (Ne.symm hne)

theorem step_length {cfg : Config} {s s' : State} {i : Nat} {ch : Choice}
    (h : step cfg s i ch = some s') : s'.threads.length = s.threads.length := by
  obtain ⟨t, sh', t', hi, hts, rfl⟩ := step_cases h
  simp

theorem reachable_length {cfg : Config} {n : Nat} {s : State} (h : Reachable cfg n s) : s.threads.length = n := by
  induction h with
  | init => simp [init]
  | step i ch _ hs ih => rw [step_length hs, ih]

end Firefly.Spin
