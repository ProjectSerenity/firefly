import Firefly.Model.FbMem
/-!
What the checked-access loops of `Model/FbMem.lean` compute, as pointwise updates `Upd` of `fb[i]?`
(`pixRow` apart, which `Proof/Console.lean` treats as one of its row loops: `pixRow_eq`).
-/
namespace Firefly.ConsoleProof
open Firefly.FbMem

theorem add32_of_lt {a b : Nat} (h : a + b < 4294967296) : add32 a b = a + b := Nat.mod_eq_of_lt h

theorem mul32_of_lt {a b : Nat} (h : a * b < 4294967296) : mul32 a b = a * b := Nat.mod_eq_of_lt h

theorem mul32_of_le {a b W : Nat} (h : a * b ≤ W) (hW : W < 4294967296) : mul32 a b = a * b :=
  mul32_of_lt (Nat.lt_of_le_of_lt h hW)

theorem sub32_of_le {a b : Nat} (hb : b ≤ a) (ha : a < 4294967296) : sub32 a b = a - b := by
  unfold sub32; omega

theorem ite_and_swap {β : Type _} {A B : Prop} [Decidable A] [Decidable B] (x y : β) :
    (if A ∧ B then x else y) = if B then (if A then x else y) else y := by
  by_cases hB : B
  · rw [if_pos hB]; exact ite_congr (propext (and_iff_left hB)) (fun _ => rfl) (fun _ => rfl)
  · rw [if_neg hB, if_neg fun h => hB h.2]

/-- `r` returns an array of the size of `fb` that reads `v i` at the indices in `P` and as `fb` elsewhere.  The new
value is an `Option`, set against `fb'[i]?`, so that a copy can give it as `fb[src k]?` or `comp[k - off]?` with no
bound proof in the statement. -/
def Upd (r : Option (Array α)) (fb : Array α) (P : Nat → Prop) [DecidablePred P] (v : Nat → Option α) : Prop :=
  ∃ fb', r = some fb' ∧ fb'.size = fb.size ∧ ∀ i, fb'[i]? = if P i then v i else fb[i]?

section Upd
variable {fb : Array α} {r : Option (Array α)} {P Q T : Nat → Prop} [DecidablePred P] [DecidablePred Q] [DecidablePred T]
  {v w t : Nat → Option α}

theorem Upd.refl (h : ∀ i, ¬ P i) : Upd (some fb) fb P v :=
  ⟨fb, rfl, rfl, fun i => (if_neg (h i)).symm⟩

theorem Upd.congr (h : Upd r fb P v) (hP : ∀ i, T i ↔ P i) (hv : ∀ i, P i → v i = t i) : Upd r fb T t := by
  obtain ⟨fb', h1, h2, h3⟩ := h
  refine ⟨fb', h1, h2, fun i => ?_⟩
  rw [h3]
  by_cases hi : P i
  · rw [if_pos hi, if_pos ((hP i).2 hi), hv i hi]
  · rw [if_neg hi, if_neg (fun h => hi ((hP i).1 h))]

theorem Upd.vals (h : Upd r fb P v) (hv : ∀ i, P i → v i = t i) : Upd r fb P t :=
  h.congr (fun _ => Iff.rfl) hv

theorem Upd.seq {r' : Option (Array α)} (h1 : Upd r fb P v)
    (h2 : ∀ fb1, r = some fb1 → fb1.size = fb.size → (∀ i, fb1[i]? = if P i then v i else fb[i]?) → Upd r' fb1 Q w)
    (hT : ∀ i, T i ↔ Q i ∨ P i) (hw : ∀ i, Q i → w i = t i) (hv : ∀ i, P i → ¬ Q i → v i = t i) :
    Upd r' fb T t := by
  obtain ⟨fb1, g1, g2, g3⟩ := h1
  obtain ⟨fb', k1, k2, k3⟩ := h2 fb1 g1 g2 g3
  refine ⟨fb', k1, k2.trans g2, fun i => ?_⟩
  rw [k3]
  by_cases hq : Q i
  · rw [if_pos hq, if_pos ((hT i).2 (.inl hq)), hw i hq]
  · rw [if_neg hq, g3]
    by_cases hp : P i
    · rw [if_pos hp, if_pos ((hT i).2 (.inr hp)), hv i hp hq]
    · rw [if_neg hp, if_neg (fun h => ((hT i).1 h).elim hq hp)]

/-- the result as the specifications read a framebuffer, through `getD` -/
theorem Upd.computes (h : Upd r fb P v) {d : α} {spec : Nat → α}
    (hs : ∀ i, (if P i then (v i).getD d else fb.getD i d) = spec i) :
    ∃ fb', r = some fb' ∧ fb'.size = fb.size ∧ ∀ i, fb'.getD i d = spec i := by
  obtain ⟨fb', h1, h2, h3⟩ := h
  refine ⟨fb', h1, h2, fun i => ?_⟩
  rw [← hs, Array.getD_eq_getD_getElem?, h3, Array.getD_eq_getD_getElem?]
  split <;> rfl

theorem put_spec (x : α) {i : Nat} (h : i < fb.size) : Upd (put fb i x) fb (· = i) (fun _ => some x) := by
  refine ⟨fb.set i x h, dif_pos h, Array.size_set .., fun k => ?_⟩
  rw [Array.getElem?_set]
  by_cases hk : i = k
  · rw [if_pos hk, if_pos hk.symm]
  · rw [if_neg hk, if_neg (fun e => hk e.symm)]

end Upd

theorem fillRange_spec (v : α) : ∀ (n : Nat) (fb : Array α) (s : Nat), s + n ≤ fb.size →
    Upd (fillRange v fb s n) fb (fun i => s ≤ i ∧ i < s + n) (fun _ => some v)
  | 0, _, _, _ => .refl (by omega)
  | n+1, fb, s, h =>
    (put_spec v (show s < fb.size by omega)).seq (fun fb1 e hsz _ => by
        rw [fillRange, e]; exact fillRange_spec v n fb1 (s + 1) (by omega))
      (by omega) (fun _ _ => rfl) (fun _ _ _ => rfl)

/-- every source is in range and, when it is read, has not been overwritten yet -/
theorem copyAsc_spec (src : Nat → Nat) : ∀ (n : Nat) (fb : Array α) (i : Nat), i + n ≤ fb.size →
    (∀ k, i ≤ k → k < i + n → src k < fb.size ∧ (src k < i ∨ k ≤ src k)) →
    Upd (copyAsc src fb i n) fb (fun k => i ≤ k ∧ k < i + n) (fun k => fb[src k]?)
  | 0, _, _, _, _ => .refl (by omega)
  | n+1, fb, i, h, hsrc => by
    have hs := (hsrc i (Nat.le_refl _) (by omega)).1
    refine (put_spec fb[src i] (show i < fb.size by omega)).seq (fun fb1 e hsz h1 => by
      simp only [copyAsc, Array.getElem?_eq_getElem hs, e]
      refine (copyAsc_spec src n fb1 (i + 1) (by omega) fun k hk1 hk2 => by
        have := hsrc k (by omega) (by omega); omega).vals fun k hk => ?_
      have := hsrc k (by omega) (by omega)
      rw [h1, if_neg (by omega)])
      (by omega) (fun _ _ => rfl) (fun k hk _ => by rw [hk, Array.getElem?_eq_getElem hs])

theorem copyAsc_add (fb : Array α) (s n d : Nat) (h : s + n + d ≤ fb.size) (hs : fb.size < 4294967296) :
    Upd (copyAsc (fun k => add32 k d) fb s n) fb (fun k => s ≤ k ∧ k < s + n) (fun k => fb[k + d]?) :=
  (copyAsc_spec (fun k => add32 k d) n fb s (by omega) (by intro k _ _; simp only [add32]; omega)).vals
    (fun k hk => by rw [add32_of_lt (by omega)])

theorem copyAsc_sub (fb : Array α) (s n d : Nat) (h : s + n ≤ fb.size) (hd : n ≤ d) (hds : d ≤ s)
    (hs : fb.size < 4294967296) :
    Upd (copyAsc (fun k => sub32 k d) fb s n) fb (fun k => s ≤ k ∧ k < s + n) (fun k => fb[k - d]?) :=
  (copyAsc_spec (fun k => sub32 k d) n fb s h (by intro k _ _; simp only [sub32]; omega)).vals
    (fun k hk => by rw [sub32_of_le (by omega) (by omega)])

/-- the walk comes from above: a source not yet overwritten lies at or below its destination, or above the block -/
theorem copyDesc_spec (src : Nat → Nat) : ∀ (n : Nat) (fb : Array α) (lo : Nat), lo + n ≤ fb.size →
    (∀ k, lo ≤ k → k < lo + n → src k < fb.size ∧ (src k ≤ k ∨ lo + n ≤ src k)) →
    Upd (copyDesc src fb (lo + n - 1) n) fb (fun k => lo ≤ k ∧ k < lo + n) (fun k => fb[src k]?)
  | 0, _, _, _, _ => .refl (by omega)
  | n+1, fb, lo, h, hsrc => by
    have hs := (hsrc (lo + n) (by omega) (by omega)).1
    refine (put_spec fb[src (lo + n)] (show lo + n < fb.size by omega)).seq (fun fb1 e hsz h1 => by
      simp only [show lo + (n + 1) - 1 = lo + n by omega, copyDesc, Array.getElem?_eq_getElem hs, e]
      refine (copyDesc_spec src n fb1 lo (by omega) fun k hk1 hk2 => by
        have := hsrc k hk1 (by omega); omega).vals fun k hk => ?_
      have := hsrc k hk.1 (by omega)
      rw [h1, if_neg (by omega)])
      (by omega) (fun _ _ => rfl) (fun k hk _ => by rw [hk, Array.getElem?_eq_getElem hs])

theorem copyDesc_sub (fb : Array α) (N d : Nat) (hN : N ≤ fb.size) (hd : 1 ≤ d ∧ d ≤ N) (hs : fb.size < 4294967296) :
    Upd (copyDesc (fun k => sub32 k d) fb (N - 1) (N - 1 + 1 - d)) fb (fun k => d ≤ k ∧ k < N) (fun k => fb[k - d]?) := by
  have h := copyDesc_spec (fun k => sub32 k d) (N - d) fb d (by omega) (by intro k _ _; simp only [sub32]; omega)
  rw [Nat.add_sub_cancel' hd.2, ← show N - 1 + 1 - d = N - d by omega] at h
  exact h.congr (fun _ => by omega) (fun k hk => by rw [sub32_of_le (by omega) (by omega)])

theorem putPixel_spec : ∀ (comp : List α) (fb : Array α) (off : Nat), off + comp.length ≤ fb.size →
    fb.size < 4294967296 →
    Upd (putPixel fb off comp) fb (fun k => off ≤ k ∧ k < off + comp.length) (fun k => comp[k - off]?)
  | [], _, _, _, _ => .refl (by simp only [List.length_nil]; omega)
  | c :: cs, fb, off, h, hsz => by
    rw [List.length_cons] at h
    refine (put_spec c (show off < fb.size by omega)).seq (fun fb1 e hsz' _ => by
      rw [putPixel, e, add32_of_lt (show off + 1 < 4294967296 by omega)]
      exact putPixel_spec cs fb1 (off + 1) (by omega) (by omega))
      (by simp only [List.length_cons]; omega)
      (fun k hk => by rw [show k - off = (k - (off + 1)) + 1 by omega, List.getElem?_cons_succ])
      (fun k hk _ => by rw [hk, Nat.sub_self]; rfl)

end Firefly.ConsoleProof
