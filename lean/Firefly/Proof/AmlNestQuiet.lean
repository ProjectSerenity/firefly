import Firefly.Proof.AmlNodes
import Firefly.Proof.AmlQuiet
/-!
C11, the nested fragment: the five walks that find nothing to do, on pools of any depth.
-/
namespace Firefly.AmlParser.F
open Firefly.AmlLex Firefly.AmlTree Firefly.C13 Firefly.AmlParser Firefly.AmlParser.G Firefly.AmlParser.S
open Firefly.Gen.C12 Firefly.AmlProg

theorem Role.guards {t : ObjectTree} {h h' y : Nat} (w : WF t) : Role t h y → Guards t h' y
  | .named row h1 h2 lx opx infx _ kx lc valc =>
    guards_named row opx infx h1 h2 (Or.inr ⟨_, _, first_of_kids w lx kx, lc, valc⟩)
  | .plain row h1 h2 _ opy infy _ => guards_plain opy infy row h1 h2
  | .block _ opy infy => guards_named row_502 opy infy (by decide) (by decide) (Or.inl rfl)

section walk
variable {d : Bytes} {t : ObjectTree} {h hn : Nat} (W : Nat → Nat → P PRes) (G : Nat → Prop)
  (node : ∀ x N, live t x = true → G x → (∀ y ∈ K t x, QuietAt t h (fun f => W f y) N ∧ G y) →
    QuietAt t h (fun f => W f x) ((K t x).length + N + 2))
include node

mutual
/-- a walk that is quiet at every object whose guard holds is quiet on a connected node, with fuel linear in its size -/
theorem walk_node : ∀ (p : Nat) (n : Node), NodeOK d t hn true true p n → (∀ y ∈ n.objs, G y) →
    QuietAt t h (fun f => W f n.x) (7 * sizeN n)
  | p, .name x c k off seg dv, ok, hg => by
    unfold NodeOK at ok
    have hk : K t x = [c, k] := ok.kx
    have := walk_kids W G node ok.lx (hg x (by simp [Node.objs])) (M := 2) (Nat.le_refl 2) (by
      rw [hk]
      intro z hz
      simp only [List.mem_cons, List.mem_nil_iff, or_false] at hz
      rcases hz with rfl | rfl
      · exact ⟨hg _ (by simp [Node.objs]), .inl ⟨ok.lc, ok.kc⟩⟩
      · exact ⟨hg _ (by simp [Node.objs]), .inl ⟨ok.lk, ok.kk⟩⟩)
    rw [hk] at this
    exact this.mono (by simp [sizeN])
  | p, .dev kd x c sb off pw seg es kids, ok, hg => by
    unfold NodeOK at ok
    obtain ⟨dt, hksb, okk⟩ := ok
    have hesl : es.length = kd.ws.length := by rw [← dt.wsok, List.length_map]
    have hl := length_le_sizeL kids
    have hkids := walk_list sb kids okk fun y hy => hg y (by simp [Node.objs, hy])
    -- the scope block holds the nodes `kids`; `N` is fuel for the largest of them (and `0` if there is none)
    have qsb := node sb (7 * (sizeL kids - (kids.length - 1))) dt.lsb (hg sb (by simp [Node.objs])) (by
      rw [hksb, tops_true]
      intro z hz
      obtain ⟨n, hn, rfl⟩ := List.mem_map.1 hz
      have h1 := sizeN_le hn
      have h2 : 1 ≤ kids.length := List.length_pos_of_mem hn
      exact ⟨(hkids n hn).1.mono (by omega), (hkids n hn).2⟩)
    rw [hksb, tops_true, List.length_map] at qsb
    have := walk_kids W G node dt.lx (hg x (by simp [Node.objs])) (Nat.le_add_left 2 _) (by
      rw [dt.kx]
      intro z hz
      simp only [List.mem_cons, List.mem_append, List.mem_nil_iff, or_false] at hz
      rcases hz with rfl | hz | rfl
      · exact ⟨hg _ (by simp [Node.objs]), .inl ⟨dt.lc, dt.kc⟩⟩
      · obtain ⟨a, ha, rfl⟩ := List.mem_map.1 hz
        exact ⟨hg a.e (by simp only [Node.objs, List.mem_append, List.mem_cons, List.mem_map]; exact Or.inr (Or.inl ⟨a, ha, rfl⟩)),
          .inl ⟨(dt.args a ha).le, (dt.args a ha).ke⟩⟩
      · exact ⟨hg _ (by simp [Node.objs]), .inr qsb⟩)
    rw [dt.kx] at this
    exact this.mono (by simp only [sizeN, List.length_cons, List.length_append, List.length_map, List.length_nil]; omega)
  | p, .leaf kd x c off seg es, ok, hg => by
    unfold NodeOK at ok
    have hesl : es.length ≤ 1 := by
      have hwl : kd.ws.length ≤ 1 := by cases kd <;> simp [LKind.ws]
      have := congrArg List.length ok.wsok
      rw [List.length_map] at this
      omega
    have := walk_kids W G node ok.lx (hg x (by simp [Node.objs])) (M := 2) (Nat.le_refl 2) (by
      rw [ok.kx]
      intro z hz
      rcases List.mem_cons.1 hz with rfl | hz
      · exact ⟨hg _ (by simp [Node.objs]), .inl ⟨ok.lc, ok.kc⟩⟩
      · obtain ⟨a, ha, rfl⟩ := List.mem_map.1 hz
        exact ⟨hg a.e (by simp only [Node.objs, List.mem_cons, List.mem_map]; exact Or.inr (Or.inr ⟨a, ha, rfl⟩)),
          .inl ⟨(ok.args a ha).le, (ok.args a ha).ke⟩⟩)
    rw [ok.kx] at this
    exact this.mono (by simp only [sizeN, List.length_cons, List.length_map]; omega)
theorem walk_list : ∀ (p : Nat) (ns : List Node), NodesOK d t hn true p ns → (∀ y ∈ objsL ns, G y) →
    ∀ n ∈ ns, QuietAt t h (fun f => W f n.x) (7 * sizeN n) ∧ G n.x
  | _, [], _, _ => by intro n hn; cases hn
  | p, m :: ns, ok, hg => by
    intro n hn
    unfold NodesOK at ok
    rcases List.mem_cons.1 hn with e | hn'
    · rw [e]
      refine ⟨walk_node p m ok.1 (fun y hy => hg y (by simp [objsL, hy])), hg m.x (by
        cases m <;> simp [objsL, Node.objs, Node.x])⟩
    · exact walk_list p ns ok.2 (fun y hy => hg y (by simp [objsL, hy])) n hn'
end

end walk

end Firefly.AmlParser.F
