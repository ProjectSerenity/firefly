import Firefly.Proof.SpinInv
/-!
C08: runs of a single thread while nobody else moves (used for `release_reacquirable` and
`deadlock_free`), computed by symbolic execution of the generated programs.
-/
namespace Firefly.Spin
open Firefly.Gen.C08

def trun (cfg : Config) (sh : Shared) (t : Thread) : List Choice → Option (Shared × Thread)
  | [] => some (sh, t)
  | ch :: rest => match tstep cfg sh t ch with
    | none => none
    | some (sh', t') => trun cfg sh' t' rest

/-- the schedule in which only thread `i` moves -/
def solo (i : Nat) (chs : List Choice) : List (Nat × Choice) := chs.map fun c => (i, c)

theorem set_same {l : List Thread} {i : Nat} {t : Thread} (h : l[i]? = some t) : l.set i t = l := by
  obtain ⟨hi, rfl⟩ := List.getElem?_eq_some_iff.1 h
  exact List.set_getElem_self hi

theorem runSched_solo (cfg : Config) (i : Nat) (chs : List Choice) :
    ∀ (s : State) (t : Thread) (sh' : Shared) (t' : Thread), s.threads[i]? = some t →
      trun cfg s.sh t chs = some (sh', t') →
      runSched cfg s (solo i chs) = some { sh := sh', threads := s.threads.set i t' } := by
  induction chs with
  | nil =>
    intro s t sh' t' hi h
    simp [trun] at h
    obtain ⟨rfl, rfl⟩ := h
    simp [solo, runSched, set_same hi]
  | cons ch rest ih =>
    intro s t sh' t' hi h
    simp only [trun] at h
    split at h
    · cases h
    · rename_i sh1 t1 h1
      have hstep : step cfg s i ch = some { sh := sh1, threads := s.threads.set i t1 } := by
        simp [step, hi, h1]
      have := ih { sh := sh1, threads := s.threads.set i t1 } t1 sh' t' (get_set_self hi) h
      simp only [solo, List.map_cons, runSched, hstep]
      simp only [solo] at this
      rw [this]
      simp [List.set_set]

theorem runSched_reachable {cfg : Config} {n : Nat} (sched : List (Nat × Choice)) :
    ∀ {s s' : State}, Reachable cfg n s → runSched cfg s sched = some s' → Reachable cfg n s' := by
  induction sched with
  | nil => intro s s' hr h; simp [runSched] at h; subst h; exact hr
  | cons mv rest ih =>
    intro s s' hr h
    obtain ⟨i, ch⟩ := mv
    simp only [runSched] at h
    split at h
    · cases h
    · rename_i s1 h1
      exact ih (Reachable.step i ch hr h1) h

/-- moves of a successful TryToAcquire / Acquire / Release by one thread -/
def tryMoves : List Choice := [.callTry, .run, .run]
def acquireMoves : List Choice := .callAcquire :: List.replicate 9 .run
def releaseMoves : List Choice := [.callRelease, .run, .run]

theorem try_alone (cfg : Config) (sh : Shared) (t : Thread) (h0 : sh.lock = 0) (hph : t.ph = .idle) :
    ∃ t', trun cfg sh t tryMoves = some ({ sh with lock := 1 }, t') ∧
      t'.ph = .idle ∧ t'.held = true ∧ t'.ret = some true := by
  obtain ⟨ph, held, ax, bx, cx, dx, zf, tmp, att, ret, mid, loc⟩ := t
  obtain ⟨lock, ctr, incs⟩ := sh
  cases hph; cases h0
  exact ⟨_, rfl, rfl, Bool.or_true _, rfl⟩

theorem trun_append (cfg : Config) (a b : List Choice) :
    ∀ (sh : Shared) (t : Thread) (r : Shared × Thread), trun cfg sh t a = some r →
      trun cfg sh t (a ++ b) = trun cfg r.1 r.2 b := by
  induction a with
  | nil => intro sh t r h; cases h; rfl
  | cons ch rest ih =>
    intro sh t r h
    simp only [trun, List.cons_append] at h ⊢
    split at h
    · cases h
    · exact ih _ _ r h

/-- one `run` move of a thread inside `archAcquireSpinlock` -/
theorem trun_asm {cfg : Config} {sh : Shared} {t : Thread} {m : Method} {rpc pc : Nat}
    (hph : t.ph = .asm m rpc pc) (chs : List Choice) :
    trun cfg sh t (.run :: chs) =
      trun cfg (asmStep cfg sh t m rpc pc none).1 (asmStep cfg sh t m rpc pc none).2 chs := by
  rw [trun, show tstep cfg sh t .run = some (asmStep cfg sh t m rpc pc none) by unfold tstep; rw [hph]]

/-- the call of `Acquire`, its call of `archAcquireSpinlock`, `MOVQ`, `MOVL`, `MOVL $1, BX` -/
theorem acquire_entry (cfg : Config) (sh : Shared) (t : Thread) (hph : t.ph = .idle) (hh : t.held = false) :
    ∃ t3, trun cfg sh t (.callAcquire :: List.replicate 4 .run) = some (sh, t3) ∧
      t3.ph = .asm .acquire 0 3 ∧ t3.ax = cfg.lockAddr ∧ t3.bx = 1 := by
  obtain ⟨ph, held, ax, bx, cx, dx, zf, tmp, att, ret, mid, loc⟩ := t
  cases hph; cases hh
  exact ⟨_, rfl, rfl, rfl, rfl⟩

/-- from the winning exchange to the client: `TESTL` on `BX = 0`, `JNZ` not taken, `RET`, the return of
`Acquire`; nothing shared is touched -/
theorem won_to_idle (cfg : Config) (sh : Shared) (t : Thread) {pc : Nat} (hph : t.ph = .asm .acquire 0 pc)
    (hw : asmWon pc t) :
    ∃ t', trun cfg sh t (List.replicate (8 - pc) .run) = some (sh, t') ∧ 4 ≤ pc ∧ t'.ph = .idle ∧ t'.held = true := by
  obtain ⟨ph, held, ax, bx, cx, dx, zf, tmp, att, ret, mid, loc⟩ := t
  cases hph
  rcases pc with _|_|_|_|_|_|_|pc <;> try exact hw.elim
  · -- `rfl` does not get past `TESTL`: the elaborator evaluates `%` and `&&&` on literals only, and the thread
    -- term still holds the other registers as variables
    rw [show List.replicate (8 - 4) Choice.run = .run :: List.replicate 3 .run from rfl, trun_asm rfl,
      asmStep_test hw]
    exact ⟨_, rfl, by decide, rfl, rfl⟩
  · cases (hw : zf = true); exact ⟨_, rfl, by decide, rfl, rfl⟩
  · exact ⟨_, rfl, by decide, rfl, rfl⟩

theorem acquire_alone (cfg : Config) (sh : Shared) (t : Thread) (h0 : sh.lock = 0) (hph : t.ph = .idle)
    (hh : t.held = false) :
    ∃ t', trun cfg sh t acquireMoves = some ({ sh with lock := 1 }, t') ∧
      t'.ph = .idle ∧ t'.held = true := by
  obtain ⟨t3, h3, hp3, hax, hbx⟩ := acquire_entry cfg sh t hph hh
  -- the exchange reads `sh.lock = 0` into `BX` and wins
  obtain ⟨t', h', -, hp', hh'⟩ := won_to_idle cfg { sh with lock := 1 }
    { t3 with bx := sh.lock, ph := .asm .acquire 0 4 } rfl h0
  refine ⟨t', ?_, hp', hh'⟩
  rw [show acquireMoves = (.callAcquire :: List.replicate 4 .run) ++ (.run :: List.replicate 4 .run) from rfl,
    trun_append cfg _ _ sh t _ h3, trun_asm hp3, asmStep_xchg hax hbx]
  exact h'

theorem release_alone (cfg : Config) (sh : Shared) (t : Thread) (hph : t.ph = .idle) (hh : t.held = true) :
    ∃ t', trun cfg sh t releaseMoves = some ({ sh with lock := 0 }, t') ∧
      t'.ph = .idle ∧ t'.held = false := by
  obtain ⟨ph, held, ax, bx, cx, dx, zf, tmp, att, ret, mid, loc⟩ := t
  cases hph; cases hh
  exact ⟨_, rfl, rfl, rfl⟩

theorem can_step (cfg : Config) (sh : Shared) (t : Thread) (hL : Local cfg t) :
    ∃ ch r, tstep cfg sh t ch = some r := by
  cases hph : t.ph with
  | idle => exact ⟨.callTry, (sh, { t with ph := .go .try_ 0 }), by unfold tstep; rw [hph]⟩
  | go m pc => exact ⟨.run, goStep sh t m pc, by unfold tstep; rw [hph]⟩
  | asm m rpc pc => exact ⟨.run, asmStep cfg sh t m rpc pc none, by unfold tstep; rw [hph]⟩
  | fault => simp [Local, hph] at hL

/-- an owner that keeps moving reaches the client (idle, holding) or has already freed the lock -/
theorem owner_to_idle (cfg : Config) (sh : Shared) (t : Thread) (hL : Local cfg t) (ho : Owner t) :
    ∃ chs r, chs.length ≤ 4 ∧ trun cfg sh t chs = some r ∧
      ((r.2.ph = .idle ∧ r.2.held = true) ∨ r.1.lock = 0) := by
  obtain ⟨ph, held, ax, bx, cx, dx, zf, tmp, att, ret, mid, loc⟩ := t
  -- with the phase a constructor `Local` and `Owner` evaluate, and so do the runs; `ho` says which
  -- registers matter
  rcases ph with _ | ⟨_ | _ | _, pc⟩ | ⟨m, rpc, pc⟩ | _
  · exact ⟨[], _, by decide, rfl, .inl ⟨rfl, ho.resolve_right id⟩⟩
  · -- Acquire body: only `go acquire 1` owns
    obtain ⟨hpc, rfl⟩ := hL
    obtain rfl | rfl : pc = 0 ∨ pc = 1 := by omega
    · exact (ho.elim nofun id).elim
    · exact ⟨[.run], _, by decide, rfl, .inl ⟨rfl, rfl⟩⟩
  · -- TryToAcquire body
    obtain rfl | rfl : pc = 0 ∨ pc = 1 := Nat.le_one_iff_eq_zero_or_eq_one.1 hL
    · obtain rfl : held = true := ho.resolve_right id
      exact ⟨[.run, .run], _, by decide, rfl, .inl ⟨rfl, rfl⟩⟩
    · refine ⟨[.run], _, by decide, rfl, .inl ⟨rfl, ?_⟩⟩
      show (held || tmp == 0) = true
      rw [Bool.or_eq_true, beq_iff_eq]
      exact ho
  · -- Release body: only `go release 0` owns; its store frees the lock
    obtain ⟨hpc, rfl⟩ := hL
    obtain rfl | rfl : pc = 0 ∨ pc = 1 := by omega
    · exact ⟨[.run], _, by decide, rfl, .inr rfl⟩
    · exact (ho.elim nofun id).elim
  · obtain ⟨rfl, rfl, rfl, -⟩ := hL
    obtain ⟨t', hr, hpc, hp', hh'⟩ := won_to_idle cfg sh _ rfl (ho.resolve_left nofun)
    exact ⟨_, _, by rw [List.length_replicate]; omega, hr, .inl ⟨hp', hh'⟩⟩
  · exact hL.elim

/-- if the owner keeps stepping (and then calls Release) the lock becomes free within 7 moves -/
theorem owner_can_free (cfg : Config) (sh : Shared) (t : Thread) (hL : Local cfg t) (ho : Owner t) :
    ∃ chs sh' t', chs.length ≤ 7 ∧ trun cfg sh t chs = some (sh', t') ∧ sh'.lock = 0 := by
  obtain ⟨chs, ⟨sh1, t1⟩, hlen, hrun, h⟩ := owner_to_idle cfg sh t hL ho
  rcases h with ⟨hph, hh⟩ | h0
  · obtain ⟨t', hr, _, _⟩ := release_alone cfg sh1 t1 hph hh
    refine ⟨chs ++ releaseMoves, { sh1 with lock := 0 }, t', ?_, ?_, rfl⟩
    · simp [releaseMoves]; omega
    · rw [trun_append cfg chs releaseMoves sh t _ hrun, hr]
  · exact ⟨chs, sh1, t1, by omega, hrun, h0⟩

end Firefly.Spin
