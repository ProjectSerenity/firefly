/-!
Division and remainder facts that connect linear offsets `r * W + c` with (row, column)
coordinates — cells of a text grid, bytes of a framebuffer row, pixels of a cell.
-/
namespace Firefly.ConsoleProof

theorem row_range {pitch R c0 len i : Nat} (h : c0 + len ≤ pitch) :
    (R * pitch + c0 ≤ i ∧ i < R * pitch + c0 + len) ↔
      (i / pitch = R ∧ c0 ≤ i % pitch ∧ i % pitch < c0 + len) := by
  have hdm := Nat.div_add_mod i pitch
  constructor
  · intro ⟨h1, h2⟩
    have hq : i / pitch = R := by
      apply Nat.div_eq_of_lt_le
      · omega
      · rw [Nat.succ_mul]; omega
    rw [hq, Nat.mul_comm] at hdm
    omega
  · intro ⟨h1, h2, h3⟩
    rw [h1, Nat.mul_comm] at hdm
    omega

theorem row_range0 {pitch R len i : Nat} (h : len ≤ pitch) :
    (R * pitch ≤ i ∧ i < R * pitch + len) ↔ (i / pitch = R ∧ i % pitch < len) := by
  have := @row_range pitch R 0 len i (by omega)
  simp only [Nat.add_zero, Nat.zero_le, true_and, Nat.zero_add] at this
  exact this

theorem cell_div_mod {W r c : Nat} (hc : c < W) : (r * W + c) / W = r ∧ (r * W + c) % W = c := by
  have h := (@row_range W r c 1 (r * W + c) (by omega)).1 ⟨Nat.le_refl _, Nat.lt_succ_self _⟩
  omega

theorem cell_lt_row {W r c R : Nat} (hc : c < W) : r * W + c < R * W ↔ r < R := by
  rw [← Nat.div_lt_iff_lt_mul (by omega), (cell_div_mod hc).1]

theorem cell_lt {W H r c : Nat} (hr : r < H) (hc : c < W) : r * W + c < W * H := by
  rw [Nat.mul_comm W H]; exact (cell_lt_row hc).2 hr

theorem cell_inj {W r c r' c' : Nat} (hc : c < W) (hc' : c' < W) (h : r * W + c = r' * W + c') :
    r = r' ∧ c = c' := by
  have a := @cell_div_mod W r c hc
  have b := @cell_div_mod W r' c' hc'
  rw [h] at a
  exact ⟨a.1.symm.trans b.1, a.2.symm.trans b.2⟩

theorem div_lt_of_lt_mul {i W H : Nat} (h : i < W * H) : i / W < H :=
  Nat.div_lt_of_lt_mul h

/-- trip count `⌈n*step / step⌉` of `for o := s; o < s + n*step; o += step` -/
theorem steps_count {n step : Nat} (hp : 0 < step) : (n * step + (step - 1)) / step = n := by
  rw [Nat.add_comm, Nat.add_mul_div_right _ _ hp, Nat.div_eq_of_lt (by omega), Nat.zero_add]

/-- trip count of `for o := B*pitch; o < A*pitch; o += pitch` -/
theorem rows_count {A B pitch : Nat} (hp : 0 < pitch) :
    (A * pitch - B * pitch + (pitch - 1)) / pitch = A - B := by
  rw [← Nat.sub_mul, steps_count hp]

theorem scaled_mem {g col p a b : Nat} (h0 : col * g ≤ p) (h1 : p < (col + 1) * g) :
    ((a * g ≤ p ∧ p < b * g) ↔ (a ≤ col ∧ col < b)) ∧ p - col * g < g :=
  ⟨⟨fun ⟨h2, h3⟩ => ⟨Nat.le_of_lt_succ (Nat.lt_of_mul_lt_mul_right (Nat.lt_of_le_of_lt h2 h1)),
      Nat.lt_of_mul_lt_mul_right (Nat.lt_of_le_of_lt h0 h3)⟩,
    fun ⟨h2, h3⟩ => ⟨Nat.le_trans (Nat.mul_le_mul_right g h2) h0, Nat.lt_of_lt_of_le h1 (Nat.mul_le_mul_right g h3)⟩⟩,
    Nat.sub_lt_left_of_lt_add h0 (Nat.add_one_mul .. ▸ h1)⟩

theorem shift_div_mod {pitch : Nat} (hp : 0 < pitch) (i d : Nat) :
    (i + d * pitch) / pitch = i / pitch + d ∧ (i + d * pitch) % pitch = i % pitch :=
  ⟨Nat.add_mul_div_right _ _ hp, Nat.add_mul_mod_self_right ..⟩

theorem rows_succ {R n q : Nat} {A : Prop} :
    (((R ≤ q ∧ q < R + (n + 1)) ∧ A) ↔ (((R + 1 ≤ q ∧ q < R + 1 + n) ∧ A) ∨ (q = R ∧ A))) ∧
    (((R ≤ q ∧ q < R + (n + 1)) ∧ A) ↔ (((R ≤ q ∧ q < R + n) ∧ A) ∨ (q = R + n ∧ A))) := by
  refine ⟨⟨fun ⟨h, a⟩ => ?_, fun h => h.elim (fun ⟨h, a⟩ => ⟨by omega, a⟩) (fun ⟨h, a⟩ => ⟨by omega, a⟩)⟩,
    ⟨fun ⟨h, a⟩ => ?_, fun h => h.elim (fun ⟨h, a⟩ => ⟨by omega, a⟩) (fun ⟨h, a⟩ => ⟨by omega, a⟩)⟩⟩
  · by_cases e : q = R
    · exact .inr ⟨e, a⟩
    · exact .inl ⟨by omega, a⟩
  · by_cases e : q = R + n
    · exact .inr ⟨e, a⟩
    · exact .inl ⟨by omega, a⟩

/-- the rows a scroll up by `d` rows below the first `o` writes: as the loop counts them, and as the specification says it -/
theorem scroll_rows {o d H q : Nat} (h : o + d ≤ H) : (o ≤ q ∧ q < o + (H - d - o)) ↔ (o ≤ q ∧ q + d < H) := by
  omega

theorem scaled_mem_off {o g col p a b : Nat} (h0 : o + col * g ≤ p) (h1 : p < o + (col + 1) * g) :
    ((o + a * g ≤ p ∧ p < o + b * g) ↔ (a ≤ col ∧ col < b)) ∧ p - (o + col * g) < g := by
  have h := (@scaled_mem g col (p - o) a b (by omega) (by omega)).1
  rw [Nat.add_mul, Nat.one_mul] at h1
  exact ⟨⟨fun q => h.1 (by omega), fun q => by have := h.2 q; omega⟩, by omega⟩

end Firefly.ConsoleProof
