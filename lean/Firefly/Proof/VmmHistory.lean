import Firefly.Proof.VmmMapFull
/-! Sequences of requests at the level of address spaces. A `Map` / `Unmap` request refines its abstract update
(`Refines`, `runOp_refines`), so that a history refines the fold of the updates (`C04.history`); runs of `Map`-like calls
that stop at the first error (`seqCalls`: the page loops of `MapRegion` / `IdentityMapRegion`, the section visitor of
`setupPDTForKernel`) refine the fold over the calls made (`seqCalls_refines`). -/

namespace Firefly.Vmm
open Firefly.Gen.C04

/-- a request to the mapping interface -/
inductive Op where
  | map (page frame flags : W)
  | unmap (page : W)

def Op.page : Op → W
  | .map p _ _ => p
  | .unmap p => p

def runOp (st : St) : Op → R Nat
  | .map p f fl => mapOp st p f fl
  | .unmap p => unmapOp st p

/-- run a history; the result codes of the calls are collected -/
def runOps : St → List Op → Except Abort (List Nat × St)
  | st, [] => .ok ([], st)
  | st, op :: rest =>
    match runOp st op with
    | .error e => .error e
    | .ok (c, st') =>
      match runOps st' rest with
      | .error e => .error e
      | .ok (cs, st'') => .ok (c :: cs, st'')

/-- the abstract address space: address ↦ present leaf entry (frame field and flag bits) -/
abbrev AS := W → Option W

/-- abstract effect of one request that returned `code`: a successful `Map` gives the page the entry
`frame<<12 | flags` (nothing if the flags lack Present), a successful `Unmap` removes the page, a
request that returned an error changes nothing; other pages are never affected -/
def absStep (as : AS) (op : Op) (code : Nat) : AS :=
  if code ≠ 0 then as else
  match op with
  | .map p f fl => fun va' =>
    if SamePage va' (pageAddr p) then (if mkEntry f fl &&& 1#64 = 0#64 then none else some (mkEntry f fl)) else as va'
  | .unmap p => fun va' => if SamePage va' (pageAddr p) then none else as va'

def absRun (as : AS) : List Op → List Nat → AS
  | op :: ops, c :: cs => absRun (absStep as op c) ops cs
  | _, _ => as

theorem absStep_err {as : AS} {op : Op} {c : Nat} (hc : c ≠ 0) (va' : W) : absStep as op c va' = as va' := by
  unfold absStep; rw [if_pos hc]

theorem absStep_map (as : AS) (p f fl va' : W) :
    absStep as (.map p f fl) 0 va' =
      if SamePage va' (pageAddr p) then (if mkEntry f fl &&& 1#64 = 0#64 then none else some (mkEntry f fl)) else as va' := rfl

theorem absStep_unmap (as : AS) (p va' : W) :
    absStep as (.unmap p) 0 va' = if SamePage va' (pageAddr p) then none else as va' := rfl

theorem absStep_congr_at {as as' : AS} (op : Op) (c : Nat) (va' : W) (h : as va' = as' va') :
    absStep as op c va' = absStep as' op c va' := by
  unfold absStep
  by_cases hc : c ≠ 0
  · rw [if_pos hc, if_pos hc]; exact h
  · rw [if_neg hc, if_neg hc]
    cases op <;> simp only [h]

theorem absRun_congr_at {as as' : AS} (ops : List Op) (cs : List Nat) (va' : W) (h : as va' = as' va') :
    absRun as ops cs va' = absRun as' ops cs va' := by
  induction ops generalizing as as' cs with
  | nil => simpa [absRun] using h
  | cons op ops ih =>
    cases cs with
    | nil => simpa [absRun] using h
    | cons c cs => exact ih cs (absStep_congr_at op c va' h)

/-- **Refinement of one request.**  From every state satisfying `Inv` the call `op` never faults, returns
0 or a code in `Err`, re-establishes `Inv`, only grows the tree, and changes the address space rooted at `R`
by the abstract step of request `rq` with the code returned (so: not at all on an error).
The model's operations take the state first, so `op` is instantiated by a `fun st => …` and the run equation
obtained from an instance is a β-redex: `dsimp only at` it before rewriting with it. -/
def Refines (Inv : St → Own → Prop) (R : W) (op : St → Vmm.R Nat) (rq : Op) (Err : Nat → Prop) : Prop :=
  ∀ st own, Inv st own → ∃ c st' own', op st = .ok (c, st') ∧ Inv st' own' ∧ Grow st st' own own' ∧
    (c = 0 ∨ Err c) ∧ ∀ va', UserVA va' → hwEntry st'.mem R va' = absStep (hwEntry st.mem R) rq c va'

theorem Refines.mono {Inv : St → Own → Prop} {R : W} {op : St → Vmm.R Nat} {rq : Op} {Err Err' : Nat → Prop}
    (h : Refines Inv R op rq Err) (he : ∀ c, Err c → Err' c) : Refines Inv R op rq Err' := fun st own hi => by
  obtain ⟨c, st', own', h1, h2, h3, h4, h5⟩ := h st own hi
  exact ⟨c, st', own', h1, h2, h3, h4.imp_right (he c), h5⟩

theorem mapOp_refines {R : W} (p f fl : W) (hu : UserVA (pageAddr p)) :
    Refines (fun st own => Good st R own) R (fun st => mapOp st p f fl) (.map p f fl)
      (fun c => c = eAlloc ∨ c = eRWZero) := fun st own g => by
  obtain ⟨c, st', own', h1, post, out⟩ := mapOp_full g p f fl hu
  refine ⟨c, st', own', h1, post.good, post.toGrowX, ?_⟩
  rcases out with (⟨rfl, _, h3⟩ | ⟨rfl, _, _, h4⟩) | ⟨rfl, rfl, _⟩
  · exact ⟨Or.inl rfl, fun va' hu' => (h3 va' hu').trans (absStep_map _ p f fl va').symm⟩
  · exact ⟨Or.inr (Or.inl rfl), fun va' hu' => (h4 va' hu').trans (absStep_err (by decide) va').symm⟩
  · exact ⟨Or.inr (Or.inr rfl), fun va' _ => (absStep_err (by decide) va').symm⟩

theorem unmapOp_refines {R : W} (p : W) (hu : UserVA (pageAddr p)) :
    Refines (fun st own => Good st R own) R (fun st => unmapOp st p) (.unmap p)
      (fun c => c = eInvalidMapping) := fun st own g => by
  obtain ⟨c, st', h1, out⟩ := unmapOp_full g p hu
  obtain ⟨g', gr, _⟩ := out.grow g
  refine ⟨c, st', own, h1, g', gr, ?_⟩
  rcases out with ⟨rfl, _, _, _, _, _, _, h3⟩ | ⟨rfl, rfl, _⟩
  · exact ⟨Or.inl rfl, fun va' hu' => (h3 va' hu').trans (absStep_unmap _ p va').symm⟩
  · exact ⟨Or.inr rfl, fun va' _ => (absStep_err (by decide) va').symm⟩

theorem runOp_refines {R : W} (op : Op) (hu : UserVA (pageAddr op.page)) :
    Refines (fun st own => Good st R own) R (fun st => runOp st op) op (fun _ => True) := by
  cases op with
  | map p f fl => exact (mapOp_refines p f fl hu).mono (fun _ _ => trivial)
  | unmap p => exact (unmapOp_refines p hu).mono (fun _ _ => trivial)

/-- `mp` applied to each (page, frame, flags) of a list in order, stopping at the first error;
an error already present (`err ≠ 0`) is passed through untouched -/
def seqCalls (mp : MapFn) : List (W × W × W) → Nat → St → R Nat
  | [], err, st => .ok (err, st)
  | (p, f, fl) :: rest, err, st =>
    if err ≠ 0 then .ok (err, st) else
    match mp p f fl st with
    | .error e => .error e
    | .ok (err, st) => seqCalls mp rest err st

theorem seqCalls_err (mp : MapFn) (l : List (W × W × W)) (err : Nat) (st : St) (h : err ≠ 0) :
    seqCalls mp l err st = .ok (err, st) := by
  cases l with
  | nil => rfl
  | cons x r => obtain ⟨p, f, fl⟩ := x; simp [seqCalls, h]

theorem seqCalls_append (mp : MapFn) (l1 l2 : List (W × W × W)) (err : Nat) (st : St) :
    seqCalls mp (l1 ++ l2) err st =
      match seqCalls mp l1 err st with
      | .error e => .error e
      | .ok (err, st) => seqCalls mp l2 err st := by
  induction l1 generalizing err st with
  | nil => rfl
  | cons x r ih =>
    obtain ⟨p, f, fl⟩ := x
    simp only [List.cons_append, seqCalls]
    by_cases h : err ≠ 0
    · rw [if_pos h, if_pos h]; exact (seqCalls_err mp l2 err st h).symm
    · rw [if_neg h, if_neg h]
      cases mp p f fl st with
      | error e => rfl
      | ok r' => obtain ⟨err', st'⟩ := r'; exact ih err' st'

/-- the abstract effect of a list of successful `Map` requests (later requests win) -/
def applyCalls (as : AS) : List (W × W × W) → AS
  | [] => as
  | (p, f, fl) :: r => applyCalls (absStep as (.map p f fl) 0) r

theorem applyCalls_congr_at {as as' : AS} (l : List (W × W × W)) (va : W) (h : as va = as' va) :
    applyCalls as l va = applyCalls as' l va := by
  induction l generalizing as as' with
  | nil => exact h
  | cons c l ih => obtain ⟨p, f, fl⟩ := c; exact ih (absStep_congr_at _ 0 va h)

theorem applyCalls_append (as : AS) (l1 l2 : List (W × W × W)) :
    applyCalls as (l1 ++ l2) = applyCalls (applyCalls as l1) l2 := by
  induction l1 generalizing as with
  | nil => rfl
  | cons c l ih => obtain ⟨p, f, fl⟩ := c; exact ih _

theorem applyCalls_not_mem (as : AS) (l : List (W × W × W)) (va : W)
    (h : ∀ c ∈ l, ¬SamePage va (pageAddr c.1)) : applyCalls as l va = as va := by
  induction l generalizing as with
  | nil => rfl
  | cons c l ih =>
    obtain ⟨p, f, fl⟩ := c
    simp only [applyCalls]
    rw [ih _ (fun c hc => h c (List.mem_cons_of_mem _ hc))]
    exact (absStep_map as p f fl va).trans (if_neg (h (p, f, fl) List.mem_cons_self))

theorem applyCalls_mem (as : AS) (l : List (W × W × W)) (va : W)
    (hpw : l.Pairwise (fun a b => ¬SamePage (pageAddr a.1) (pageAddr b.1)))
    {p f fl : W} (hm : (p, f, fl) ∈ l) (hs : SamePage va (pageAddr p)) :
    applyCalls as l va = if mkEntry f fl &&& 1#64 = 0#64 then none else some (mkEntry f fl) := by
  induction l generalizing as with
  | nil => cases hm
  | cons c l ih =>
    obtain ⟨p', f', fl'⟩ := c
    have hpw' := List.pairwise_cons.1 hpw
    simp only [applyCalls]
    rcases List.mem_cons.1 hm with heq | hm'
    · cases heq
      rw [applyCalls_not_mem _ l va (fun c hc hsc => hpw'.1 c hc (by
        unfold SamePage at hs hsc ⊢; rw [← hs, hsc]))]
      rw [absStep_map, if_pos hs]
    · exact ih _ hpw'.2 hm'

/-- **A run of calls of a mapping function that stops at the first error.**  If every call refines its
`Map` request, the run refines the requests it got through: the first `k` have been applied, `k` is all of
them on success. -/
theorem seqCalls_refines {Inv : St → Own → Prop} {R : W} {mp : MapFn} {Err : Nat → Prop} {Dom : W × W × W → Prop}
    (step : ∀ p f fl, Dom (p, f, fl) → Refines Inv R (mp p f fl) (.map p f fl) Err) :
    ∀ (calls : List (W × W × W)) (st : St) (own : Own), Inv st own → (∀ c ∈ calls, Dom c) →
      ∃ c st' own' k, seqCalls mp calls 0 st = .ok (c, st') ∧ Inv st' own' ∧ Grow st st' own own' ∧
        k ≤ calls.length ∧ (∀ va', UserVA va' → hwEntry st'.mem R va' = applyCalls (hwEntry st.mem R) (calls.take k) va') ∧
        (c = 0 → k = calls.length) ∧ (c ≠ 0 → Err c) := by
  intro calls
  induction calls with
  | nil =>
    intro st own hi _
    exact ⟨0, st, own, 0, rfl, hi, Grow.refl _ _, Nat.le_refl _, fun _ _ => rfl, fun _ => rfl, fun h => absurd rfl h⟩
  | cons x calls ih =>
    intro st own hi hu
    obtain ⟨p, f, fl⟩ := x
    obtain ⟨c1, st1, own1, h1, hi1, gr1, hc1, a1⟩ := step p f fl (hu (p, f, fl) List.mem_cons_self) st own hi
    simp only [seqCalls, ne_eq, not_true_eq_false, if_false, h1]
    by_cases hc : c1 = 0
    · subst hc
      obtain ⟨c2, st2, own2, k, h2, hi2, gr2, hk, as2, ok2, err2⟩ :=
        ih st1 own1 hi1 (fun y hy => hu y (List.mem_cons_of_mem _ hy))
      refine ⟨c2, st2, own2, k + 1, h2, hi2, gr1.trans gr2, by simp; omega, fun va' hu' => ?_,
        fun h => by rw [ok2 h]; rfl, err2⟩
      rw [as2 va' hu']
      exact applyCalls_congr_at _ va' (a1 va' hu')
    · exact ⟨c1, st1, own1, 0, seqCalls_err _ _ _ _ hc, hi1, gr1, Nat.zero_le _,
        fun va' hu' => (a1 va' hu').trans (absStep_err hc va'), fun h => absurd h hc, fun _ => hc1.resolve_left hc⟩

def withFlags (fl : W) (l : List (W × W)) : List (W × W × W) := l.map fun x => (x.1, x.2, fl)

theorem seqMap_eq_seqCalls (fl : W) (l : List (W × W)) (st : St) :
    seqMap fl l st = seqCalls (fun p f fl st => mapOp st p f fl) (withFlags fl l) 0 st := by
  induction l generalizing st with
  | nil => rfl
  | cons x l ih =>
    obtain ⟨p, f⟩ := x
    simp only [seqMap, withFlags, List.map_cons, seqCalls, ne_eq, not_true_eq_false, if_false]
    cases mapOp st p f fl with
    | error e => rfl
    | ok r =>
      obtain ⟨c, st'⟩ := r
      by_cases hc : c = 0
      · subst hc; exact ih st'
      · simp only [hc, not_false_eq_true, if_true]; exact (seqCalls_err _ _ _ _ hc).symm

/-- **A run of `Map` calls that stops at the first error** (the page loop of `MapRegion` and
`IdentityMapRegion`): never faults; the address space stays well formed; if every call succeeded the
address space is the old one with all requests applied in order; otherwise the calls before the
failing one have been applied (`k` of them) and nothing else changed — the error is the allocator's or
the guard's. -/
theorem seqMap_full {R : W} (fl : W) (l : List (W × W)) (st : St) (own : Own) (g : Good st R own)
    (hu : ∀ x ∈ l, UserVA (pageAddr x.1)) :
    ∃ code st' own' k, seqMap fl l st = .ok (code, st') ∧ Good st' R own' ∧ Grow st st' own own' ∧ k ≤ l.length ∧
      (∀ va', UserVA va' → hwEntry st'.mem R va' = applyCalls (hwEntry st.mem R) (withFlags fl (l.take k)) va') ∧
      (code = 0 → k = l.length) ∧ (code ≠ 0 → code = eAlloc ∨ code = eRWZero) := by
  have h := seqCalls_refines (Dom := fun c => UserVA (pageAddr c.1)) (mp := fun p f fl st => mapOp st p f fl)
    (mapOp_refines (R := R))
    (withFlags fl l) st own g (fun c hc => by
      obtain ⟨x, hx, rfl⟩ := List.mem_map.1 hc; exact hu x hx)
  rw [← seqMap_eq_seqCalls] at h
  simpa only [withFlags, List.length_map, ← List.map_take] using h

end Firefly.Vmm
