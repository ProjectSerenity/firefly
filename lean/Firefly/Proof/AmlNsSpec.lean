import Firefly.Model.AmlProg
/-!
Sanity of the executable specification of C11: the namespace `namespaceOf` assigns to ANY program is a tree — no path
is declared twice and every declared path of more than one segment has its parent scope declared.
-/
namespace Firefly.AmlProg

def NsOK (ns : Namespace) : Prop :=
  (ns.objs.map (·.1)).Nodup ∧ ∀ p ∈ ns.objs.map (·.1), 1 < p.length → ns.has (p.take (p.length - 1)) = true

theorem has_iff (ns : Namespace) (p : Path) : ns.has p = true ↔ p ∈ ns.objs.map (·.1) := by
  unfold Namespace.has
  simp only [List.any_eq_true, beq_iff_eq, List.mem_map]

theorem NsOK.congr {ns ns' : Namespace} (h : NsOK ns) (e : ns'.objs = ns.objs) : NsOK ns' := by
  unfold NsOK Namespace.has at *
  rw [e]; exact h

theorem err_objs (st : NsSt) (e : String) : (st.err e).ns.objs = st.ns.objs := rfl

theorem add_ok (st : NsSt) (p : Path) (desc : String) (h : NsOK st.ns) : NsOK (st.add p desc).ns := by
  unfold NsSt.add
  split
  · exact h.congr (err_objs _ _)
  · rename_i hnot
    split
    · exact h.congr (err_objs _ _)
    · rename_i hpar
      have hnot' : p ∉ st.ns.objs.map (·.1) := fun hm => hnot ((has_iff _ _).2 hm)
      refine ⟨?_, ?_⟩
      · show ((st.ns.objs ++ [(p, desc)]).map (·.1)).Nodup
        rw [List.map_append, List.nodup_append]
        refine ⟨h.1, by simp, ?_⟩
        intro a ha b hb
        simp at hb
        rw [hb]
        intro e
        exact hnot' (e ▸ ha)
      · intro q hq hlen
        have hq' : q ∈ (st.ns.objs ++ [(p, desc)]).map (·.1) := hq
        rw [List.map_append, List.mem_append] at hq'
        rw [has_iff]
        show q.take (q.length - 1) ∈ (st.ns.objs ++ [(p, desc)]).map (·.1)
        rw [List.map_append, List.mem_append]
        rcases hq' with hq' | hq'
        · exact Or.inl ((has_iff _ _).1 (h.2 q hq' hlen))
        · simp at hq'
          rw [hq'] at hlen ⊢
          have : ¬ (p.length > 1 ∧ (!st.ns.has (p.take (p.length - 1))) = true) := hpar
          have hh : st.ns.has (p.take (p.length - 1)) = true := by
            cases hc : st.ns.has (p.take (p.length - 1)) with
            | true => rfl
            | false => exact absurd ⟨hlen, by rw [hc]; rfl⟩ this
          exact Or.inl ((has_iff _ _).1 hh)

theorem declUnits_ok (scope : Path) : ∀ (us : List FieldU) (off acc lock upd : Nat) (st : NsSt), NsOK st.ns →
    NsOK (declUnits scope us off acc lock upd st).ns := by
  intro us
  induction us with
  | nil => intro _ _ _ _ st h; unfold declUnits; exact h
  | cons u us ih =>
    intro off acc lock upd st h
    cases u <;> unfold declUnits
    · exact ih _ _ _ _ _ (add_ok _ _ _ h)
    · exact ih _ _ _ _ _ h
    · exact ih _ _ _ _ _ h
    · exact ih _ _ _ _ _ h
    · exact ih _ _ _ _ _ h
    · exact ih _ _ _ _ _ h

mutual
theorem declObj_ok (scope : Path) : ∀ (o : Obj) (st : NsSt), NsOK st.ns → NsOK (declObj scope o st).ns
  | .name n d, st, h => by
    unfold declObj
    split
    · exact add_ok _ _ _ h
    · exact h.congr (err_objs _ _)
  | .scope _ n body, st, h => by
    unfold declObj
    split
    · exact declObjs_ok _ body st h
    · exact h.congr (err_objs _ _)
  | .device _ n body, st, h => by
    unfold declObj
    split
    · exact declObjs_ok _ body _ (add_ok _ _ _ h)
    · exact h.congr (err_objs _ _)
  | .method _ n flags body, st, h => by
    unfold declObj
    split
    · exact (add_ok st _ _ h).congr rfl
    · exact h.congr (err_objs _ _)
  | .region n space off len, st, h => by
    unfold declObj
    split
    · exact add_ok _ _ _ h
    · exact h.congr (err_objs _ _)
  | .field _ _ flags units, st, h => by
    unfold declObj; exact declUnits_ok _ _ _ _ _ _ _ h
  | .indexField _ _ _ flags units, st, h => by
    unfold declObj; exact declUnits_ok _ _ _ _ _ _ _ h
  | .bankField _ _ _ _ flags units, st, h => by
    unfold declObj; exact declUnits_ok _ _ _ _ _ _ _ h
  | .mutex n sync, st, h => by
    unfold declObj
    split
    · exact add_ok _ _ _ h
    · exact h.congr (err_objs _ _)
  | .event n, st, h => by
    unfold declObj
    split
    · exact add_ok _ _ _ h
    · exact h.congr (err_objs _ _)
  | .processor _ n id addr len body, st, h => by
    unfold declObj
    split
    · exact declObjs_ok _ body _ (add_ok _ _ _ h)
    · exact h.congr (err_objs _ _)
  | .powerres _ n level order body, st, h => by
    unfold declObj
    split
    · exact declObjs_ok _ body _ (add_ok _ _ _ h)
    · exact h.congr (err_objs _ _)
  | .thermal _ n body, st, h => by
    unfold declObj
    split
    · exact declObjs_ok _ body _ (add_ok _ _ _ h)
    · exact h.congr (err_objs _ _)
  | .call name args, st, h => by
    unfold declObj; exact h.congr rfl
theorem declObjs_ok (scope : Path) : ∀ (os : List Obj) (st : NsSt), NsOK st.ns → NsOK (declObjs scope os st).ns
  | [], st, h => by unfold declObjs; exact h
  | o :: os, st, h => by unfold declObjs; exact declObjs_ok scope os _ (declObj_ok scope o st h)
end

theorem resolveCalls_objs (st : NsSt) : (resolveCalls st).ns.objs = st.ns.objs := by
  unfold resolveCalls
  show (List.foldl _ st st.pending).ns.objs = _
  generalize st.pending = l
  induction l generalizing st with
  | nil => rfl
  | cons x l ih =>
    rw [List.foldl_cons, ih]
    obtain ⟨scope, nm, k⟩ := x
    dsimp only
    split
    · split
      · split <;> rfl
      · rfl
    · rfl

theorem namespaceOf_ok (tables : List (List Obj)) : NsOK (namespaceOf tables) := by
  unfold namespaceOf
  have h0 : NsOK ({ ns := defaultNs } : NsSt).ns := by
    unfold NsOK
    refine ⟨by decide, ?_⟩
    intro p hp hlen
    have : p.length = 1 := by
      simp [defaultNs] at hp
      rcases hp with e | e | e | e | e <;> rw [e] <;> rfl
    omega
  generalize ({ ns := defaultNs } : NsSt) = st at h0
  induction tables generalizing st with
  | nil => exact h0
  | cons t ts ih =>
    rw [List.foldl_cons]
    exact ih _ ((declObjs_ok [] t st h0).congr (resolveCalls_objs _))

end Firefly.AmlProg
