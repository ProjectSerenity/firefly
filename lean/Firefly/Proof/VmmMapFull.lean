import Firefly.Proof.VmmOwn
import Firefly.Proof.VmmAlloc
/-! Well-formed address spaces (`Good`), the relation "the tree only grew" (`Grow`), and `Map` / `Unmap` /
`Translate` in full generality: any number of new levels, allocator failure at any point. Last, the boot state (an empty
root whose last entry maps itself) is `Good`: the hypotheses of the refinement theorems are satisfiable, and every history
starting at boot is covered by them. -/

namespace Firefly.Vmm
open Firefly.Gen.C04

/-- A well-formed address space rooted at `R`, seen through the active root's window: the tables form
a tree (`own`), the active root is `R` itself or lies outside the tree, and the frames the allocator
will hand out are RAM, < 2^40, pairwise distinct, not part of the tree and not the active root. -/
structure Good (st : St) (R : W) (own : Own) : Prop where
  win : Window st R
  owned : Owned st.mem R own
  act : frameN (st.cr3 &&& hwMask) = frameN R ∨ own (frameN (st.cr3 &&& hwMask)) = none
  free : ∀ f ∈ st.free, FrameOK f ∧ st.mem.backed f.toNat = true ∧ own f.toNat = none ∧
    f.toNat ≠ frameN (st.cr3 &&& hwMask)
  nodup : (st.free.map BitVec.toNat).Nodup

/-- registers and globals an operation leaves alone -/
structure SameRegs (st st' : St) : Prop where
  cr3 : st'.cr3 = st.cr3
  cursor : st'.cursor = st.cursor
  zeroFrame : st'.zeroFrame = st.zeroFrame
  protect : st'.protect = st.protect
  kpdt : st'.kpdt = st.kpdt
  tmpFail : st'.tmpFail = st.tmpFail
  backed : ∀ f, st'.mem.backed f = st.mem.backed f

theorem SameRegs.refl (st : St) : SameRegs st st := ⟨rfl, rfl, rfl, rfl, rfl, rfl, fun _ => rfl⟩
theorem SameRegs.trans {a b c : St} (h1 : SameRegs a b) (h2 : SameRegs b c) : SameRegs a c :=
  ⟨h2.cr3.trans h1.cr3, h2.cursor.trans h1.cursor, h2.zeroFrame.trans h1.zeroFrame, h2.protect.trans h1.protect,
    h2.kpdt.trans h1.kpdt, h2.tmpFail.trans h1.tmpFail, fun f => (h2.backed f).trans (h1.backed f)⟩

theorem stays_none {own own' : Own} {l : List W} (hnew : ∀ F, own F = none → own' F ≠ none → ∃ f ∈ l, f.toNat = F)
    {F : Nat} (hF : own F = none) (hfree : ∀ f ∈ l, f.toNat ≠ F) : own' F = none := by
  cases hx : own' F with
  | none => rfl
  | some x =>
    obtain ⟨f, hf, hfe⟩ := hnew F hF (by rw [hx]; simp)
    exact absurd hfe (hfree f hf)

/-- **The tree only grew.** From `st, own` to `st', own'` the page-table tree was extended by frames
taken from the front of the allocator, nothing outside the new tree was written — except the frames in
`X`, handed out as data pages (a copy-on-write copy, a frame filled through the temporary page) —,
registers are kept. -/
structure GrowX (X : Nat → Prop) (st st' : St) (own own' : Own) : Prop where
  ext : ∀ F x, own F = some x → own' F = some x
  /-- memory outside the tree and `X` is untouched -/
  foot : ∀ F j, own' F = none → ¬X F → st'.mem.rd F j = st.mem.rd F j
  /-- new tables come from the allocator, which is consumed from the front -/
  newfree : ∀ F, own F = none → own' F ≠ none → ∃ f ∈ st.free, f.toNat = F
  sub : ∃ used, st.free = used ++ st'.free
  regs : SameRegs st st'

/-- no data frames: nothing outside the new tree was written -/
abbrev Grow := GrowX (fun _ => False)

theorem Grow.refl (st : St) (own : Own) : Grow st st own own :=
  ⟨fun _ _ h => h, fun _ _ _ _ => rfl, fun _ h1 h2 => absurd h1 h2, ⟨[], rfl⟩, SameRegs.refl st⟩

theorem GrowX.mono {X Y : Nat → Prop} {st st' : St} {own own' : Own} (h : GrowX X st st' own own')
    (hxy : ∀ F, X F → Y F) : GrowX Y st st' own own' :=
  ⟨h.ext, fun F j hF hY => h.foot F j hF (fun hX => hY (hxy F hX)), h.newfree, h.sub, h.regs⟩

theorem GrowX.free_sub {X : Nat → Prop} {st st' : St} {own own' : Own} (h : GrowX X st st' own own') {f : W}
    (hf : f ∈ st'.free) : f ∈ st.free := by
  obtain ⟨used, hused⟩ := h.sub
  rw [hused]; exact List.mem_append_right _ hf

theorem GrowX.trans {X Y : Nat → Prop} {a b c : St} {o1 o2 o3 : Own} (h1 : GrowX X a b o1 o2) (h2 : GrowX Y b c o2 o3) :
    GrowX (fun F => X F ∨ Y F) a c o1 o3 := by
  refine ⟨fun F x h => h2.ext F x (h1.ext F x h), fun F j hF hn => ?_, fun F hF hF' => ?_, ?_, h1.regs.trans h2.regs⟩
  · have h2n : o2 F = none := by
      cases hx : o2 F with
      | none => rfl
      | some x => rw [h2.ext F x hx] at hF; cases hF
    rw [h2.foot F j hF (fun h => hn (Or.inr h)), h1.foot F j h2n (fun h => hn (Or.inl h))]
  · by_cases h : o2 F = none
    · obtain ⟨f, hf, hfe⟩ := h2.newfree F h hF'
      exact ⟨f, h1.free_sub hf, hfe⟩
    · exact h1.newfree F hF h
  · obtain ⟨u1, hu1⟩ := h1.sub; obtain ⟨u2, hu2⟩ := h2.sub
    exact ⟨u1 ++ u2, by rw [hu1, hu2, List.append_assoc]⟩

theorem Grow.trans {a b c : St} {o1 o2 o3 : Own} (h1 : Grow a b o1 o2) (h2 : Grow b c o2 o3) : Grow a c o1 o3 :=
  (GrowX.trans h1 h2).mono fun _ h => h.elim id id

/-- `Good` only depends on the allocator's remaining frames, the words of the owned frames and the
active root's last entry -/
theorem Good.mono {st st' : St} {R : W} {own : Own} (g : Good st R own) (hcr3 : st'.cr3 = st.cr3)
    (hfree : ∃ used, st.free = used ++ st'.free) (hbk : ∀ f, st'.mem.backed f = st.mem.backed f)
    (hrd : ∀ F x, own F = some x → ∀ j, st'.mem.rd F j = st.mem.rd F j)
    (htop : st'.mem.rd (frameN (st.cr3 &&& hwMask)) 511 = st.mem.rd (frameN (st.cr3 &&& hwMask)) 511) :
    Good st' R own := by
  have hR := hrd _ _ g.owned.root 511
  obtain ⟨used, hused⟩ := hfree
  refine ⟨⟨by rw [hcr3]; exact g.win.top.congr (hbk _) htop, g.win.self.congr (hbk _) hR⟩,
    g.owned.congr hbk (fun F _ _ hF _ => hrd F _ hF), by rw [hcr3]; exact g.act, ?_, ?_⟩
  · intro f hf
    obtain ⟨a1, a2, a3, a4⟩ := g.free f (by rw [hused]; exact List.mem_append_right _ hf)
    exact ⟨a1, by rw [hbk]; exact a2, a3, by rw [hcr3]; exact a4⟩
  · have := g.nodup
    rw [hused, List.map_append] at this
    exact (List.nodup_append.1 this).2.1

/-- **What the hardware translates in the active, well-formed address space**: CR3 points to the root of the tree, so
`mmu` finds the abstract entry's frame plus the offset (nothing where the page is absent). -/
theorem Good.mmu_eq {st : St} {R : W} {own : Own} (g : Good st R own) (hA : st.cr3 &&& hwMask = R) {va : W} (hu : UserVA va) :
    mmu st.mem st.cr3 va = (hwEntry st.mem R va).map fun e => (e &&& hwMask) + (va &&& 0xfff#64) := by
  unfold mmu
  rw [hA, mmuWalk_eq_hwEntry g.owned hu]

/-- **Taking the allocator's next frame**: it is RAM, < 2^40, part of nothing, not the active root and not handed out
again; a state that differs only in registers and has the rest of the list is well formed for the same tree. -/
theorem Good.pop {st : St} {R : W} {own : Own} (g : Good st R own) {f : W} {rest : List W} (hf : st.free = f :: rest) :
    (FrameOK f ∧ st.mem.backed f.toNat = true ∧ own f.toNat = none ∧ f.toNat ≠ frameN (st.cr3 &&& hwMask)) ∧
    (∀ x ∈ rest, x.toNat ≠ f.toNat) ∧
    ∀ st1 : St, st1.cr3 = st.cr3 → st1.free = rest → st1.mem = st.mem → Good st1 R own := by
  have hnd := g.nodup
  rw [hf, List.map_cons, List.nodup_cons] at hnd
  refine ⟨g.free f (by rw [hf]; exact List.mem_cons_self), fun x hx h => hnd.1 (by rw [← h]; exact List.mem_map_of_mem hx),
    fun st1 hc hfr hm => g.mono hc ⟨[f], by rw [hf, hfr]; rfl⟩ (by rw [hm]; exact fun _ => rfl) (by rw [hm]; exact fun _ _ _ _ => rfl)
      (by rw [hm])⟩

theorem Good.touch_unowned {st : St} {R : W} {own : Own} (g : Good st R own) {F : Nat} (hn : own F = none)
    (hA : F ≠ frameN (st.cr3 &&& hwMask)) {m' : Mem} (hbk : ∀ f, m'.backed f = st.mem.backed f)
    (hrd : ∀ G j, G ≠ F → m'.rd G j = st.mem.rd G j) :
    Good { st with mem := m' } R own ∧ ∀ va', UserVA va' → hwEntry m' R va' = hwEntry st.mem R va' := by
  have hrd' : ∀ G x, own G = some x → ∀ j, m'.rd G j = st.mem.rd G j := fun G x hG j =>
    hrd G j (by rintro rfl; rw [hn] at hG; cases hG)
  exact ⟨g.mono rfl ⟨[], rfl⟩ hbk hrd' (hrd _ _ (Ne.symm hA)), (g.owned.touch_unowned hn hbk hrd).2⟩

/-- what every run of `Map`'s walk guarantees, whatever its outcome -/
structure MapPost (st st' : St) (R : W) (own own' : Own) (va : W) : Prop extends Grow st st' own own' where
  good : Good st' R own'
  /-- new tables are empty except for the entry on the page's path -/
  newz : ∀ F L pre j, own F = none → own' F = some (L, pre) → st'.mem.rd F j ≠ 0#64 → j = kidx va L
  /-- in old tables only the entry on the page's path can change -/
  path : ∀ F L pre j, own F = some (L, pre) → st'.mem.rd F j ≠ st.mem.rd F j → j = kidx va L ∧ pre = idxs va L

/-- a table word the walk writes for a page outside the recursive slot is neither the active root's recursive entry nor `R`'s -/
theorem Good.not_rec {st : St} {R : W} {own : Own} (g : Good st R own) {F L : Nat} {pre : List Nat} (hF : own F = some (L, pre))
    {j : Nat} (hj : ¬(L = 0 ∧ j = 511)) :
    ¬(F = frameN (st.cr3 &&& hwMask) ∧ j = 511) ∧ ¬(F = frameN R ∧ j = 511) := by
  have hR : ¬(F = frameN R ∧ j = 511) := by
    rintro ⟨rfl, h2⟩
    exact hj ⟨(own_inj hF g.owned.root).1, h2⟩
  refine ⟨?_, hR⟩
  rintro ⟨h1, h2⟩
  rcases g.act with h' | h'
  · exact hR ⟨h1.trans h', h2⟩
  · rw [h1, h'] at hF; cases hF

/-- **Storing a leaf entry**: the one write of `Map` on a complete path, of `Unmap`, and of the fault handler. -/
theorem Good.store_leaf {st : St} {R : W} {own : Own} (g : Good st R own) {va : W} (hu : UserVA va) {T : W}
    (hc : Chain st.mem R va 3 T) (v a : W) :
    Good ((st.wrLoc (frameN T, kidx va 3) v).flush a) R own ∧
    Grow st ((st.wrLoc (frameN T, kidx va 3) v).flush a) own own ∧
    (∀ F L pre j, own F = some (L, pre) → ((st.wrLoc (frameN T, kidx va 3) v).flush a).mem.rd F j ≠ st.mem.rd F j →
      L = 3 ∧ pre = idxs va 3 ∧ j = kidx va 3) ∧
    ∀ va', UserVA va' → hwEntry ((st.wrLoc (frameN T, kidx va 3) v).flush a).mem R va' =
      if SamePage va' va then (if v &&& 1#64 = 0#64 then none else some v) else hwEntry st.mem R va' := by
  have h3 := chain_own g.owned hu 3 T (by omega) hc
  obtain ⟨hA, hR⟩ := g.not_rec h3 (j := kidx va 3) (fun h => by omega)
  refine ⟨⟨⟨g.win.top.wr _ _ _ hA, g.win.self.wr _ _ _ hR⟩, g.owned.leaf_wr h3 _ v,
      g.act, g.free, g.nodup⟩,
    ⟨fun _ _ h => h, fun F j hF _ => ?_, fun _ h1 h2 => absurd h1 h2, ⟨[], rfl⟩, ⟨rfl, rfl, rfl, rfl, rfl, rfl, fun _ => rfl⟩⟩,
    fun F L pre j hF hne => ?_, hwEntry_leaf_wr g.owned hu hc v⟩
  · show (st.mem.wr _ _ _).rd F j = _
    rw [rd_wr, if_neg]; rintro ⟨rfl, _⟩; rw [hF] at h3; cases h3
  · by_cases hl : frameN T = F ∧ kidx va 3 = j
    · obtain ⟨rfl, rfl⟩ := hl
      obtain ⟨e1, e2⟩ := own_inj hF h3
      exact ⟨e1, e2, rfl⟩
    · exact absurd (show (st.mem.wr _ _ _).rd F j = _ by rw [rd_wr, if_neg hl]) hne

/-- one new level: everything `newLevel` gives, plus the tree and the abstract address space -/
theorem Good.alloc_step {st : St} {R : W} {own : Own} (g : Good st R own) {va : W} (hu : UserVA va) {L : Nat}
    (hL : L < 3) {T : W} (hc : Chain st.mem R va L T)
    (hp : st.mem.rd (frameN T) (kidx va L) &&& 1#64 = 0#64) {f : W} {rest : List W} (hf : st.free = f :: rest)
    (page frame flags : W) (err : Nat) :
    mapCb page frame flags L (E va L) (frameN T, kidx va L) err st =
      .ok ((true, err), allocStep st f rest (frameN T, kidx va L)) ∧
    Good (allocStep st f rest (frameN T, kidx va L)) R (ownAdd own f.toNat L (idxs va L) (kidx va L)) ∧
    Grow st (allocStep st f rest (frameN T, kidx va L)) own (ownAdd own f.toNat L (idxs va L) (kidx va L)) ∧
    Chain (allocStep st f rest (frameN T, kidx va L)).mem R va (L + 1) (f <<< 12) ∧
    (∀ F L' pre j, own F = some (L', pre) → (allocStep st f rest (frameN T, kidx va L)).mem.rd F j ≠ st.mem.rd F j →
      L' = L ∧ pre = idxs va L ∧ j = kidx va L) ∧
    (∀ va', UserVA va' → hwEntry (allocStep st f rest (frameN T, kidx va L)).mem R va' = hwEntry st.mem R va') := by
  have ho := g.owned
  have oT := chain_own ho hu L T (by omega) hc
  obtain ⟨⟨hfo, hfb, hfn, hfA⟩, hfrest, pop⟩ := g.pop hf
  have g1 := pop { st with free := rest } rfl rfl rfl
  have hnone : ∀ G x, own G = some x → f.toNat ≠ G := fun G x hG h => by rw [← h, hfn] at hG; cases hG
  have hi : ¬(L = 0 ∧ kidx va L = 511) := by rintro ⟨rfl, h⟩; exact hu h
  obtain ⟨hTA, hTR⟩ := g.not_rec oT hi
  obtain ⟨hcb, hw2, keep, hlink⟩ := newLevel va L hL T g.win hc (ho.backed _ _ oT) hp (ho.nohuge _ _ _ _ oT hL) hf hfo hfb
    hfA (hnone _ _ ho.root)
    (fun k T' hk hck => hnone _ _ (chain_own ho hu k T' (by omega) hck))
    hTA hTR
    (fun k T' hk hck hh => by have := (chain_meet ho hu hu (by omega) (by omega) hc hck hh.1.symm).1; omega)
    page frame flags err
  -- the new memory, as the ownership lemmas want it: tables differ in the linking word only, `f` is empty
  have hfN : frameN (f <<< 12) = f.toNat := frameN_shl12 hfo
  have hrd : ∀ G x, own G = some x → ∀ j, ¬(G = frameN T ∧ j = kidx va L) →
      (allocStep st f rest (frameN T, kidx va L)).mem.rd G j = st.mem.rd G j := fun G x hG j hne => by
    rw [rd_allocStep, if_neg (hnone G x hG), if_neg (fun h => hne ⟨h.1.symm, h.2.symm⟩)]
  have hbk : ∀ g, (allocStep st f rest (frameN T, kidx va L)).mem.backed g = st.mem.backed g := fun g => by
    simp only [allocStep, St.wrLoc, backed_setFrame, backed_wr]
  have hz : ∀ j, (allocStep st f rest (frameN T, kidx va L)).mem.rd f.toNat j = 0#64 := fun j => by
    rw [rd_allocStep, if_pos rfl]
  refine ⟨hcb, ⟨hw2, ?_, ?_, ?_, g1.nodup⟩, ⟨?_, ?_, ?_, ⟨[f], hf⟩, ⟨rfl, rfl, rfl, rfl, rfl, rfl, hbk⟩⟩, ⟨T, Chain.map L T hc keep, hlink⟩,
    fun F L' pre j hF hne => ?_, ?_⟩
  · exact ho.link_new oT hL hi hp hlink hfN hz hbk hrd hfn hfb
  · -- the active root
    rcases g.act with h' | h'
    · left; exact h'
    · right; show ownAdd own f.toNat L (idxs va L) (kidx va L) (frameN (st.cr3 &&& hwMask)) = none
      simp only [ownAdd, if_neg (Ne.symm hfA)]; exact h'
  · intro x hx
    obtain ⟨a1, a2, a3, a4⟩ := g1.free x hx
    refine ⟨a1, a2, ?_, a4⟩
    simp only [ownAdd, if_neg (hfrest x hx)]; exact a3
  · intro F x hF
    simp only [ownAdd, if_neg (Ne.symm (hnone F x hF))]; exact hF
  · intro F j hF _
    have hFf : F ≠ f.toNat := fun h => by simp [ownAdd, h] at hF
    have hFn : own F = none := by simpa [ownAdd, hFf] using hF
    rw [rd_allocStep, if_neg (Ne.symm hFf), if_neg]
    rintro ⟨rfl, _⟩; rw [hFn] at oT; cases oT
  · intro F hF hF'
    refine ⟨f, by rw [hf]; exact List.mem_cons_self, ?_⟩
    by_cases hFf : F = f.toNat
    · exact hFf.symm
    · simp only [ownAdd, if_neg hFf] at hF'; exact absurd hF hF'
  · by_cases hl : F = frameN T ∧ j = kidx va L
    · obtain ⟨rfl, rfl⟩ := hl
      obtain ⟨e1, e2⟩ := own_inj hF oT
      exact ⟨e1, e2, rfl⟩
    · exact absurd (hrd F _ hF j hl) hne
  · exact hwEntry_link_new ho hu hL hc hp hlink hfN hz hbk hrd

theorem MapPost.refl {st : St} {R : W} {own : Own} (g : Good st R own) (va : W) : MapPost st st R own own va :=
  ⟨Grow.refl st own, g, (fun F L pre j h1 h2 _ => by rw [h1] at h2; cases h2), fun _ _ _ _ _ h => absurd rfl h⟩

/-- outcome of `Map`'s walk in terms of the abstract address space -/
def MapOutcome (st st' : St) (R va v : W) (code : Nat) : Prop :=
  (code = 0 ∧ st'.flushes = st.flushes ++ [va] ∧
    ∀ va', UserVA va' → hwEntry st'.mem R va' =
      if SamePage va' va then (if v &&& 1#64 = 0#64 then none else some v) else hwEntry st.mem R va') ∨
  (code = eAlloc ∧ st'.free = [] ∧ st'.flushes = st.flushes ∧
    ∀ va', UserVA va' → hwEntry st'.mem R va' = hwEntry st.mem R va')

/-- **`Map`'s walk from any level**, by induction on the number of levels left: present levels are
passed, missing levels are created from the allocator one after the other (or the walk stops with the
allocator's error), the leaf entry is stored. -/
theorem map_walk {R : W} (page frame flags va : W) (hva : pageAddr page = va) (hu : UserVA va) :
    ∀ {L : Nat}, L ≤ 3 → ∀ (st : St) (own : Own) (T : W), Good st R own → Chain st.mem R va L T →
      ∃ code st' own', walkFrom (mapCb page frame flags) va (lv L) (tableVA va L) 0 st = .ok (code, st') ∧
        MapPost st st' R own own' va ∧ MapOutcome st st' R va (mkEntry frame flags) code := by
  intro L hL
  induction hL using levels_down with
  | leaf =>
    intro st own T g hc
    obtain ⟨g', gr, only, as'⟩ := g.store_leaf hu hc (mkEntry frame flags) va
    refine ⟨0, _, own, ?_, ⟨gr, g', (fun F L pre j h1 h2 _ => by rw [h1] at h2; cases h2), fun F L pre j hF hne => ?_⟩,
      Or.inl ⟨rfl, rfl, as'⟩⟩
    · rw [walkFrom_at g.win _ (by omega) hc (g.owned.sane hu 3 T (by omega) hc).1, mapCb_leaf, hva]
      rfl
    · obtain ⟨rfl, e, rfl⟩ := only F L pre j hF hne
      exact ⟨rfl, e⟩
  | step L hL3 ih =>
    intro st own T g hc
    have oT := chain_own g.owned hu L T (by omega) hc
    have hb := g.owned.backed _ _ oT
    have hnh := g.owned.nohuge _ _ _ (kidx va L) oT hL3
    rw [walkFrom_at g.win _ (by omega) hc hb]
    by_cases hp : st.mem.rd (frameN T) (kidx va L) &&& 1#64 = 0#64
    · -- the level is missing
      cases hfree : st.free with
      | nil =>
        refine ⟨eAlloc, st, own, ?_, MapPost.refl g va, Or.inr ⟨rfl, hfree, rfl, fun _ _ => rfl⟩⟩
        rw [mapCb_allocfail hL3 (by exact hp) (by exact hnh) hfree]
      | cons f rest =>
        obtain ⟨hcb, g2, gr2, hc2, only2, has2⟩ := g.alloc_step hu hL3 hc hp hfree page frame flags 0
        obtain ⟨code, st', own', hwk, post, out⟩ := ih _ _ _ g2 hc2
        have o2 : ownAdd own f.toNat L (idxs va L) (kidx va L) f.toNat = some (L + 1, idxs va L ++ [kidx va L]) := by
          simp [ownAdd]
        refine ⟨code, st', own', by rw [hcb]; exact hwk, ⟨gr2.trans post.toGrowX, post.good, ?_, ?_⟩, ?_⟩
        · -- new tables are empty off the path: the table created here was cleared
          intro F L' pre j hF hF' hne
          by_cases hFf : F = f.toNat
          · subst hFf
            obtain ⟨e1, _⟩ := own_inj hF' (post.ext _ _ o2)
            subst e1
            exact (post.path _ _ _ j o2 (by rw [rd_allocStep, if_pos rfl]; exact hne)).1
          · exact post.newz F L' pre j (by simp only [ownAdd, if_neg hFf]; exact hF) hF' hne
        · -- old tables change only on the path: here only the entry that links the new table
          intro F L' pre j hF hne
          by_cases h2 : st'.mem.rd F j = (allocStep st f rest (frameN T, kidx va L)).mem.rd F j
          · obtain ⟨rfl, rfl, rfl⟩ := only2 F L' pre j hF (h2 ▸ hne)
            exact ⟨rfl, rfl⟩
          · exact post.path F L' pre j (gr2.ext F _ hF) h2
        · rcases out with ⟨h1, h2, h3⟩ | ⟨h1, h2, h3, h4⟩
          · left; refine ⟨h1, h2, fun va' hu' => ?_⟩
            rw [h3 va' hu', has2 va' hu']
          · right; refine ⟨h1, h2, h3, fun va' hu' => ?_⟩
            rw [h4 va' hu', has2 va' hu']
    · -- the level exists
      have l : Link st.mem T (kidx va L) (st.mem.rd (frameN T) (kidx va L) &&& hwMask) := ⟨hb, hp, hnh, rfl⟩
      rw [mapCb_present hL3 (by exact hp) (by exact hnh)]
      exact ih st own _ g ⟨T, hc, l⟩

/-- **`Map`, every case.** -/
theorem mapOp_full {st : St} {R : W} {own : Own} (g : Good st R own) (page frame flags : W)
    (hu : UserVA (pageAddr page)) :
    ∃ code st' own', mapOp st page frame flags = .ok (code, st') ∧
      MapPost st st' R own own' (pageAddr page) ∧
      (MapOutcome st st' R (pageAddr page) (mkEntry frame flags) code ∨
        (code = eRWZero ∧ st' = st ∧ st.protect = true ∧ frame = st.zeroFrame ∧ (flags &&& fRW) ≠ 0)) := by
  unfold mapOp
  by_cases hg : (st.protect && frame == st.zeroFrame && (flags &&& fRW) != 0) = true
  · rw [if_pos hg]
    simp only [Bool.and_eq_true, beq_iff_eq, bne_iff_ne] at hg
    exact ⟨eRWZero, st, own, rfl, MapPost.refl g _, Or.inr ⟨rfl, rfl, hg.1.1, hg.1.2, hg.2⟩⟩
  · rw [if_neg hg]
    obtain ⟨code, st', own', h1, h2, h3⟩ := map_walk page frame flags _ rfl hu (Nat.zero_le 3) st own R g rfl
    exact ⟨code, st', own', h1, h2, Or.inl h3⟩

/-- outcome of `Unmap` in terms of the abstract address space -/
def UnmapOutcome (st st' : St) (R : W) (own : Own) (va : W) (code : Nat) : Prop :=
  (code = 0 ∧ Good st' R own ∧ SameRegs st st' ∧ st'.free = st.free ∧ st'.flushes = st.flushes ++ [va] ∧
    (∀ F j, own F = none → st'.mem.rd F j = st.mem.rd F j) ∧
    (∀ F L pre j, own F = some (L, pre) → st'.mem.rd F j ≠ st.mem.rd F j → L = 3 ∧ pre = idxs va 3 ∧ j = kidx va 3) ∧
    ∀ va', UserVA va' → hwEntry st'.mem R va' = if SamePage va' va then none else hwEntry st.mem R va') ∨
  (code = eInvalidMapping ∧ st' = st ∧ hwEntry st.mem R va = none)

theorem UnmapOutcome.grow {st st' : St} {R : W} {own : Own} {va : W} {code : Nat} (g : Good st R own)
    (h : UnmapOutcome st st' R own va code) : Good st' R own ∧ Grow st st' own own ∧ st'.free = st.free := by
  rcases h with ⟨_, g', r, f, _, foot, _, _⟩ | ⟨_, rfl, _⟩
  · exact ⟨g', ⟨fun _ _ h => h, fun F j h _ => foot F j h, fun _ h1 h2 => absurd h1 h2, ⟨[], by rw [f]; rfl⟩, r⟩, f⟩
  · exact ⟨g, Grow.refl _ _, rfl⟩

/-- **`Unmap`, every case.** -/
theorem unmapOp_full {st : St} {R : W} {own : Own} (g : Good st R own) (page : W) (hu : UserVA (pageAddr page)) :
    ∃ code st', unmapOp st page = .ok (code, st') ∧ UnmapOutcome st st' R own (pageAddr page) code := by
  generalize hva : pageAddr page = va at hu
  have hs := g.owned.sane hu
  have hwalk := @walk_reach _ st R va g.win (unmapCb page) 0 (fun _ _ _ hL hp hh => unmapCb_present hL hp hh)
  unfold unmapOp
  rw [hva]
  rcases resolve_upper hs with ⟨L, T, hL, hc, hp⟩ | ⟨T, hc⟩
  · refine ⟨eInvalidMapping, st, ?_, Or.inr ⟨rfl, rfl, ?_⟩⟩
    · exact hwalk (by omega) hc (hs L T (by omega) hc).1 (unmapCb_absent hL hp) (Or.inl rfl)
    · exact hwEntry_absent_at (by omega) hc hp
  · obtain ⟨g', gr, only, as'⟩ := g.store_leaf hu hc (clearFlags (st.mem.rd (frameN T) (kidx va 3)) fPresent) va
    refine ⟨0, _, ?_, Or.inl ⟨rfl, g', gr.regs, rfl, rfl, fun F j h => gr.foot F j h id, only, fun va' hu' => ?_⟩⟩
    · have h := hwalk (by omega) hc (hs 3 T (by omega) hc).1 unmapCb_leaf (Or.inr rfl)
      rw [hva] at h; exact h
    · rw [as' va' hu', if_pos (clearFlags_present_low _)]

/-- **`Translate`, abstractly**: the entry's frame address plus the page offset, or `ErrInvalidMapping`. -/
theorem translate_abs {st : St} {R : W} {own : Own} (g : Good st R own) (va : W) (hu : UserVA va) :
    translate st va =
      .ok ((match hwEntry st.mem R va with
            | some e => (0, (e &&& hwMask) + (va &&& 0xfff#64))
            | none => (eInvalidMapping, 0)), st) := by
  rw [translate_eq_hw g.win va (g.owned.sane hu), mmuWalk_eq_hwEntry g.owned hu]
  cases hwEntry st.mem R va <;> rfl


/-- the boot state: an empty root (frame 1) whose last entry maps itself, four frames to allocate -/
def bootSt : St :=
  { mem := { base := 0, n := 16, log := [.word 1 511 0x1003#64] }, cr3 := 0x1000#64,
    free := [2#64, 3#64, 4#64, 5#64] }

def bootOwn : Own := fun F => if F = 1 then some (0, []) else none

theorem boot_rd {j : Nat} (hj : j ≠ 511) : bootSt.mem.rd (1#64).toNat j = 0#64 := by
  simp [bootSt, Mem.rd, rdLog, Ne.symm hj]

theorem boot_good : Good bootSt 0x1000#64 bootOwn := by
  have ho : Owned bootSt.mem ((1#64) <<< 12) (ownRoot 1#64) :=
    Owned.root_only (by unfold FrameOK; decide) (by decide) (fun j hj => boot_rd hj) (by decide)
  refine ⟨⟨⟨by decide, by decide, by decide, by decide⟩, ⟨by decide, by decide, by decide, by decide⟩⟩, ho,
    Or.inl (by decide), ?_, by decide⟩
  intro f hf
  simp only [bootSt, List.mem_cons, List.not_mem_nil, or_false] at hf
  rcases hf with rfl | rfl | rfl | rfl <;> refine ⟨by unfold FrameOK; decide, by decide, by decide, by decide⟩

theorem boot_empty (va : W) (hu : UserVA va) : hwEntry bootSt.mem 0x1000#64 va = none :=
  hwEntry_root_only (P := 1#64) (by unfold FrameOK; decide) (fun _ hj => boot_rd hj) va hu

end Firefly.Vmm
