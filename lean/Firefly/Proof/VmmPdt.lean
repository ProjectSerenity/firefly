import Firefly.Proof.VmmHistory
/-! `PageDirectoryTable.Map/Unmap` on an inactive table: the swap and restore of the active root's last entry at word
level (`Inactive`, `withPdt_eq`), then, over two disjoint well-formed address spaces (`Dual`), in full generality
(`pdtMap_full`, `Refines.withPdt`). -/

namespace Firefly.Vmm
open Firefly.Gen.C04

/-- State hypotheses for an operation on the inactive table `P` while `A` is active:
`cr3 = A<<12`, both frames fit 40 bits and are distinct RAM frames, both roots are recursive. -/
structure Inactive (st : St) (A P : W) : Prop where
  cr3 : st.cr3 = A <<< 12
  fa : FrameOK A
  fp : FrameOK P
  ne : A.toNat ≠ P.toNat
  act : Link st.mem (A <<< 12) 511 (A <<< 12)
  pdt : Link st.mem (P <<< 12) 511 (P <<< 12)

theorem Inactive.activeFrame {st : St} {A P : W} (h : Inactive st A P) : st.cr3 >>> pageShift = A := by
  rw [h.cr3]
  exact BitVec.eq_of_toNat_eq (frameN_shl12 h.fa)

/-- the state in which the wrapped operation runs: the active root's last entry points to `P` -/
def swapSt (st : St) (A P : W) : St :=
  (st.wrLoc (A.toNat, 511) (setFrame (st.mem.rd A.toNat 511) P)).flush (frameAddr A + lastEntryOff)

/-- the state after the last entry has been pointed back to `A` -/
def restoreSt (st2 : St) (A : W) : St :=
  (st2.wrLoc (A.toNat, 511) (setFrame (st2.rdLoc (A.toNat, 511)) A)).flush (frameAddr A + lastEntryOff)

/-- `PageDirectoryTable`'s wrapper on an inactive table: swap, operate, restore -/
theorem withPdt_eq {st : St} {A P : W} (h : Inactive st A P) (op : St → R Nat) :
    withPdt st P op =
      match op (swapSt st A P) with
      | .error e => .error e
      | .ok (c, st2) => .ok (c, restoreSt st2 A) := by
  have hne : (A == P) = false := by
    cases hb : A == P
    · rfl
    · exact absurd (congrArg BitVec.toNat (eq_of_beq hb)) h.ne
  have hb : st.mem.backed A.toNat = true := by have := h.act.backed; rwa [frameN_shl12 h.fa] at this
  unfold withPdt
  simp only [h.activeFrame, hne, Bool.false_eq_true, if_false, physLoc_last h.fa hb]
  rfl

theorem Inactive.window_swapped {st : St} {A P : W} (h : Inactive st A P) : Window (swapSt st A P) (P <<< 12) := by
  have hfa := frameN_shl12 h.fa
  have hfp := frameN_shl12 h.fp
  have hA : st.cr3 &&& hwMask = A <<< 12 := by rw [h.cr3, shl12_and_hwMask h.fa]
  obtain ⟨ab, ap, ah, _⟩ := h.act
  rw [hfa] at ap ah
  constructor
  · show Link _ (st.cr3 &&& hwMask) 511 _
    rw [hA]
    exact Link.of_setFrame ab h.fp (by simp only [swapSt, St.flush, St.wrLoc, hfa, rd_wr, and_self, if_true]) ap ah
  · exact h.pdt.wr _ _ _ (fun hh => h.ne (by rw [hfp] at hh; exact hh.1))

/-- **Operating on an inactive address space.** `PageDirectoryTable.Map` on the inactive table `P`
(path of the page present): the only word of physical memory that differs afterwards is the leaf
entry in `P`'s tables; in particular every table of the active address space, the active root's last
entry included, is bit-identical.  Flushes: the swapped entry, the page, the restored entry. -/
theorem pdtMap_inactive_present {st : St} {A P T1 T2 T3 : W} (h : Inactive st A P) (page frame flags : W)
    (p : Path st.mem (P <<< 12) (pageAddr page) T1 T2 T3)
    (hd : A.toNat ≠ frameN T1 ∧ A.toNat ≠ frameN T2 ∧ A.toNat ≠ frameN T3)
    (hg : (st.protect && frame == st.zeroFrame && (flags &&& fRW) != 0) = false) :
    ∃ st', pdtMap st P page frame flags = .ok (0, st') ∧
      (∀ F j, st'.mem.rd F j =
        if F = frameN T3 ∧ j = kidx (pageAddr page) 3 then mkEntry frame flags else st.mem.rd F j) ∧
      st'.flushes = st.flushes ++ [frameAddr A + lastEntryOff, pageAddr page, frameAddr A + lastEntryOff] ∧
      st'.cr3 = st.cr3 := by
  have hfa := frameN_shl12 h.fa
  have p' : Path (swapSt st A P).mem (P <<< 12) (pageAddr page) T1 T2 T3 :=
    p.wr 511 _ ⟨by rw [frameN_shl12 h.fp]; exact h.ne, hd.1, hd.2.1⟩
  have he : st.mem.rd A.toNat 511 &&& hwMask = A <<< 12 := by have := h.act.next; rwa [hfa] at this
  unfold pdtMap
  rw [withPdt_eq h, mapOp_present page frame flags h.window_swapped p' hg]
  refine ⟨_, rfl, ?_, ?_, rfl⟩
  · -- the restore writes back what the swap overwrote; in between only the leaf entry was stored
    intro F j
    have h3 : ¬(A.toNat = frameN T3 ∧ 511 = kidx (pageAddr page) 3) := fun hh => hd.2.2 hh.1
    simp only [restoreSt, swapSt, St.flush, St.wrLoc, St.rdLoc, rd_wr', h3, if_false, and_self, if_true,
      setFrame_restore h.fp he]
    by_cases hA : F = A.toNat ∧ j = 511
    · rw [if_pos hA, hA.1, hA.2, if_neg h3]
    · rw [if_neg hA]
      split <;> rfl
  · simp [restoreSt, swapSt, St.flush, St.wrLoc]

/-- Two well-formed, disjoint address spaces: the active one rooted at frame `A` and an inactive one
rooted at frame `P`; the allocator's frames belong to neither. -/
structure Dual (st : St) (A P : W) (ownA ownP : Own) : Prop where
  ga : Good st (A <<< 12) ownA
  inact : Inactive st A P
  op : Owned st.mem (P <<< 12) ownP
  disj : ∀ F, ownA F ≠ none → ownP F = none
  freeP : ∀ f ∈ st.free, ownP f.toNat = none

theorem Dual.ownP_A {st : St} {A P : W} {ownA ownP : Own} (d : Dual st A P ownA ownP) : ownP A.toNat = none := by
  apply d.disj
  have := d.ga.owned.root
  rw [frameN_shl12 d.inact.fa] at this
  rw [this]; simp

theorem Dual.cr3mask {st : St} {A P : W} {ownA ownP : Own} (d : Dual st A P ownA ownP) :
    st.cr3 &&& hwMask = A <<< 12 := by rw [d.inact.cr3, shl12_and_hwMask d.inact.fa]

/-- growth of the inactive tree writes no table of the active address space, so no active page changes -/
theorem Dual.active_rd {st st' : St} {A P : W} {ownA ownP ownP' : Own} (d' : Dual st' A P ownA ownP')
    (gr : Grow st st' ownP ownP') {F : Nat} {x : Nat × List Nat} (hF : ownA F = some x) (j : Nat) :
    st'.mem.rd F j = st.mem.rd F j :=
  gr.foot F j (d'.disj F (by rw [hF]; simp)) id

theorem Dual.active_as {st st' : St} {A P : W} {ownA ownP ownP' : Own} (d : Dual st A P ownA ownP)
    (d' : Dual st' A P ownA ownP') (gr : Grow st st' ownP ownP') (va' : W) (hu' : UserVA va') :
    hwEntry st'.mem (A <<< 12) va' = hwEntry st.mem (A <<< 12) va' :=
  hwEntry_congr_owned d.ga.owned gr.regs.backed (fun _ _ hF j => d'.active_rd gr hF j) va' hu'

theorem Dual.good_swapped {st : St} {A P : W} {ownA ownP : Own} (d : Dual st A P ownA ownP) :
    Good (swapSt st A P) (P <<< 12) ownP := by
  have hA := d.ownP_A
  refine ⟨d.inact.window_swapped, ?_, ?_, ?_, d.ga.nodup⟩
  · exact (d.op.wr_unowned hA 511 _).1
  · right
    show ownP (frameN (st.cr3 &&& hwMask)) = none
    rw [d.cr3mask, frameN_shl12 d.inact.fa]; exact hA
  · intro f hf
    obtain ⟨a1, a2, _, a4⟩ := d.ga.free f hf
    exact ⟨a1, a2, d.freeP f hf, a4⟩

/-- **Swap / operate / restore.** Any operation that, run on the swapped state, behaves like an
operation on the address space rooted at `P` (it keeps it `Good` and only grows its tree) yields,
wrapped by `PageDirectoryTable`'s swap and restore of the active root's last entry: no fault, both
address spaces well formed and disjoint again, and every word of memory outside `P`'s tree
bit-identical to before the call. -/
theorem withPdt_core {st : St} {A P : W} {ownA ownP ownP' : Own} (d : Dual st A P ownA ownP) (op : St → R Nat)
    {code : Nat} {st2 : St} (hm : op (swapSt st A P) = .ok (code, st2))
    (g2 : Good st2 (P <<< 12) ownP') (gr : Grow (swapSt st A P) st2 ownP ownP') :
    withPdt st P op = .ok (code, restoreSt st2 A) ∧ Dual (restoreSt st2 A) A P ownA ownP' ∧
      Grow st (restoreSt st2 A) ownP ownP' ∧
      (∀ va', UserVA va' → hwEntry (swapSt st A P).mem (P <<< 12) va' = hwEntry st.mem (P <<< 12) va') ∧
      (∀ va', UserVA va' → hwEntry (restoreSt st2 A).mem (P <<< 12) va' = hwEntry st2.mem (P <<< 12) va') := by
  have h := d.inact
  have hfa := frameN_shl12 h.fa
  have hfp := frameN_shl12 h.fp
  have he : st.mem.rd A.toNat 511 &&& hwMask = A <<< 12 := by have := h.act.next; rwa [hfa] at this
  have hAP := d.ownP_A
  -- the allocator never hands out the active root
  have hA' : ownP' A.toNat = none :=
    stays_none gr.newfree hAP (fun f hf => by have := (d.ga.free f hf).2.2.2; rwa [d.cr3mask, hfa] at this)
  have hrd2 : st2.mem.rd A.toNat 511 = setFrame (st.mem.rd A.toNat 511) P := by
    rw [gr.foot _ _ hA' id]; simp [swapSt, St.flush, St.wrLoc]
  have hfoot : ∀ F j, ownP' F = none → (restoreSt st2 A).mem.rd F j = st.mem.rd F j := by
    intro F j hF
    simp only [restoreSt, St.flush, St.wrLoc, St.rdLoc, rd_wr, hrd2, setFrame_restore h.fp he]
    by_cases hl : A.toNat = F ∧ 511 = j
    · obtain ⟨rfl, rfl⟩ := hl; simp
    · rw [if_neg hl, gr.foot F j hF id]
      simp only [swapSt, St.flush, St.wrLoc, rd_wr, if_neg hl]
  -- neither do the tables of the active space join `P`'s tree
  have hownA_foot : ∀ F x, ownA F = some x → ownP' F = none := fun F x hF =>
    stays_none gr.newfree (d.disj F (by rw [hF]; simp)) (fun f hf hfe => by
      have := (d.ga.free f hf).2.2.1; rw [hfe, hF] at this; cases this)
  have hregs : SameRegs st (restoreSt st2 A) :=
    SameRegs.trans (b := swapSt st A P) ⟨rfl, rfl, rfl, rfl, rfl, rfl, fun _ => rfl⟩
      (gr.regs.trans ⟨rfl, rfl, rfl, rfl, rfl, rfl, fun _ => rfl⟩)
  have hgrow : Grow st (restoreSt st2 A) ownP ownP' := ⟨gr.ext, fun F j h _ => hfoot F j h, gr.newfree, gr.sub, hregs⟩
  have hga : Good (restoreSt st2 A) (A <<< 12) ownA :=
    d.ga.mono hregs.cr3 gr.sub hregs.backed (fun F x hF j => hfoot F j (hownA_foot F x hF))
      (by rw [d.cr3mask, hfa]; exact hfoot _ _ hA')
  refine ⟨by rw [withPdt_eq h, hm], ⟨hga, ⟨hregs.cr3.trans h.cr3, h.fa, h.fp, h.ne, hga.win.self, ?_⟩, ?_, ?_, ?_⟩, hgrow, ?_, ?_⟩
  · exact g2.win.self.wr _ _ _ (fun hh => h.ne (by rw [hfp] at hh; exact hh.1))
  · exact (g2.owned.wr_unowned hA' 511 _).1
  · intro F hF
    cases hx : ownA F with
    | none => exact absurd hx hF
    | some x => exact hownA_foot F x hx
  · intro f hf; exact (g2.free f hf).2.2.1
  · exact (d.op.wr_unowned hAP 511 _).2
  · exact (g2.owned.wr_unowned hA' 511 _).2

/-- outcome of `PageDirectoryTable.Map` on the inactive table, in terms of its abstract address space -/
def PdtOutcome (st st' : St) (A P va v : W) (code : Nat) (frame flags : W) : Prop :=
  let last := frameAddr A + lastEntryOff
  (code = 0 ∧ st'.flushes = st.flushes ++ [last, va, last] ∧
    ∀ va', UserVA va' → hwEntry st'.mem (P <<< 12) va' =
      if SamePage va' va then (if v &&& 1#64 = 0#64 then none else some v) else hwEntry st.mem (P <<< 12) va') ∨
  (code ≠ 0 ∧ st'.flushes = st.flushes ++ [last, last] ∧
    (∀ va', UserVA va' → hwEntry st'.mem (P <<< 12) va' = hwEntry st.mem (P <<< 12) va') ∧
    ((code = eAlloc ∧ st'.free = []) ∨
     (code = eRWZero ∧ st.protect = true ∧ frame = st.zeroFrame ∧ (flags &&& fRW) ≠ 0)))

/-- **`PageDirectoryTable.Map` on an inactive table, every case** (any number of new levels,
allocator failure at any point, the zero-frame guard): the call never faults; both address spaces
stay well formed and disjoint; *every word of memory outside the inactive table's own tree is
bit-identical afterwards* — the active tables, the active root's last entry (swapped and restored)
included; the inactive address space changes exactly as `Map` specifies. -/
theorem pdtMap_full {st : St} {A P : W} {ownA ownP : Own} (d : Dual st A P ownA ownP) (page frame flags : W)
    (hu : UserVA (pageAddr page)) :
    ∃ code st' ownP', pdtMap st P page frame flags = .ok (code, st') ∧ Dual st' A P ownA ownP' ∧
      Grow st st' ownP ownP' ∧ PdtOutcome st st' A P (pageAddr page) (mkEntry frame flags) code frame flags := by
  obtain ⟨code, st2, ownP', hm, post, out⟩ := mapOp_full d.good_swapped page frame flags hu
  obtain ⟨h1, h2, h3, hin, hout⟩ := withPdt_core d (fun s => mapOp s page frame flags) hm post.good post.toGrowX
  refine ⟨code, restoreSt st2 A, ownP', h1, h2, h3, ?_⟩
  unfold PdtOutcome
  rcases out with (⟨rfl, f2, f3⟩ | ⟨rfl, f2, f3, f4⟩) | ⟨rfl, rfl, f3, f4, f5⟩
  · left
    refine ⟨rfl, ?_, fun va' hu' => ?_⟩
    · simp only [restoreSt, swapSt, St.flush, St.wrLoc] at f2 ⊢; rw [f2]; simp
    · rw [hout va' hu', f3 va' hu', hin va' hu']
  · right
    refine ⟨by simp [eAlloc], ?_, fun va' hu' => ?_, Or.inl ⟨rfl, f2⟩⟩
    · simp only [restoreSt, swapSt, St.flush, St.wrLoc] at f3 ⊢; rw [f3]; simp
    · rw [hout va' hu', f4 va' hu', hin va' hu']
  · right
    refine ⟨by simp [eRWZero], ?_, fun va' hu' => ?_, Or.inr ⟨rfl, f3, f4, f5⟩⟩
    · simp [restoreSt, swapSt, St.flush, St.wrLoc]
    · rw [hout va' hu', hin va' hu']

/-- **Refinement passes through the swap / restore wrapper**: a request that refines its abstract step on
the address space rooted at `P` when `P` is seen through the window does so on the inactive `P`. -/
theorem Refines.withPdt {A P : W} {ownA : Own} {op : St → R Nat} {rq : Op} {Err : Nat → Prop}
    (h : Refines (fun st own => Good st (P <<< 12) own) (P <<< 12) op rq Err) :
    Refines (fun st own => Dual st A P ownA own) (P <<< 12) (fun st => withPdt st P op) rq
      Err := fun st own d => by
  obtain ⟨c, st2, own', hm, g2, gr, hc, a⟩ := h (swapSt st A P) own d.good_swapped
  obtain ⟨h1, h2, h3, hin, hout⟩ := withPdt_core d op hm g2 gr
  exact ⟨c, restoreSt st2 A, own', h1, h2, h3, hc, fun va' hu' =>
    (hout va' hu').trans ((a va' hu').trans (absStep_congr_at _ _ _ (hin va' hu')))⟩

theorem pdtMap_refines {A P : W} {ownA : Own} (p f fl : W) (hu : UserVA (pageAddr p)) :
    Refines (fun st own => Dual st A P ownA own) (P <<< 12) (fun st => pdtMap st P p f fl)
      (.map p f fl) (fun c => c = eAlloc ∨ c = eRWZero) := (mapOp_refines p f fl hu).withPdt

end Firefly.Vmm
