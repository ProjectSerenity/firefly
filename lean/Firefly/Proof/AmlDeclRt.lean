import Firefly.Proof.AmlObjRt
import Firefly.Proof.AmlKids
import Firefly.Model.AmlProg
/-!
Declaration-level round trip (`C11`): `parseNextObject` creates an object as the last child of the innermost scope
(`nextObject_open`) and parses its arguments; on a `Name` declaration that is the `Name` object with its name-path argument
carrying the encoded path.  Last, one round of the object loop around it (`oli_step`).
-/

namespace Firefly.AmlParser.F
open Firefly.AmlLex Firefly.AmlTree Firefly.C13 Firefly.AmlParser.G Firefly.AmlParser.S
open Firefly.Gen.C12

/-- the table row of `Name`: a name string and a data object -/
theorem name_row : pOpcodeTableIndex 8 false ≠ badOpcode ∧ InfoOK (pOpcodeTableIndex 8 true) ∧
    argCnt (pOpcodeTableIndex 8 true) = 2 ∧ argAt (pOpcodeTableIndex 8 true) 0 = argTypeNameString ∧
    argAt (pOpcodeTableIndex 8 true) 1 = argTypeDataRefObj := by
  unfold InfoOK
  decide +kernel

theorem parseArgs_end {d : Bytes} {f info x j : Nat} (hI : InfoOK info) (hj : argCnt info ≤ j) (s : PState) :
    parseArgs d (f + 1) info x j s = .ok (PRes.ok, s) := by
  unfold parseArgs
  rw [opArgCount_of_info hI, bind_run (optP_ex _ s), if_neg (Nat.not_lt.2 hj)]
  rfl

theorem parseArgs_step {d : Bytes} {f info x j : Nat} (hI : InfoOK info) (hj : j < argCnt info) {s s1 s2 : PState}
    {oa : Option Nat} {r : PRes} (earg : parseArg d f info x (argAt info j) s = .ok ((oa, r), s1))
    (eapp : (match oa with | some a => tree (·.append x a) | none => pure ()) s1 = .ok ((), s2)) :
    parseArgs d (f + 1) info x j s = if r = .ok then parseArgs d f info x (j + 1) s2 else .ok (r, s2) := by
  conv => lhs; unfold parseArgs
  rw [opArgCount_of_info hI, bind_run (optP_ex _ s), if_pos hj, opArg_of_info hI j, bind_run (optP_ex _ s), bind_run earg]
  cases oa with
  | none => cases eapp; dsimp only; split <;> rfl
  | some a => dsimp only; rw [bind_run eapp]; split <;> rfl

theorem parseArg_simple {d : Bytes} {f info x ty : Nat} (h : isSimpleArg ty = true) :
    parseArg d (f + 1) info x ty = parseSimpleArg d ty := by
  rw [parseArg, if_pos h]

theorem parseObjectArgs_row {d : Bytes} {f x op : Nat} {s s' : PState} {r : PRes} (hl : live s.tree x = true)
    (hop : (slot s.tree x).opcode = op) (hinf : (slot s.tree x).infoIndex = pOpcodeTableIndex op true)
    (hI : InfoOK (pOpcodeTableIndex op true))
    (hnp : op ≠ opBytePrefix ∧ op ≠ opWordPrefix ∧ op ≠ opDwordPrefix ∧ op ≠ opQwordPrefix ∧ op ≠ opStringPrefix)
    (e : parseArgs d f (pOpcodeTableIndex op true) x 0 s = .ok (r, s')) :
    parseObjectArgs d (f + 1) x s = .ok (if r = .shortCircuit then .ok else r, s') := by
  obtain ⟨fl, hfl⟩ := opFlags_of_info hI
  rw [parseObjectArgs, bind_run (getObj_live hl), hop, if_neg hnp.1, if_neg hnp.2.1, if_neg hnp.2.2.1, if_neg hnp.2.2.2.1,
    if_neg hnp.2.2.2.2, hinf, hfl, bind_run (optP_ex fl s), bind_run e]
  rfl

/-- what a declaration step of the first pass does to the objects that existed: they stay, under the same parents and
with the same payload; only the innermost scope block `top` gets a new last child `x` -/
structure OldKept (s s' : PState) (top x : Nat) : Prop where
  lv : ∀ y, live s.tree y = true → live s'.tree y = true
  par : ∀ y, live s.tree y = true → C13.P s'.tree y = C13.P s.tree y
  pay : ∀ y, live s.tree y = true → Pay (slot s'.tree y) = Pay (slot s.tree y)
  kids : ∀ y, live s.tree y = true → K s'.tree y = if y = top then K s.tree y ++ [x] else K s.tree y

theorem OldKept.grew {s s' : PState} {top x : Nat} (o : OldKept s s' top x) : Grew s.tree s'.tree top [x] :=
  ⟨o.lv, o.par, o.pay, o.kids⟩

theorem Grew.oldKept {s s' : PState} {top x : Nat} (g : Grew s.tree s'.tree top [x]) : OldKept s s' top x :=
  ⟨g.lv, g.par, g.pay, g.kids⟩

/-- the object `parseNextObject` has created and appended when it calls `parseObjectArgs`; it is the last child of the
innermost scope block -/
structure Opened (d : Bytes) (s s5 : PState) (x op : Nat) (r' : Reader) : Prop where
  fp : FP d s5
  nx : live s.tree x = false
  lx : live s5.tree x = true
  opx : (slot s5.tree x).opcode = op
  infx : (slot s5.tree x).infoIndex = pOpcodeTableIndex op true
  thx : (slot s5.tree x).tableHandle = s.tableHandle
  kx : K s5.tree x = []
  px : C13.P s5.tree x = topOf s
  r : s5.r = r'
  rest : SameRest s s5
  old : Grew s.tree s5.tree (topOf s) [x]
  size : s5.tree.pool.size ≤ s.tree.pool.size + 1

/-- the first half of `parseNextObject`, given the run of `nextOpcode`: the object is created and appended to the innermost
scope -/
theorem nextObject_open {d : Bytes} (f : Nat) {s : PState} (h : FP d s) (hne : s.scopeStack.size ≠ 0)
    (hsz : s.tree.pool.size + 1 < INV) {op : Nat} {r' : Reader} (hx : Runs d (nextOpcode d) s.r (op, PRes.ok) r')
    (hinfo : InfoOK (pOpcodeTableIndex op true)) (hnoop : op ≠ opNoop) :
    ∃ x s5, Opened d s s5 x op r' ∧
      ∀ a s', parseObjectArgs d f x s5 = .ok (a, s') → parseNextObject d (f + 1) s = .ok (a, s') := by
  have eop := lex_eq hx.run
  generalize hs2 : ({ s with r := r' } : PState) = s2 at eop
  have h2 : FP d s2 := by rw [← hs2]; exact h.withR hx.inv
  have hs2' : s2 = { s with r := s2.r } := by rw [← hs2]
  have r02 : SameRest s s2 := by rw [← hs2]; exact SameRest.ofR _
  have hr2 : s2.r = r' := by rw [← hs2]
  obtain ⟨x, s3, s4, e3, _, e4, h4, f24, hr4, hop4, hinfo4, _, _, hth4⟩ :=
    newObjectAt_step h2 op s.r.offset (by rw [hs2']; show s.tree.pool.size < INV; omega) hinfo
  have f4 : Fresh1 x s s4 := Fresh1.afterLex hs2' (by rw [hr2]; exact hx.pkgEnd) (by rw [hr2]; exact hx.fwd) f24
  obtain ⟨esc, htopl, _⟩ := scopeCurrent_top h4 (by rw [f4.scope]; exact hne)
  have htop4 : topOf s4 = topOf s := by unfold topOf; rw [f4.scope]
  rw [htop4] at esc htopl
  have htopl0 : live s.tree (topOf s) = true := (scopeCurrent_top h hne).2.1
  obtain ⟨s5, e5, h5, a5⟩ := append_fresh h.tree.wf f4 h4 rfl htopl0
  have px5 := a5.payn
  refine ⟨x, s5, ⟨h5, f4.nlive, a5.ln, by rw [pay_opcode px5]; exact hop4, by rw [pay_info px5]; exact hinfo4,
    by rw [pay_handle px5, hth4, r02.th], a5.kn, a5.pn, by rw [a5.r, hr4, hr2],
    (fresh1_rest f4).trans a5.rest, a5.grew, by rw [a5.size]; exact f4.size.2⟩, ?_⟩
  intro a s' ea
  unfold parseNextObject
  refine bind_ex' (lex_offset_ex s) (bind_ex' eop ?_)
  dsimp only
  rw [if_neg hnoop, if_neg (by decide)]
  exact bind_ex' e3 (bind_ex' e4 (bind_ex' esc (bind_ex' (derefP_some_ex _) (bind_ex' e5 ea))))

theorem Opened.thenPay {d : Bytes} {s s5 s6 : PState} {x op : Nat} {r5 r6 : Reader} {v : Val} (o : Opened d s s5 x op r5)
    (h6 : FP d s6) (hp : PayOnly x s5 s6) (hsl : slot s6.tree x = { slot s5.tree x with value := v })
    (hr : s6.r = r6) : Opened d s s6 x op r6 :=
  ⟨h6, o.nx, by rw [hp.links.live]; exact o.lx, by rw [hsl]; exact o.opx, by rw [hsl]; exact o.infx, by rw [hsl]; exact o.thx,
    by rw [kids_sameLinks o.fp.tree.wf hp.links o.lx]; exact o.kx, by rw [hp.links.p]; exact o.px,
    hr, o.rest.trans (payOnly_rest hp), o.old.thenPay o.fp.tree.wf hp o.nx,
    by rw [hp.links.size]; exact o.size⟩

/-- the objects a `Name` declaration creates in the first pass: the `Name` object `x` and its name path `c` -/
structure NameDecl (d : Bytes) (s s' : PState) (x c off len : Nat) : Prop where
  fp : FP d s'
  nx : live s.tree x = false
  nc : live s.tree c = false
  lx : live s'.tree x = true
  lc : live s'.tree c = true
  opx : (slot s'.tree x).opcode = 8
  infx : (slot s'.tree x).infoIndex = pOpcodeTableIndex 8 true
  thx : (slot s'.tree x).tableHandle = s.tableHandle
  opc : (slot s'.tree c).opcode = opIntNamePath
  infc : (slot s'.tree c).infoIndex = pOpcodeTableIndex opIntNamePath true
  thc : (slot s'.tree c).tableHandle = s.tableHandle
  valc : (slot s'.tree c).value = .bytes off len
  kx : K s'.tree x = [c]
  kc : K s'.tree c = []
  px : C13.P s'.tree x = topOf s
  pc : C13.P s'.tree c = x
  rest : SameRest s s'
  old : OldKept s s' (topOf s) x
  size : s'.tree.pool.size ≤ s.tree.pool.size + 2

theorem name_decl_k {d : Bytes} (hd : d.size + 1024 ≤ 4294967296) (f : Nat) {s : PState} (h : FP d s)
    (hsk : s.allBlocks = false) (hne : s.scopeStack.size ≠ 0) (hsz : s.tree.pool.size + 2 < INV)
    (root : Bool) (carets : Nat) (segs : List (List UInt8)) (hok : NameOK segs) (ha : At d s ([0x08] ++ encName root carets segs)) :
    ∃ s' x c, parseNextObject d (f + 5) s = .ok (PRes.ok, s') ∧
      NameDecl d s s' x c (s.r.offset + 1) ((encName root carets segs).length - (if segs = [] then 1 else 0)) ∧
      s'.r = { offset := s.r.offset + ([0x08] ++ encName root carets segs).length, pkgEnd := s.r.pkgEnd } := by
  obtain ⟨r1, r2, r3, r4, r5⟩ := name_row
  obtain ⟨x, s5, o, hk⟩ := nextObject_open (f + 4) h hne (by omega)
    (h.runsAt (nextOpcode_one_reads (b := 0x08) (by decide) r1) ha.left) r2 (by decide)
  have ha5 := ha.adv rfl o.r
  obtain ⟨c, s6, e6, h6, c1, c2, c3, c4, c5, c6, fc, ci, cth⟩ := name_object_roundtrip hd o.fp (by have := o.size; omega)
    root carets segs s5.r.offset s5.r.pkgEnd rfl o.fp.inv.2 hok ha5.bytes ha5.fit
  rw [o.r] at c4 c6
  obtain ⟨s7, e7, h7, a7⟩ := append_fresh o.fp.tree.wf fc h6 rfl o.lx
  have r57 : SameRest s5 s7 := (fresh1_rest fc).trans a7.rest
  have eargs : parseArgs d (f + 3) (pOpcodeTableIndex 8 true) x 0 s5 = .ok (PRes.shortCircuit, s7) := by
    rw [parseArgs_step (oa := some c) r2 (by rw [r3]; decide) (by rw [r4, parseArg_simple (by decide)]; exact e6) e7, if_pos rfl]
    refine (parseArgs_step (oa := none) r2 (by rw [r3]; decide) ?_ rfl).trans (if_neg (by decide))
    -- the data object: not parsed in the first pass
    show parseArg d (f + 1) _ x (argAt _ 1) s7 = _
    rw [r5, parseArg, if_neg (by decide), if_neg (by decide), if_neg (by decide), if_neg (by decide), if_pos (Or.inr rfl),
      bind_run (allBlocks_ex s7), r57.ab, o.rest.ab, hsk]
    rfl
  have px7 := a7.grew.pay x o.lx
  have nd : NameDecl d s s7 x c (s.r.offset + 1) ((encName root carets segs).length - (if segs = [] then 1 else 0)) :=
    ⟨h7, o.nx, o.old.not_live c1, a7.grew.lv x o.lx, a7.ln, by rw [pay_opcode px7]; exact o.opx, by rw [pay_info px7]; exact o.infx,
      by rw [pay_handle px7]; exact o.thx, by rw [pay_opcode a7.payn]; exact c5, by rw [pay_info a7.payn]; exact ci,
      by rw [pay_handle a7.payn, cth, o.rest.th], by rw [pay_value a7.payn]; exact c4, by rw [a7.grew.kids_top o.lx, o.kx]; rfl,
      a7.kn, by rw [a7.grew.par x o.lx]; exact o.px, a7.pn, o.rest.trans r57, (o.old.inside a7.grew o.nx).oldKept,
      by rw [a7.size]; have := fc.size.2; have := o.size; omega⟩
  exact ⟨s7, x, c, hk _ _ (parseObjectArgs_row o.lx o.opx o.infx r2 (by decide) eargs), nd,
    by rw [a7.r, c6, List.length_append, Nat.add_assoc]⟩

/-- **the first pass on a `Name` declaration**: with the reader at the bytes `08 <NameString>` inside the current package,
`parseNextObject` (skip mode) succeeds; it creates a `Name` object `x` as the last child of the innermost scope block and a
name-path object `c` as its only argument, whose value is the `[]byte` covering exactly the encoded path; the reader stands
behind the name (the data object that follows is parsed as the next object), the scope stack is unchanged and the pool is
well-formed -/
theorem name_decl_first_pass {d : Bytes} (hd : d.size + 1024 ≤ 4294967296) (f : Nat) {s : PState} (h : FP d s)
    (hsk : s.allBlocks = false) (hne : s.scopeStack.size ≠ 0) (hsz : s.tree.pool.size + 2 < INV)
    (root : Bool) (carets : Nat) (segs : List (List UInt8)) (base pe : Nat) (hr : s.r = { offset := base, pkgEnd := pe })
    (hpe : pe ≤ d.size) (hok : NameOK segs) (hop : d[base]? = some 0x08)
    (henc : ∀ i, i < (encName root carets segs).length → d[base + 1 + i]? = (encName root carets segs)[i]?)
    (hfit : base + 1 + (encName root carets segs).length ≤ pe) :
    ∃ a s', parseNextObject d (f + 5) s = .ok (a, s') ∧ a = PRes.ok ∧ ∃ x c, FP d s' ∧
      live s.tree x = false ∧ live s.tree c = false ∧ live s'.tree x = true ∧ live s'.tree c = true ∧
      (slot s'.tree x).opcode = 8 ∧ C13.P s'.tree x = topOf s ∧ La s'.tree (topOf s) = x ∧
      Fi s'.tree x = c ∧ La s'.tree x = c ∧ C13.P s'.tree c = x ∧ (slot s'.tree c).opcode = opIntNamePath ∧
      (slot s'.tree c).value = .bytes (base + 1) ((encName root carets segs).length - (if segs = [] then 1 else 0)) ∧
      s'.r = { offset := base + 1 + (encName root carets segs).length, pkgEnd := pe } ∧ s'.scopeStack = s.scopeStack ∧
      (∀ y, live s.tree y = true → live s'.tree y = true ∧ C13.P s'.tree y = C13.P s.tree y) ∧
      NameDecl d s s' x c (base + 1) ((encName root carets segs).length - (if segs = [] then 1 else 0)) := by
  obtain ⟨s', x, c, e, nd, hr'⟩ := name_decl_k hd f h hsk hne hsz root carets segs hok
    ⟨by rw [hr]; exact BytesAt.cons hop henc, by rw [hr, List.length_append, ← Nat.add_assoc]; exact hfit⟩
  rw [hr] at nd hr'
  have w := nd.fp.tree.wf
  have htopl : live s.tree (topOf s) = true := (scopeCurrent_top h hne).2.1
  exact ⟨_, s', e, rfl, x, c, nd.fp, nd.nx, nd.nc, nd.lx, nd.lc, nd.opx, nd.px,
    la_of_kids w (nd.old.lv _ htopl) (nd.old.grew.kids_top htopl), first_of_kids w nd.lx nd.kx, la_of_kids w nd.lx (pre := []) nd.kx,
    nd.pc, nd.opc, nd.valc, by rw [hr', List.length_append, ← Nat.add_assoc]; rfl, nd.rest.sc,
    fun y hy => ⟨nd.old.lv y hy, nd.old.par y hy⟩, nd⟩

end Firefly.AmlParser.F

namespace Firefly.AmlParser.F
open Firefly.AmlLex Firefly.AmlTree Firefly.C13 Firefly.AmlParser Firefly.AmlParser.G Firefly.AmlParser.S
open Firefly.Gen.C12 Firefly.AmlProg

theorem oli_eof {d : Bytes} (fuel m : Nat) {s : PState} (he : s.r.eof = true) : objectListInner d fuel (m + 1) s = .ok (true, s) := by
  rw [objectListInner, bind_run (lex_eof_ex s), he]
  rfl

theorem oli_step {d : Bytes} (fuel m : Nat) {s s1 : PState} (he : s.r.eof = false) (e : parseNextObject d fuel s = .ok (PRes.ok, s1)) :
    objectListInner d fuel (m + 1) s = objectListInner d fuel m s1 := by
  rw [objectListInner, bind_run (lex_eof_ex s), he]
  simp only [Bool.false_eq_true, ↓reduceIte]
  rw [bind_run e, if_neg (by decide)]

end Firefly.AmlParser.F
