import Firefly.Proof.AmlSkipWalk
import Firefly.Proof.AmlStrict
/-!
The prefix of `ParseAML` (`init`, the first pass, `connectNamedObjArgs`, the resolve loop) never panics and hands `MIJ` to
`parseDeferredBlocks`: the first-pass part is `Sk.firstPass_rs`, the tree passes are those of `Proof/AmlMerge.lean`.  Then its
composition with the strict pass: in the state the prefix hands on, every attached object with a deferred table row satisfies the
hypotheses of the per-block theorem (`S.parseDeferred_rs`), so whichever block the walk reaches first is parsed
without a panic, and with enough fuel it returns.  Until it reaches a block the walk changes nothing, so a run in which no block
succeeds is covered to the end of `ParseAML`.
-/

namespace Firefly.AmlParser.F
open Firefly.AmlLex Firefly.AmlTree Firefly.C13 Firefly.AmlParser.G Firefly.AmlParser.S
open Firefly.Gen.C12

variable {jf : Prop}

/-- `ParseAML` up to and excluding `parseDeferredBlocks`: `init`, the first pass, `connectNamedObjArgs`, the resolve loop -/
def parsePrefix (d : Bytes) (fuel handle : Nat) : P Bool := do
  let r ← firstPass d fuel handle
  if r = .failed then pure false else treePasses d fuel

/-- what `ParseAML` does after the prefix (`false` = the prefix failed) -/
def afterPrefix (d : Bytes) (fuel : Nat) (b : Bool) : P Bool := do
  if !b then pure false
  else if (← parseDeferredBlocks d fuel fuel 0) ≠ .ok then pure false
  else if (← resolveMethodCalls d fuel 0) ≠ .ok then pure false
  else if (← connectNonNamedObjArgs fuel 0) ≠ .ok then pure false
  else pure true

theorem parseAML_prefix (d : Bytes) (fuel handle : Nat) :
    parseAML d fuel handle = parsePrefix d fuel handle >>= afterPrefix d fuel := by
  rw [parseAML_eq]
  unfold parsePrefix
  rw [bind_assoc]
  congr 1
  funext r
  unfold afterFirstPass
  by_cases hr : r = .failed
  · rw [if_pos hr, if_pos hr]; exact (pure_bind false (afterPrefix d fuel)).symm
  · rw [if_neg hr, if_neg hr]
    unfold treePasses
    rw [bind_assoc]
    congr 1
    funext r2
    by_cases h2 : r2 ≠ .ok
    · rw [if_pos h2, if_pos h2]; exact (pure_bind false (afterPrefix d fuel)).symm
    · rw [if_neg h2, if_neg h2]
      simp only [bind_assoc]
      congr 1

/-- **`ParseAML` up to `parseDeferredBlocks` never panics and hands over `MIJ`**; `b = false` = the prefix made `ParseAML` fail -/
theorem parsePrefix_np {d : Bytes} (hd : d.size + 268435456 ≤ 4294967296) {s : PState} (ht : TreeG s.tree)
    (hsz : s.tree.pool.size + 16 * d.size ≤ INV) (fuel handle : Nat) (hroot : RootSB s) (hfn : FN s)
    (hh : ∀ x, live s.tree x = true → (slot s.tree x).opcode = opScope → (slot s.tree x).tableHandle ≠ handle)
    (hmth : jf → MInv s ∧ CSA s) :
    NPs (parsePrefix d fuel handle) s (fun b s' => TP s' ∧ (b = true → MIJ jf d s' ∧ Inv d s'.r ∧ s'.scopeStack.size = 0 ∧
      s'.tree.pool.size ≤ s.tree.pool.size + 16 * d.size)) := by
  unfold parsePrefix
  refine NPs.bind (firstPass_mi hd ht hsz fuel handle hroot hfn hh hmth) ?_
  intro r s1 ⟨h1, hp1, hmi⟩
  refine NPs.ite (fun _ => NPs.pure ⟨h1.tp, fun hq => by cases hq⟩) fun hr => ?_
  refine (treePasses_np d fuel (hmi hr).1).mono ?_
  intro b s2 ⟨m2, sh2⟩
  exact ⟨m2.tp, fun _ => ⟨m2, by rw [sh2.rs.1]; exact h1.inv, by rw [sh2.rs.2.1]; exact (hmi hr).2,
    by rw [sh2.size]; exact hp1⟩⟩

theorem poolHyp_of_b {s : PState} {handle : Nat} (h : poolHypB s.tree handle = true) :
    RootSB s ∧ FN s ∧
    (∀ x, live s.tree x = true → (slot s.tree x).opcode = opScope → (slot s.tree x).tableHandle ≠ handle) := by
  unfold poolHypB at h
  simp only [Bool.and_eq_true, beq_iff_eq, List.all_eq_true, List.mem_range, Bool.or_eq_true, Bool.not_eq_true', bne_iff_ne,
    ne_eq] at h
  obtain ⟨⟨h1, h2⟩, h3⟩ := h
  refine ⟨⟨h1, h2⟩, ?_, ?_⟩
  · intro x hx
    by_cases hlt : x < s.tree.pool.size
    · rcases (h3 x hlt).1 with q | q
      · rw [hx] at q; cases q
      · exact q
    · have : slot s.tree x = default := by
        unfold slot
        rw [Array.getElem?_eq_none (by omega)]
        rfl
      rw [this]; rfl
  · intro x hl ho hh
    rcases (h3 x (live_lt hl)).2 with (q | q) | q
    · rw [hl] at q; cases q
    · exact q ho
    · exact q hh

end Firefly.AmlParser.F

namespace Firefly.AmlParser.F
open Firefly.AmlLex Firefly.AmlTree Firefly.C13 Firefly.AmlParser Firefly.AmlParser.G Firefly.AmlParser.S Firefly.AmlParser.ST
open Firefly.Gen.C12

theorem deferred_rows : (∀ i, i < opcodeTable.size → deferB i = true → rowFacts i = true) ∧ deferB methodInfoIdx = false ∧
    deferB (pOpcodeTableIndex opIntNamePath true) = false ∧ deferB (pOpcodeTableIndex opBytePrefix true) = false ∧
    deferB (pOpcodeTableIndex opIntScopeBlock true) = false := by
  refine ⟨fun i hi hd => ?_, by decide +kernel⟩
  by_cases h : i < 113
  · exact rowFacts_of_lt h
  · -- the eight rows of the internal opcodes are not deferred
    have h8 : (List.range' 113 8).all (fun i => !deferB i) = true := by decide +kernel
    have hs : opcodeTable.size = 121 := by decide +kernel
    have := List.all_eq_true.mp h8 i (List.mem_range'_1.mpr ⟨by omega, by omega⟩)
    rw [hd] at this; cases this

theorem info_lt {i : Nat} (h : InfoOK i) : i < opcodeTable.size :=
  let ⟨_, he⟩ := row_of_info h
  (Array.getElem?_eq_some_iff.1 he).1

theorem fp_of_tp {d : Bytes} {s : PState} (tp : TP s) (hinv : Inv d s.r) (hst : s.scopeStack.size = 0) : FP d s :=
  ⟨hinv, tp.treeG, fun x hx => by rw [Array.eq_empty_of_size_eq_zero hst] at hx; cases hx⟩

theorem MInv.ms {s : PState} (h : MInv s) : MS (fun _ => False) none s.tree := by
  intro m hl ho _ _
  obtain ⟨k1, k2, k3, mk⟩ := h.mths m hl ho
  obtain ⟨v, hv⟩ := mk.val
  exact ⟨v, by rw [mk.fi]; exact mk.l1, by rw [mk.fi, mk.n1]; exact mk.l2, by rw [mk.fi, mk.n1]; exact hv⟩

theorem MInv.block {s : PState} (h : MInv s) (tp : TP s) {obj : Nat} (hl : live s.tree obj = true)
    (hp : C13.P s.tree obj ≠ INV) (hdf : deferB (slot s.tree obj).infoIndex = true) : BlockOK s obj := by
  obtain ⟨d1, d2, d3, d4, d5⟩ := deferred_rows
  have w := tp.wf
  have hnM : (slot s.tree obj).opcode ≠ opMethod := by
    intro ho
    obtain ⟨k1, k2, k3, mk⟩ := h.mths obj hl ho
    rw [mk.im, d2] at hdf; cases hdf
  refine ⟨hl, d1 _ (info_lt (tp.info obj hl)) hdf, ⟨hnM, ?_⟩, hp, ?_⟩
  · intro e
    have : (slot s.tree obj).infoIndex = methodInfoIdx := e
    rw [this, d2] at hdf; cases hdf
  · intro ho
    have hpl : live s.tree (C13.P s.tree obj) = true := by
      rcases (w.lP hl).lp with h0 | h0
      · exact absurd h0 hp
      · exact h0
    obtain ⟨k1, k2, k3, mk⟩ := h.mths _ hpl ho
    rcases mk.kids w hpl obj hl rfl with e | e | e
    · rw [e, mk.i1, d3] at hdf; cases hdf
    · rw [e, mk.i2, d4] at hdf; cases hdf
    · rw [e, mk.i3, d5] at hdf; cases hdf

/-- what the prefix hands to `parseDeferredBlocks` when it did not fail: everything the per-block theorem asks for, for every
attached object with a deferred row -/
structure Handover (d : Bytes) (s : PState) : Prop where
  tp : TP s
  mth : MInv s
  inv : Inv d s.r
  stack : s.scopeStack.size = 0
  bud : s.tree.pool.size + 16 * d.size + 16 ≤ INV

theorem Handover.block {d : Bytes} (hd : d.size + 268435456 ≤ 4294967296) {s : PState} (h : Handover d s) {obj : Nat}
    (hl : live s.tree obj = true) (hp : C13.P s.tree obj ≠ INV) (hdf : deferB (slot s.tree obj).infoIndex = true) (fuel : Nat) :
    Rs (16 * d.size + 15 ≤ fuel) (parseDeferred d fuel obj) s (fun res s2 => FP d s2 ∧
      (∀ x, live s.tree x = true → live s2.tree x = true ∧ C13.P s2.tree x = C13.P s.tree x) ∧
      (res = .ok → MS (fun _ => False) none s2.tree ∧ s2.scopeStack = s.scopeStack)) :=
  (parseDeferred_rs hd fuel obj (fp_of_tp h.tp h.inv h.stack)
    (fun x hx => by rw [Array.eq_empty_of_size_eq_zero h.stack] at hx; cases hx) (MInv.ms h.mth) (fun _ hg => False.elim hg)
    (MInv.block h.mth h.tp hl hp hdf) h.bud).mono id fun _ _ p => p.old

theorem prefix_handover {d : Bytes} (hd : d.size + 268435456 ≤ 4294967296) {s : PState} (ht : TreeG s.tree)
    (hsz : s.tree.pool.size + 32 * d.size + 16 ≤ INV) (fuel handle : Nat) (hroot : RootSB s) (hfn : FN s)
    (hh : ∀ x, live s.tree x = true → (slot s.tree x).opcode = opScope → (slot s.tree x).tableHandle ≠ handle)
    (hmth : MInv s ∧ CSA s) :
    NPs (parsePrefix d fuel handle) s (fun b s' => TP s' ∧ (b = true → MI d s' ∧ Handover d s')) := by
  refine (parsePrefix_np (jf := True) hd ht (by omega) fuel handle hroot hfn hh (fun _ => hmth)).mono ?_
  intro b s' ⟨tp, hq⟩
  refine ⟨tp, fun hb => ?_⟩
  obtain ⟨mij, hinv, hst, hpool⟩ := hq hb
  exact ⟨mij.toMI, tp, mij.mth trivial, hinv, hst, by omega⟩

theorem methodsOK_of_b {s : PState} (h : methodsOKB s.tree = true) : MInv s ∧ CSA s := by
  unfold methodsOKB at h
  simp only [Bool.and_eq_true, List.all_eq_true, List.mem_range, Bool.or_eq_true, Bool.not_eq_true', bne_iff_ne, ne_eq,
    beq_iff_eq] at h
  obtain ⟨⟨hm, hc⟩, hri⟩ := h
  have hcsa : CSA s := by
    intro x hl ho
    rcases hc x (live_lt hl) with (q | q) | q
    · rw [hl] at q; cases q
    · exact absurd ho q
    · obtain ⟨q1, q2⟩ := q
      refine ⟨q1, ?_⟩
      cases hv : (slot s.tree x).value with
      | bytes off len => exact ⟨off, len, rfl⟩
      | _ => rw [hv] at q2; cases q2
  refine ⟨⟨?_, fun x hl ho => (hcsa x hl ho).2, hri⟩, hcsa⟩
  intro m hl ho
  rcases hm m (live_lt hl) with (q | q) | q
  · rw [hl] at q; cases q
  · exact absurd ho q
  · unfold methodOKB at q
    simp only [Bool.and_eq_true, beq_iff_eq, bne_iff_ne, ne_eq] at q
    obtain ⟨⟨⟨⟨⟨⟨⟨⟨⟨⟨⟨⟨⟨⟨a1, a2⟩, a3⟩, a4⟩, a5⟩, a6⟩, a7⟩, a8⟩, a9⟩, a10⟩, a11⟩, a12⟩, a13⟩, a14⟩, a15⟩ := q
    refine ⟨Fi s.tree m, Nx s.tree (Fi s.tree m), Nx s.tree (Nx s.tree (Fi s.tree m)), rfl, rfl, rfl, a1, a2, a3, ?_, a5, a6, a7, a8, a9,
      a10, a11, a12, a13, a14, a15⟩
    cases hv : (slot s.tree (Nx s.tree (Fi s.tree m))).value with
    | u64 v => exact ⟨v, rfl⟩
    | _ => rw [hv] at a4; cases a4

/-- the walk `parseDeferredBlocks` from a state `s` in which no deferred block can be parsed successfully (in particular:
in which there is none): it changes nothing until it reaches the first block, and that block makes it fail -/
theorem walk_np {d : Bytes} (fuel : Nat) {s : PState} (tp : TP s) (hrootND : deferB (slot s.tree 0).infoIndex = false)
    (hB : ∀ obj, live s.tree obj = true → C13.P s.tree obj ≠ INV → deferB (slot s.tree obj).infoIndex = true →
      NPs (parseDeferred d fuel obj) s (fun res s2 => TP s2 ∧ res ≠ .ok)) :
    ∀ f,
      (∀ x, live s.tree x = true → (x = 0 ∨ C13.P s.tree x ≠ INV) →
        NPs (parseDeferredBlocks d fuel f x) s (fun res s' => TP s' ∧ (res = .ok → s' = s))) ∧
      (∀ a, (a = INV ∨ (live s.tree a = true ∧ C13.P s.tree a ≠ INV)) →
        NPs (deferredLoop d fuel f a) s (fun res s' => TP s' ∧ (res = .ok → s' = s))) := by
  have w := tp.wf
  intro f
  induction f with
  | zero =>
    constructor
    · intro x _ _; unfold parseDeferredBlocks; exact NPs.fuel
    · intro a _; unfold deferredLoop; exact NPs.fuel
  | succ f ih =>
    constructor
    · intro x hx hpx
      unfold parseDeferredBlocks
      refine NPs.derefObj hx ?_
      obtain ⟨fl, hfl⟩ := opFlags_of_info (tp.info x hx)
      rw [hfl]
      refine NPs.step (optP_ex fl s) ?_
      refine NPs.step (tableHandle_ex s) ?_
      refine NPs.ite (fun hc => ?_) fun _ => ?_
      · have hdf : deferB (slot s.tree x).infoIndex = true := by unfold deferB; rw [hfl]; exact hc.1
        rcases hpx with h0 | h0
        · rw [h0] at hdf; rw [hrootND] at hdf; cases hdf
        · refine (hB x hx h0 hdf).mono ?_
          intro res s2 ⟨t2, hne⟩
          exact ⟨t2, fun e => absurd e hne⟩
      · apply ih.2
        show Fi s.tree x = INV ∨ (live s.tree (Fi s.tree x) = true ∧ C13.P s.tree (Fi s.tree x) ≠ INV)
        by_cases hf : Fi s.tree x = INV
        · exact Or.inl hf
        · refine Or.inr ⟨?_, ?_⟩
          · rcases (w.lP hx).lfi with h1 | h1
            · exact absurd h1 hf
            · exact h1
          · rw [((w.lP hx).fi hf).1]; exact live_ne_INV w.size_le hx
    · intro a ha
      unfold deferredLoop
      by_cases h0 : a = invalidIndex
      · rw [if_pos h0]; exact NPs.pure ⟨tp, fun _ => rfl⟩
      · rw [if_neg h0]
        rcases ha with h1 | ⟨hal, hap⟩
        · exact absurd h1 h0
        · refine NPs.bind (ih.1 a hal (Or.inr hap)) ?_
          intro res s1 ⟨t1, hs1⟩
          by_cases hok : res = .ok
          · rw [if_neg (by rw [hok]; decide)]
            have := hs1 hok
            subst this
            refine NPs.deref hal (NPs.step (nextOf_live hal) ?_)
            apply ih.2
            by_cases hn : Nx s1.tree a = INV
            · exact Or.inl hn
            · refine Or.inr ⟨?_, ?_⟩
              · rcases (w.lP hal).lnx with h1 | h1
                · exact absurd h1 hn
                · exact h1
              · rw [((w.lP hal).nx hn).2]; exact hap
          · rw [if_pos hok]
            exact NPs.pure ⟨t1, fun e => by cases e⟩

/-- some deferred block of `s'` can be parsed successfully -/
def BlockSucceeds (d : Bytes) (fuel : Nat) (s' : PState) : Prop :=
  ∃ obj s2, live s'.tree obj = true ∧ C13.P s'.tree obj ≠ INV ∧ deferB (slot s'.tree obj).infoIndex = true ∧
    parseDeferred d fuel obj s' = .ok (.ok, s2)

theorem afterPrefix_np {d : Bytes} (hd : d.size + 268435456 ≤ 4294967296) (fuel : Nat) {s' : PState} (h : Handover d s')
    (hno : ¬ BlockSucceeds d fuel s') :
    NPs (afterPrefix d fuel true) s' (fun _ s2 => TP s2) := by
  have tp := h.tp
  have hJ := h.mth
  have hrootND : deferB (slot s'.tree 0).infoIndex = false := by rw [hJ.rootI]; exact deferred_rows.2.2.2.2
  have hB : ∀ obj, live s'.tree obj = true → C13.P s'.tree obj ≠ INV → deferB (slot s'.tree obj).infoIndex = true →
      NPs (parseDeferred d fuel obj) s' (fun res s2 => TP s2 ∧ res ≠ .ok) := by
    intro obj hl hp hdf
    have := (h.block hd hl hp hdf fuel).1
    refine ⟨this.1, fun res s2 e => ?_⟩
    obtain ⟨h2, _, _⟩ := this.2 res s2 e
    refine ⟨h2.tp, fun hok => hno ⟨obj, s2, hl, hp, hdf, by rw [← hok]; exact e⟩⟩
  unfold afterPrefix
  simp only [Bool.not_true, Bool.false_eq_true, ↓reduceIte]
  refine NPs.bind ((walk_np fuel tp hrootND hB fuel).1 0 tp.root (Or.inl rfl)) ?_
  intro res s1 ⟨t1, hs1⟩
  by_cases hok : res = .ok
  · rw [if_neg (by rw [hok]; decide)]
    have := hs1 hok
    subst this
    refine NPs.bind ((resolve_np d fuel).1 0 ⟨t1, hJ.cs⟩ t1.root) ?_
    intro r2 s2 ⟨⟨t2, _⟩, _⟩
    refine NPs.ite (fun _ => NPs.pure t2) fun _ => NPs.bind ((connectNonNamed_np fuel).1 0 t2 t2.root) ?_
    intro r3 s3 ⟨t3, _, _⟩
    exact NPs.ite (fun _ => NPs.pure t3) fun _ => NPs.pure t3
  · rw [if_pos hok]
    exact NPs.pure t1

theorem parseAML_np {d : Bytes} (hd : d.size + 268435456 ≤ 4294967296) {s : PState} (ht : TreeG s.tree)
    (hsz : s.tree.pool.size + 32 * d.size + 16 ≤ INV) (fuel handle : Nat) (hroot : RootSB s) (hfn : FN s)
    (hh : ∀ x, live s.tree x = true → (slot s.tree x).opcode = opScope → (slot s.tree x).tableHandle ≠ handle)
    (hmth : MInv s ∧ CSA s) :
    (∀ e, parseAML d fuel handle s = .error e → e = .outOfFuel ∨
      ∃ s', parsePrefix d fuel handle s = .ok (true, s') ∧ BlockSucceeds d fuel s') ∧
    (∀ b s2, parseAML d fuel handle s = .ok (b, s2) → TP s2 ∨
      ∃ s', parsePrefix d fuel handle s = .ok (true, s') ∧ BlockSucceeds d fuel s') := by
  by_cases hX : ∃ s', parsePrefix d fuel handle s = .ok (true, s') ∧ BlockSucceeds d fuel s'
  · exact ⟨fun _ _ => Or.inr hX, fun _ _ _ => Or.inr hX⟩
  have hpre := prefix_handover hd ht hsz fuel handle hroot hfn hh hmth
  have hrun : NPs (parseAML d fuel handle) s (fun _ s2 => TP s2) := by
    rw [parseAML_prefix]
    -- the run of the prefix is kept: it is what `hX` speaks of
    refine NPs.bind (Q := fun b s' => parsePrefix d fuel handle s = .ok (b, s') ∧ TP s' ∧ (b = true → _))
      ⟨hpre.1, fun b s' e => ⟨e, hpre.2 b s' e⟩⟩ ?_
    intro b s' ⟨e, tp, hq⟩
    cases b with
    | false => exact NPs.of_eq (a := false) rfl tp
    | true =>
      exact afterPrefix_np hd fuel (hq rfl).2 (fun hbs => hX ⟨s', e, hbs⟩)
  exact ⟨fun e he => Or.inl (hrun.1 e he), fun b s2 he => Or.inl (hrun.2 b s2 he)⟩

theorem blockSucceeds_iff (d : Bytes) (fuel : Nat) (s : PState) : blockSucceedsB d fuel s = true ↔ BlockSucceeds d fuel s := by
  unfold blockSucceedsB BlockSucceeds
  simp only [List.any_eq_true, List.mem_range, Bool.and_eq_true, bne_iff_ne, ne_eq]
  constructor
  · rintro ⟨obj, _, ⟨⟨hl, hp⟩, hdf⟩, hm⟩
    cases hr : parseDeferred d fuel obj s with
    | error e => rw [hr] at hm; cases hm
    | ok p =>
      obtain ⟨res, s2⟩ := p
      rw [hr] at hm
      cases res with
      | ok => exact ⟨obj, s2, hl, hp, hdf, hr⟩
      | failed => cases hm
      | shortCircuit => cases hm
      | requireExtraPass => cases hm
  · rintro ⟨obj, s2, hl, hp, hdf, hr⟩
    exact ⟨obj, live_lt hl, ⟨⟨hl, hp⟩, hdf⟩, by rw [hr]⟩

end Firefly.AmlParser.F
