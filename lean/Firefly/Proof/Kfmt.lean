import Firefly.Model.Kfmt
/-! The kfmt model computes what its specification says. `fmtInt` writes the digits least significant first,
then the padding and the sign, and reverses the scratch buffer (`placed` is its prefix just before that); the
scanner is compared with the parser of the specification state by state (`modeOf`). -/
namespace Firefly.Kfmt
open Firefly.Gen.C15

theorem take_set_succ (l : List Byte) (i : Nat) (v : Byte) (h : i < l.length) :
    (l.set i v).take (i+1) = l.take i ++ [v] := by
  rw [List.take_add_one, List.take_set_of_le (Nat.le_refl i), List.getElem?_set_self h]
  rfl

theorem take_set_le (l : List Byte) (i n : Nat) (v : Byte) (h : n ≤ i) :
    (l.set i v).take n = l.take n :=
  List.take_set_of_le h

theorem setB_ok (buf : List Byte) (i : Nat) (v : Byte) (h : i < buf.length) :
    setB buf i v = .ok (buf.set i v) := by
  simp [setB, h]

theorem getB_some (buf : List Byte) (i : Nat) (b : Byte) (h : buf[i]? = some b) : getB buf i = .ok b := by
  simp [getB, h]

theorem getB_lt (l : List Byte) (i : Nat) (h : i < l.length) : getB l i = .ok l[i] :=
  getB_some l i _ (List.getElem?_eq_getElem h)

theorem digitsLE_length (d : Nat) : ∀ (f u : Nat), (digitsLE d f u).length ≤ f + 1
  | 0, u => by simp [digitsLE]
  | f+1, u => by
    simp only [digitsLE]
    split
    · simp
    · have := digitsLE_length d f (u / d)
      simp; omega

theorem digitsLE_ne_nil (d f u : Nat) : digitsLE d f u ≠ [] := by
  cases f <;> simp [digitsLE]

theorem mem_digitsLE {d : Nat} (hd : 0 < d) : ∀ (f u : Nat) (c : Byte), c ∈ digitsLE d f u →
    ∃ r, r < d ∧ c = digitCh r
  | 0, u, c, h => ⟨u % d, Nat.mod_lt u hd, by simpa [digitsLE] using h⟩
  | f+1, u, c, h => by
    rcases List.mem_cons.1 h with h | h
    · exact ⟨u % d, Nat.mod_lt u hd, h⟩
    · split at h
      · cases h
      · exact mem_digitsLE hd f _ c h

theorem digitsLE_stop {d u : Nat} (f : Nat) (h : u < d) : digitsLE d f u = [digitCh u] := by
  cases f <;> simp [digitsLE, Nat.mod_eq_of_lt h, Nat.div_eq_of_lt h]

theorem digitsLE_step {d u : Nat} (f : Nat) (h : d ≤ u) (hd : 0 < d) :
    digitsLE d (f + 1) u = digitCh (u % d) :: digitsLE d f (u / d) := by
  rw [digitsLE, if_neg (Nat.ne_of_gt (Nat.div_pos h hd))]

theorem div_lt_pow {d u k : Nat} (h : u < d ^ (k + 2)) : u / d < d ^ (k + 1) :=
  Nat.div_lt_of_lt_mul (by rwa [Nat.pow_succ, Nat.mul_comm] at h)

/-- Induction along `digitsLE` with enough fuel: `u` is a single digit, or one digit is split off. -/
theorem digitsLE_induct {d : Nat} (hd : 0 < d) {P : Nat → Nat → Prop}
    (stop : ∀ f u, u < d → P f u)
    (step : ∀ f u, d ≤ u → u / d < d ^ (f + 1) → P f (u / d) → P (f + 1) u) :
    ∀ f u, u < d ^ (f + 1) → P f u
  | 0, u, h => stop 0 u (by simpa using h)
  | f + 1, u, h => by
    by_cases hu : u < d
    · exact stop _ u hu
    · exact step f u (Nat.le_of_not_lt hu) (div_lt_pow h)
        (digitsLE_induct hd stop step f _ (div_lt_pow h))

theorem digitsLE_fuel {d : Nat} (hd : 0 < d) : ∀ f u, u < d ^ (f + 1) → ∀ f', u < d ^ (f' + 1) →
    digitsLE d f u = digitsLE d f' u := by
  refine digitsLE_induct hd (fun f u h f' _ => by rw [digitsLE_stop f h, digitsLE_stop f' h]) ?_
  intro f u hu _ ih f' hf'
  cases f' with
  | zero => rw [Nat.zero_add, Nat.pow_one] at hf'; omega
  | succ f' => rw [digitsLE_step f hu hd, digitsLE_step f' hu hd, ih f' (div_lt_pow hf')]

theorem lt_pow_succ {d : Nat} (hd : 1 < d) (n : Nat) : n < d ^ (n + 1) :=
  Nat.lt_of_lt_of_le (Nat.lt_pow_self hd) (Nat.pow_le_pow_right (by omega) (by omega))

theorem digitsOf_eq (d : Nat) (hd : 1 < d) (f u : Nat) (h : u < d^(f+1)) :
    digitsOf d u = (digitsLE d f u).reverse := by
  unfold digitsOf
  rw [digitsLE_fuel (by omega) u u (lt_pow_succ hd u) f h]

theorem digitLoop_spec {d : Nat} (hd : 0 < d) : ∀ (k u : Nat), u < d^(k+1) →
    ∀ (fuel : Nat) (buf : List Byte) (right : Nat),
    k + 1 ≤ fuel → right + k + 1 ≤ maxBufSize → maxBufSize ≤ buf.length →
    ∃ buf', digitLoop d fuel buf right u = .ok (buf', right + (digitsLE d k u).length) ∧
      buf'.length = buf.length ∧
      buf'.take (right + (digitsLE d k u).length) = buf.take right ++ digitsLE d k u := by
  refine digitsLE_induct hd ?_ ?_
  · intro k u hu fuel buf right hf hr hb
    obtain ⟨fuel, rfl⟩ : ∃ f, fuel = f + 1 := ⟨fuel - 1, by omega⟩
    have hlt : right < maxBufSize := by omega
    have hlt' : right < buf.length := by omega
    rw [digitsLE_stop k hu]
    refine ⟨buf.set right (digitCh u), ?_, by simp, take_set_succ _ _ _ hlt'⟩
    simp [digitLoop, hlt, setB_ok _ _ _ hlt', Nat.mod_eq_of_lt hu, Nat.div_eq_of_lt hu]
  · intro k u hu _ ih fuel buf right hf hr hb
    obtain ⟨fuel, rfl⟩ : ∃ f, fuel = f + 1 := ⟨fuel - 1, by omega⟩
    have hlt : right < maxBufSize := by omega
    have hlt' : right < buf.length := by omega
    obtain ⟨buf', h1, h2, h3⟩ := ih fuel (buf.set right (digitCh (u % d))) (right+1)
      (by omega) (by omega) (by simpa using hb)
    have e : right + (digitsLE d k (u / d)).length + 1 = right + 1 + (digitsLE d k (u / d)).length := by omega
    rw [digitsLE_step k hu hd, List.length_cons, ← Nat.add_assoc, e]
    refine ⟨buf', ?_, by simpa using h2, ?_⟩
    · simp only [digitLoop, if_pos hlt, setB_ok _ _ _ hlt', if_neg (Nat.ne_of_gt (Nat.div_pos hu hd)), h1]
    · rw [h3, take_set_succ _ _ _ hlt', List.append_assoc]
      rfl

theorem padLoop_spec (c : Byte) : ∀ (n : Nat) (buf : List Byte) (right : Nat), right + n ≤ buf.length →
    ∃ buf', padLoop c n buf right = .ok (buf', right + n) ∧ buf'.length = buf.length ∧
      buf'.take (right + n) = buf.take right ++ List.replicate n c
  | 0, buf, right, _ => ⟨buf, by simp [padLoop]⟩
  | n+1, buf, right, h => by
    have hlt : right < buf.length := by omega
    obtain ⟨buf', h1, h2, h3⟩ := padLoop_spec c n (buf.set right c) (right+1) (by simp; omega)
    refine ⟨buf', ?_, by simpa using h2, ?_⟩
    · simp only [padLoop, setB_ok _ _ _ hlt, h1]
      simp; omega
    · have : right + (n + 1) = right + 1 + n := by omega
      rw [this, h3, take_set_succ _ _ _ hlt, List.replicate_succ]
      simp

theorem scanBlank_eq {buf : List Byte} {e : Nat} {x : Byte} (he : buf[e]? = some x) (hx : x ≠ 32) :
    ∀ i, e ≤ i → (∀ j, e < j → j ≤ i → buf[j]? = some 32) → scanBlank buf i = .ok e
  | 0, h, _ => by
    obtain rfl : e = 0 := by omega
    simp [scanBlank, getB_some _ _ _ he, hx]
  | i + 1, h, hb => by
    by_cases hei : e = i + 1
    · subst hei; simp [scanBlank, getB_some _ _ _ he, hx]
    · simp [scanBlank, getB_some _ _ _ (hb (i + 1) (by omega) (Nat.le_refl _)),
        scanBlank_eq he hx i (by omega) fun j h1 h2 => hb j h1 (by omega)]

theorem getB_append {pre post : List Byte} {a : Byte} {i : Nat} (h : i = pre.length) :
    getB (pre ++ a :: post) i = .ok a :=
  getB_some _ _ _ (by simp [h])

theorem setB_append {pre post : List Byte} {a : Byte} {i : Nat} (h : i = pre.length) (b : Byte) :
    setB (pre ++ a :: post) i b = .ok (pre ++ b :: post) := by
  subst h
  rw [setB_ok _ _ _ (by simp), List.set_append_right _ _ (Nat.le_refl _), Nat.sub_self]
  rfl

theorem revLoop_swap (fuel : Nat) (pre m post : List Byte) (a b : Byte) :
    revLoop (fuel + 1) (pre ++ a :: (m ++ b :: post)) pre.length (pre.length + m.length + 1)
      = revLoop fuel (pre ++ b :: (m ++ a :: post)) (pre.length + 1) (pre.length + m.length) := by
  have hr : ∀ x : Byte, pre.length + m.length + 1 = (pre ++ x :: m).length := by simp; omega
  have e2 : ∀ x y : Byte, pre ++ x :: (m ++ y :: post) = (pre ++ x :: m) ++ y :: post := by simp
  rw [revLoop, if_pos (by omega), getB_append rfl, e2, getB_append (hr a), ← e2]
  simp only []
  rw [setB_append rfl]
  simp only []
  rw [e2, setB_append (hr b), ← e2]
  rfl

theorem revLoop_seg : ∀ (fuel : Nat) (pre mid post : List Byte), mid.length ≤ fuel + 1 →
    revLoop fuel (pre ++ mid ++ post) pre.length (pre.length + mid.length - 1)
      = .ok (pre ++ mid.reverse ++ post)
  | 0, pre, mid, post, h => by
    match mid, h with
    | [], _ => rfl
    | [a], _ => rfl
  | fuel+1, pre, mid, post, h => by
    match mid, h with
    | [], _ => rw [revLoop, if_neg (by simp)]; simp
    | [a], _ => rw [revLoop, if_neg (by simp)]; simp
    | a :: c :: t, h =>
      obtain ⟨m, b, hm⟩ : ∃ m b, c :: t = m ++ [b] :=
        ⟨_, _, (List.dropLast_concat_getLast (List.cons_ne_nil c t)).symm⟩
      rw [hm] at h ⊢
      have e : pre ++ a :: (m ++ [b]) ++ post = pre ++ a :: (m ++ b :: post) := by simp
      have er : pre.length + (a :: (m ++ [b])).length - 1 = pre.length + m.length + 1 := by simp; omega
      have := revLoop_seg fuel (pre ++ [b]) m (a :: post) (by simp at h; omega)
      have e3 : (pre ++ [b]).length + m.length - 1 = pre.length + m.length := by simp
      rw [e3] at this
      rw [e, er, revLoop_swap]
      simpa using this

theorem revLoop_take (buf : List Byte) (n : Nat) (hn : n ≤ buf.length) :
    ∃ buf', revLoop (n + 1) buf 0 (n - 1) = .ok buf' ∧ buf'.length = buf.length ∧
      buf'.take n = (buf.take n).reverse := by
  have := revLoop_seg (n + 1) [] (buf.take n) (buf.drop n) (by simp; omega)
  simp only [List.nil_append, List.take_append_drop, List.length_nil, Nat.zero_add, List.length_take,
    Nat.min_eq_left hn] at this
  refine ⟨_, this, by simp; omega, ?_⟩
  rw [List.take_left' (by simp; omega)]

theorem digitCh_ne_blank : ∀ r, r < 16 → digitCh r ≠ 32 := by decide

theorem digitsLE_ne_blank {d : Nat} (hd0 : 0 < d) (hd : d ≤ 16) (f u : Nat) : ∀ c ∈ digitsLE d f u, c ≠ 32 := by
  intro c hc
  obtain ⟨r, hr, rfl⟩ := mem_digitsLE hd0 f u c hc
  exact digitCh_ne_blank r (by omega)

theorem base_pow (b : Base) : 2^64 ≤ b.divider^22 := by
  cases b <;> decide

theorem base_bounds (b : Base) : 1 < b.divider ∧ b.divider ≤ 16 := by
  cases b <;> decide

theorem scan_blank (buf ds : List Byte) (n : Nat) (hne : ds ≠ []) (hnb : ∀ x ∈ ds, x ≠ 32)
    (ht : buf.take (ds.length + n) = ds ++ List.replicate n 32) :
    scanBlank buf (ds.length + n - 1) = .ok (ds.length - 1) := by
  have hg : ∀ j, j < ds.length + n → buf[j]? = (ds ++ List.replicate n 32)[j]? := fun j hj => by
    rw [← ht, List.getElem?_take_of_lt hj]
  have hlast : ds.length - 1 < ds.length := Nat.sub_lt (List.length_pos_iff.2 hne) Nat.one_pos
  refine scanBlank_eq (x := ds[ds.length - 1]) ?_ (hnb _ (List.getElem_mem hlast)) _
    (Nat.sub_le_sub_right (Nat.le_add_right ..) 1) fun j h1 h2 => ?_
  · rw [hg _ (Nat.lt_add_right n hlast), List.getElem?_append_left hlast, List.getElem?_eq_getElem]
  · have hj : ds.length ≤ j := by omega
    rw [hg _ (by omega), List.getElem?_append_right hj, List.getElem?_replicate, if_pos (by omega)]

/-- the scratch buffer's prefix just before it is reversed: digits (least significant first),
padding, and the sign — next to the digits when the padding is blank, behind the padding otherwise -/
def placed (pc : Byte) (neg : Bool) (ds : List Byte) (n : Nat) : List Byte :=
  if neg then
    if pc = 32 then ds ++ 45 :: List.replicate (n - 1) 32 else ds ++ List.replicate n pc ++ [45]
  else ds ++ List.replicate n pc

theorem length_placed (pc : Byte) (neg : Bool) (ds : List Byte) (n : Nat) :
    ds.length + n ≤ (placed pc neg ds n).length ∧ (placed pc neg ds n).length ≤ ds.length + n + 1 := by
  unfold placed
  split
  · split <;> simp only [List.length_append, List.length_cons, List.length_replicate, List.length_nil] <;> omega
  · simp only [List.length_append, List.length_replicate]; omega

theorem renderInt_eq_reverse (b : Base) (w : Nat) (neg : Bool) (u : Nat) (ds : List Byte)
    (h : digitsOf b.divider u = ds.reverse) :
    renderInt b w neg u = (placed b.padCh neg ds (min w (maxBufSize - 1) - ds.length)).reverse := by
  have e : ∀ k, k - (ds.length + 1) = k - ds.length - 1 := fun k => Nat.sub_add_eq ..
  cases b <;> simp only [Base.divider] at h <;> cases neg <;>
    simp [renderInt, leftPad, placed, Base.padCh, Base.divider, h, e]

theorem sign_spec (buf ds : List Byte) (n : Nat) (pc : Byte) (hne : ds ≠ []) (hnb : ∀ x ∈ ds, x ≠ 32)
    (ht : buf.take (ds.length + n) = ds ++ List.replicate n pc) (hl : ds.length + n < buf.length) :
    ∃ e, scanBlank buf (ds.length + n - 1) = .ok e ∧ e + 1 < buf.length ∧
      (buf.set (e + 1) 45).take (if e = ds.length + n - 1 then ds.length + n + 1 else ds.length + n)
        = placed pc true ds n := by
  have hpos : 0 < ds.length := List.length_pos_iff.2 hne
  by_cases hc : pc = 32
  · subst hc
    refine ⟨ds.length - 1, scan_blank buf ds n hne hnb ht, by omega, ?_⟩
    have e : ds.length - 1 + 1 = ds.length := by omega
    rw [e]
    cases n with
    | zero => rw [Nat.add_zero] at hl ht ⊢; rw [if_pos rfl, take_set_succ _ _ _ hl, ht]; simp [placed]
    | succ m =>
      rw [if_neg (by omega), List.take_set, ht, List.set_append]
      simp [placed, List.replicate_succ]
  · have hx : ∀ x ∈ ds ++ List.replicate n pc, x ≠ 32 := fun x hm =>
      (List.mem_append.1 hm).elim (hnb x) fun hm => (List.mem_replicate.1 hm).2 ▸ hc
    have h1 := scan_blank buf _ 0 (by simp [hne]) hx (by simpa using ht)
    simp only [List.length_append, List.length_replicate, Nat.add_zero] at h1
    refine ⟨_, h1, by omega, ?_⟩
    have e : ds.length + n - 1 + 1 = ds.length + n := by omega
    rw [if_pos rfl, e, take_set_succ _ _ _ hl, ht]
    simp [placed, hc]

theorem clampPad_sub (pad : Int) (k : Nat) :
    (clampPad pad - k).toNat = min pad.toNat (maxBufSize - 1) - k := by
  have hmax : maxBufSize = 32 := rfl
  unfold clampPad
  rw [hmax]
  split <;> omega

theorem fmtIntCore_spec (buf : List Byte) (neg : Bool) (u : Nat) (b : Base) (pad : Int)
    (hb : buf.length = numFmtBufLen) (hu : u < 2^64) :
    ∃ buf', fmtIntCore buf neg u b pad = .ok (buf', renderInt b pad.toNat neg u) ∧
      buf'.length = buf.length := by
  have hmax : maxBufSize = 32 := rfl
  have hb : buf.length = 33 := hb
  have hcap : numFmtBufCap = 33 := rfl
  obtain ⟨hd1, hd16⟩ := base_bounds b
  have hpow : u < b.divider^(21+1) := Nat.lt_of_lt_of_le hu (base_pow b)
  rw [renderInt_eq_reverse b _ neg u _ (digitsOf_eq _ hd1 21 u hpow)]
  obtain ⟨buf1, e1, l1, t1⟩ := digitLoop_spec (show 0 < b.divider by omega) 21 u hpow
    (maxBufSize+1) buf 0 (by omega) (by omega) (by omega)
  have hdl := digitsLE_length b.divider 21 u
  have hdne := digitsLE_ne_nil b.divider 21 u
  have hdnb := digitsLE_ne_blank (show 0 < b.divider by omega) hd16 21 u
  generalize digitsLE b.divider 21 u = ds at e1 t1 hdl hdne hdnb ⊢
  simp only [Nat.zero_add, List.take_zero, List.nil_append] at e1 t1
  unfold fmtIntCore
  simp only [e1, clampPad_sub]
  have hn : ds.length + (min pad.toNat (maxBufSize - 1) - ds.length) < 32 := by omega
  generalize min pad.toNat (maxBufSize - 1) - ds.length = n at hn ⊢
  obtain ⟨buf2, e2, l2, t2⟩ := padLoop_spec b.padCh n buf1 ds.length (by omega)
  rw [t1] at t2
  simp only [e2]
  cases neg with
  | false =>
    obtain ⟨buf', e3, l3, t3⟩ := revLoop_take buf2 (ds.length + n) (by omega)
    have hle : ds.length + n ≤ numFmtBufCap := by omega
    exact ⟨buf', by simp only [Bool.false_eq_true, if_false, e3, if_pos hle, t3, t2, placed], by omega⟩
  | true =>
    obtain ⟨e, s1, s2, s3⟩ := sign_spec buf2 ds n b.padCh hdne hdnb t2 (by omega)
    have h0 : ds.length + n ≠ 0 := by have := List.length_pos_iff.2 hdne; omega
    simp only [if_true, if_neg h0, s1, setB_ok _ _ _ s2]
    have hr : (if e = ds.length + n - 1 then ds.length + n + 1 else ds.length + n) ≤ 33 := by
      split <;> omega
    generalize (if e = ds.length + n - 1 then ds.length + n + 1 else ds.length + n) = r at s3 hr ⊢
    obtain ⟨buf', e3, l3, t3⟩ := revLoop_take (buf2.set (e + 1) 45) r (by simp only [List.length_set]; omega)
    have hle : r ≤ numFmtBufCap := by omega
    refine ⟨buf', ?_, by simp only [List.length_set] at l3; omega⟩
    simp only [e3, if_pos hle, t3, s3]

/-- Go `int` arithmetic is exact as long as the result fits -/
theorem wrap64_of_range {x : Int} (h1 : -2^63 ≤ x) (h2 : x < 2^63) : wrap64 x = x := by
  unfold wrap64; omega

/-- `MinInt64` included: `-s` wraps to itself there, and `uint64` of it is `2^63` -/
theorem negMag_of_range {s : Int} (h1 : -2^63 ≤ s) (h2 : s < 0) : negMag s = s.natAbs := by
  unfold negMag wrap64; omega

theorem strPadCount_of_lt {w n : Nat} (hw : w < 2^63) (hn : n < 2^63) :
    (strPadCount (w : Int) n).toNat = w - n := by
  unfold strPadCount
  rw [wrap64_of_range (by omega) (by omega)]
  omega

theorem accumWidth_of_lt {w : Nat} {c : Byte} (h : w * 10 + (c.toNat - 48) < 2^63) :
    accumWidth (w : Int) c = ((w * 10 + (c.toNat - 48) : Nat) : Int) := by
  unfold accumWidth
  rw [wrap64_of_range (x := (w : Int) * 10) (by omega) (by omega), wrap64_of_range (by omega) (by omega)]
  omega

theorem classify_lt (a : Arg) (neg : Bool) (u : Nat) (h : classify a = some (neg, u)) : u < 2^64 := by
  cases a with
  | uns k v =>
    simp only [classify, Option.some.injEq, Prod.mk.injEq] at h
    have := Nat.mod_lt v (show 0 < 2^64 by decide)
    omega
  | sgn k v =>
    simp only [classify] at h
    split at h
    · simp only [Option.some.injEq, Prod.mk.injEq] at h
      rw [← h.2]
      unfold negMag wrap64
      omega
    · simp only [Option.some.injEq, Prod.mk.injEq] at h
      rw [← h.2]
      unfold wrap64
      omega
  | _ => simp [classify] at h

theorem sbits_le (k : SKind) : (2 : Int) ^ (k.bits - 1) ≤ 2^63 := by
  cases k <;> decide

theorem ubits_le (k : UKind) : 2 ^ k.bits ≤ 2^64 := by
  cases k <;> decide

theorem classify_uns (k : UKind) (v : Nat) (h : (Arg.uns k v).inRange = true) :
    classify (.uns k v) = some (false, v) := by
  simp only [Arg.inRange, decide_eq_true_eq] at h
  have := ubits_le k
  simp only [classify]
  rw [Nat.mod_eq_of_lt (by omega)]

theorem classify_sgn (k : SKind) (v : Int) (h : (Arg.sgn k v).inRange = true) :
    classify (.sgn k v) = some (decide (v < 0), v.natAbs) := by
  simp only [Arg.inRange, Bool.and_eq_true, decide_eq_true_eq] at h
  have := sbits_le k
  simp only [classify, wrap64_of_range (x := v) (by omega) (by omega)]
  by_cases hv : v < 0
  · simp only [hv, if_true, decide_true, negMag_of_range (s := v) (by omega) hv]
  · simp only [hv, if_false, decide_false]
    congr 2
    omega

/-- the chunk `fmtInt` writes: the type switch, then `renderInt` of sign and magnitude -/
def intOut (b : Base) (w : Nat) (a : Arg) : List Byte :=
  match classify a with
  | none => errWrongArgType
  | some (neg, u) => renderInt b w neg u

theorem fmtInt_spec (buf : List Byte) (a : Arg) (b : Base) (pad : Int) (hb : buf.length = numFmtBufLen) :
    ∃ buf', fmtInt buf a b pad = .ok (buf', intOut b pad.toNat a) ∧ buf'.length = numFmtBufLen := by
  unfold fmtInt intOut
  cases hc : classify a with
  | none => exact ⟨buf, rfl, hb⟩
  | some p =>
    obtain ⟨buf', e, l⟩ := fmtIntCore_spec buf p.1 p.2 b pad hb (classify_lt a p.1 p.2 hc)
    exact ⟨buf', e, l.trans hb⟩

theorem fmtInt_total (buf : List Byte) (a : Arg) (b : Base) (pad : Int) (hb : buf.length = numFmtBufLen) :
    ∃ buf' out, fmtInt buf a b pad = .ok (buf', out) ∧ buf'.length = numFmtBufLen :=
  let ⟨buf', h⟩ := fmtInt_spec buf a b pad hb
  ⟨buf', _, h⟩

/-- for a value its Go type can hold, the type switch yields sign and magnitude of the value itself -/
theorem intOut_inRange (a : Arg) (b : Base) (w : Nat) (hr : a.inRange = true) :
    intOut b w a = renderIntArg b w a := by
  unfold intOut
  cases a with
  | uns k v => rw [classify_uns k v hr]; rfl
  | sgn k v => rw [classify_sgn k v hr]; rfl
  | _ => rfl

theorem fmtInt_exact (buf : List Byte) (a : Arg) (b : Base) (pad : Int) (hb : buf.length = numFmtBufLen)
    (hr : a.inRange = true) :
    ∃ buf', fmtInt buf a b pad = .ok (buf', renderIntArg b pad.toNat a) ∧ buf'.length = numFmtBufLen :=
  intOut_inRange a b pad.toNat hr ▸ fmtInt_spec buf a b pad hb

/-- the chunks a verb character writes for an argument; the scratch buffer does not enter -/
def verbOut (c : Byte) (a : Arg) (pad : Int) : List (List Byte) :=
  if c = 111 then [intOut .b8 pad.toNat a] else if c = 100 then [intOut .b10 pad.toNat a]
  else if c = 120 then [intOut .b16 pad.toNat a] else if c = 115 then fmtString a pad else fmtBool a

theorem fmtVerb_spec (buf : List Byte) (c : Byte) (a : Arg) (pad : Int) (hb : buf.length = numFmtBufLen) :
    ∃ buf', fmtVerb buf c a pad = .ok (buf', verbOut c a pad) ∧ buf'.length = numFmtBufLen := by
  have int : ∀ b, ∃ buf', (fmtInt buf a b pad).bind (fun (b, w) => .ok (b, [w])) = .ok (buf', [intOut b pad.toNat a]) ∧
      buf'.length = numFmtBufLen := fun b => by
    obtain ⟨buf', e, l⟩ := fmtInt_spec buf a b pad hb
    exact ⟨buf', by rw [e]; rfl, l⟩
  unfold fmtVerb verbOut
  by_cases h1 : c = 111
  · simp only [if_pos h1]; exact int _
  by_cases h2 : c = 100
  · simp only [if_neg h1, if_pos h2]; exact int _
  by_cases h3 : c = 120
  · simp only [if_neg h1, if_neg h2, if_pos h3]; exact int _
  simp only [if_neg h1, if_neg h2, if_neg h3]
  split <;> exact ⟨buf, rfl, hb⟩

/-- everything `Fprintf` writes, as a function of format and arguments alone: `scan` with the scratch
buffer and the possibility of a panic taken out (`scan_eq`) -/
def scanOut : Option Int → List Byte → List Arg → List (List Byte)
  | _, [], args => args.map fun _ => errExtraArg
  | none, c :: rest, args => if c = 37 then scanOut (some 0) rest args else [c] :: scanOut none rest args
  | some pad, c :: rest, args =>
    if c = 37 then [37] :: scanOut none rest args
    else if 48 ≤ c ∧ c ≤ 57 then scanOut (some (accumWidth pad c)) rest args
    else if isVerb c then
      match args with
      | [] => errMissingArg :: scanOut none rest []
      | a :: args => verbOut c a pad ++ scanOut none rest args
    else errNoVerb :: scanOut (some pad) rest args

/-- no format, argument list or scratch-buffer content makes `Fprintf` panic, and the buffer content
never shows in the output -/
theorem scan_eq : ∀ (fmt : List Byte) (mode : Option Int) (args : List Arg) (buf : List Byte),
    buf.length = numFmtBufLen → scan mode fmt args buf = .ok (scanOut mode fmt args)
  | [], mode, args, buf, _ => by cases mode <;> rfl
  | c :: rest, none, args, buf, hb => by
    simp only [scan, scanOut]
    split
    · exact scan_eq rest _ args buf hb
    · rw [scan_eq rest none args buf hb]; rfl
  | c :: rest, some pad, args, buf, hb => by
    simp only [scan, scanOut]
    split
    · rw [scan_eq rest none args buf hb]; rfl
    split
    · exact scan_eq rest _ args buf hb
    split
    · cases args with
      | nil => rw [scan_eq rest none [] buf hb]; rfl
      | cons a args =>
        obtain ⟨buf', e, l⟩ := fmtVerb_spec buf c a pad hb
        simp only [e, scan_eq rest none args buf' l]; rfl
    · rw [scan_eq rest (some pad) args buf hb]; rfl

/-- scanner state of the model that corresponds to a parser state -/
def modeOf : PMode → Option Int
  | .text => none
  | .pct => some 0
  | .width w => some w

theorem modeOf_ne_text (m : PMode) (h : m ≠ .text) : modeOf m = some (m.w : Int) := by
  cases m <;> simp [modeOf, PMode.w] at h ⊢

theorem flatten_replicate_single (n : Nat) (c : Byte) :
    (List.replicate n [c]).flatten = List.replicate n c :=
  List.flatten_replicate_singleton

theorem flatten_map_single (s : List Byte) : (s.map fun c => [c]).flatten = s := by
  rw [← List.flatMap_def, List.flatMap_singleton']

theorem fmtString_exact (a : Arg) (w : Nat) (hw : w < 2^63) (hr : a.inRange = true) :
    (fmtString a (w : Int)).flatten = render .s w a := by
  cases a with
  | str s =>
    simp only [Arg.inRange, decide_eq_true_eq] at hr
    simp [fmtString, fmtRepeat, render, leftPad, strPadCount_of_lt hw hr, flatten_map_single]
  | bytes s =>
    simp only [Arg.inRange, decide_eq_true_eq] at hr
    simp [fmtString, fmtRepeat, render, leftPad, strPadCount_of_lt hw hr]
  | _ => simp [fmtString, render]

theorem fmtBool_exact (a : Arg) (w : Nat) : (fmtBool a).flatten = render .t w a := by
  cases a with
  | bool b => cases b <;> simp [fmtBool, render]
  | _ => simp [fmtBool, render]

def Verb.toByte : Verb → Byte
  | .d => 100 | .x => 120 | .o => 111 | .s => 115 | .t => 116

theorem Verb.ofByte_eq_some {c : Byte} {v : Verb} (h : Verb.ofByte c = some v) : c = v.toByte := by
  unfold Verb.ofByte at h
  split at h
  · cases h; assumption
  split at h
  · cases h; assumption
  split at h
  · cases h; assumption
  split at h
  · cases h; assumption
  split at h
  · cases h; assumption
  · cases h

theorem verbOut_exact (c : Byte) (a : Arg) (w : Nat) (v : Verb) (hv : Verb.ofByte c = some v) (hw : w < 2^63)
    (hr : a.inRange = true) : (verbOut c a (w : Int)).flatten = render v w a := by
  have int : ∀ b, [intOut b (w : Int).toNat a].flatten = renderIntArg b w a := fun b => by
    rw [intOut_inRange a b _ hr]; simp
  rw [Verb.ofByte_eq_some hv]
  cases v
  case d => exact int _
  case x => exact int _
  case o => exact int _
  case s => exact fmtString_exact a w hw hr
  case t => exact fmtBool_exact a w

theorem ofByte_isVerb (c : Byte) (v : Verb) (h : Verb.ofByte c = some v) : isVerb c = true := by
  rw [Verb.ofByte_eq_some h]
  cases v <;> rfl

/-- on a format of the supported grammar the output is the specification's, piece by piece -/
theorem scanOut_exact : ∀ (fmt : List Byte) (m : PMode) (args : List Arg) (pieces : List Piece),
    (∀ a ∈ args, a.inRange = true) → m.w < 2^63 → parse m fmt = some pieces →
    (scanOut (modeOf m) fmt args).flatten = specOutput pieces args
  | [], m, args, pieces, hr, hw, hp => by
    simp only [parse] at hp
    split at hp
    · cases hp
      cases h : modeOf m <;> rfl
    · cases hp
  | c :: rest, m, args, pieces, hr, hw, hp => by
    -- every branch but the width digits continues in text mode
    have text : ∀ (args : List Arg) ps, (∀ a ∈ args, a.inRange = true) → parse .text rest = some ps →
        (scanOut none rest args).flatten = specOutput ps args :=
      fun args ps hr hps => scanOut_exact rest .text args ps hr (by decide) hps
    simp only [parse] at hp
    by_cases hm : m = .text
    · subst hm
      simp only [if_true, modeOf, scanOut] at hp ⊢
      by_cases hc : c = 37
      · simp only [hc, if_true] at hp ⊢
        exact scanOut_exact rest .pct args pieces hr (by decide) hp
      · simp only [hc, if_false, Option.map_eq_some_iff] at hp ⊢
        obtain ⟨ps, hps, rfl⟩ := hp
        simp [specOutput, text args ps hr hps]
    · simp only [hm, if_false] at hp
      rw [modeOf_ne_text m hm]
      simp only [scanOut]
      by_cases hc : c = 37
      · simp only [hc, if_true] at hp ⊢
        split at hp
        · simp only [Option.map_eq_some_iff] at hp
          obtain ⟨ps, hps, rfl⟩ := hp
          simp [specOutput, text args ps hr hps]
        · cases hp
      · simp only [hc, if_false] at hp ⊢
        by_cases hd : 48 ≤ c ∧ c ≤ 57
        · simp only [hd, and_self, if_true] at hp ⊢
          split at hp
          · rename_i hlt
            rw [accumWidth_of_lt hlt]
            exact scanOut_exact rest (.width (m.w * 10 + (c.toNat - 48))) args pieces hr hlt hp
          · cases hp
        · simp only [hd, if_false] at hp ⊢
          cases hv : Verb.ofByte c with
          | none => simp [hv] at hp
          | some v =>
            simp only [hv, Option.map_eq_some_iff] at hp
            obtain ⟨ps, hps, rfl⟩ := hp
            simp only [ofByte_isVerb c v hv, if_true]
            cases args with
            | nil => simp [specOutput, text [] ps hr hps]
            | cons a args =>
              simp [specOutput, text args ps (fun a ha => hr a (by simp [ha])) hps,
                verbOut_exact c a m.w v hv hw (hr a (by simp))]

def digitVal (c : Byte) : Nat := if c.toNat < 58 then c.toNat - 48 else c.toNat - 87

theorem digitVal_digitCh : ∀ r, r < 16 → digitVal (digitCh r) = r := by decide

/-- a digit character: `'0'..'9'` or `'a'..'f'` -/
def isDigitCh (c : Byte) : Bool := (48 ≤ c && c ≤ 57) || (97 ≤ c && c ≤ 102)

theorem isDigitCh_digitCh : ∀ r, r < 16 → isDigitCh (digitCh r) = true := by decide

theorem ofDigits_eq_foldr (d : Nat) (L : List Byte) :
    ofDigits d L.reverse = L.foldr (fun c acc => acc * d + digitVal c) 0 := by
  unfold ofDigits
  rw [List.foldl_reverse]
  rfl

theorem foldr_digitsLE {d : Nat} (hd0 : 0 < d) (hd : d ≤ 16) : ∀ (f u : Nat), u < d^(f+1) →
    (digitsLE d f u).foldr (fun c acc => acc * d + digitVal c) 0 = u := by
  refine digitsLE_induct hd0 ?_ ?_
  · intro f u h
    rw [digitsLE_stop f h]
    simp [digitVal_digitCh u (by omega)]
  · intro f u hu _ ih
    rw [digitsLE_step f hu hd0, List.foldr_cons, ih,
      digitVal_digitCh _ (by have := Nat.mod_lt u hd0; omega), Nat.mul_comm]
    exact Nat.div_add_mod u d

theorem digitsLE_valid {d : Nat} (hd0 : 0 < d) (hd : d ≤ 16) (f u : Nat) : ∀ c ∈ digitsLE d f u,
    isDigitCh c = true ∧ digitVal c < d := by
  intro c hc
  obtain ⟨r, hr, rfl⟩ := mem_digitsLE hd0 f u c hc
  exact ⟨isDigitCh_digitCh r (by omega), by rwa [digitVal_digitCh r (by omega)]⟩

theorem ofDigits_digitsOf (d : Nat) (hd1 : 1 < d) (hd : d ≤ 16) (n : Nat) : ofDigits d (digitsOf d n) = n := by
  unfold digitsOf
  rw [ofDigits_eq_foldr]
  exact foldr_digitsLE (by omega) hd n n (lt_pow_succ hd1 n)

/-- no leading zero, except for the number 0 itself -/
theorem digitsLE_last {d : Nat} (hd1 : 1 < d) (hd : d ≤ 16) : ∀ (f u : Nat), u < d^(f+1) → 0 < u →
    ∀ h, digitVal ((digitsLE d f u).getLast h) ≠ 0 := by
  refine digitsLE_induct (by omega) ?_ ?_
  · intro f u hu hpos h
    simp only [digitsLE_stop f hu, List.getLast_singleton]
    rw [digitVal_digitCh u (by omega)]
    omega
  · intro f u hu _ ih _ h
    simp only [digitsLE_step f hu (show 0 < d by omega), List.getLast_cons (digitsLE_ne_nil d f (u / d))]
    exact ih (Nat.div_pos hu (by omega)) _

theorem renderInt_length_le (b : Base) (w : Nat) (neg : Bool) (u : Nat) (hu : u < 2^64) :
    (renderInt b w neg u).length ≤ maxBufSize := by
  obtain ⟨hd1, hd16⟩ := base_bounds b
  have hpow : u < b.divider^(21+1) := Nat.lt_of_lt_of_le hu (base_pow b)
  have hl := digitsLE_length b.divider 21 u
  have hmax : maxBufSize = 32 := rfl
  rw [renderInt_eq_reverse b w neg u _ (digitsOf_eq _ hd1 21 u hpow), List.length_reverse, hmax]
  have := (length_placed b.padCh neg (digitsLE b.divider 21 u) (min w (32 - 1) - (digitsLE b.divider 21 u).length)).2
  omega

end Firefly.Kfmt
