import Firefly.Proof.AmlLex
import Firefly.Proof.AmlTot
/-!
Invariant reasoning about the parser model (`Model/AmlParser.lean`): a partial-correctness Hoare
calculus for `P = StateT PState (Except Err)`.

`Keeps I x φ`: whenever `x`, started in a state satisfying `I`, returns normally with result `a` in state
`s'`, then `I s'` and `φ a`.  (Runs that end in `.panic`/`.outOfFuel` carry no state; that they do not
occur is the subject of the totality theorems.)  The invariant used throughout is
`PInv d` = the reader window lies inside the table ∧ every `[]byte` value stored in the pool lies
inside the table.

The proof for a parser function is a term that follows its `do` block statement by statement: `Keeps.bind`
for a statement, `Keeps.ite` for a branch, and for each primitive or callee the lemma that it keeps `PInv d`.
Where `do` notation compiles a block with a join point (`let x ← if …`, or an `if` without `else` followed by more
statements), the term follows the compiled form: the rest of the block is proved once and used in every branch.
-/
namespace Firefly.AmlParser
open Firefly.AmlLex Firefly.AmlTree Firefly.C13
open Firefly.Gen.C12

/-- a stored value lies inside the table -/
def ValIn (d : Bytes) : Val → Prop
  | .bytes off len => off + len ≤ d.size
  | _ => True

theorem valIn_iff {d : Bytes} {v : Val} : ValIn d v ↔ ∀ off len, v = .bytes off len → off + len ≤ d.size := by
  cases v <;> simp [ValIn]

def AllValsIn (d : Bytes) (t : ObjectTree) : Prop := ∀ (i : Nat) (o : Obj), t.pool[i]? = some o → ValIn d o.value

def PInv (d : Bytes) (s : PState) : Prop := Inv d s.r ∧ AllValsIn d s.tree

theorem allVals_iff {d : Bytes} {t : ObjectTree} :
    AllValsIn d t ↔ ∀ x, x < t.pool.size → ValIn d (slot t x).value := by
  constructor
  · intro h x hx
    exact h x _ (by rw [slot, Array.getElem?_eq_getElem hx]; rfl)
  · intro h i o e
    have := h i (Array.getElem?_eq_some_iff.1 e).1
    rwa [slot, e] at this

section
variable {d : Bytes} {t t' : ObjectTree}

theorem AllValsIn.upd {i : Nat} {f : Obj → Obj} (h : AllValsIn d t) (e : t.upd i f = .ok t')
    (hf : ∀ o, ValIn d o.value → ValIn d (f o).value) : AllValsIn d t' := by
  by_cases hi : i < t.pool.size
  · rw [upd_eq f hi] at e; cases e
    refine allVals_iff.2 fun x hx => ?_
    rw [size_setAt] at hx
    rw [slot_setAt']
    split
    · exact hf _ (allVals_iff.1 h x hx)
    · exact allVals_iff.1 h x hx
  · simp [ObjectTree.upd, hi] at e

/-- the link surgery (`append`, `appendAfter`, `detach`) does not touch the values -/
theorem AllValsIn.of_samePay (h : AllValsIn d t) (p : SamePay t t') : AllValsIn d t' :=
  allVals_iff.2 fun x hx => by rw [pay_value (p.pay x)]; exact allVals_iff.1 h x (p.size ▸ hx)

theorem AllValsIn.free {obj : Nat} (h : AllValsIn d t) (e : t.free obj = .ok t') : AllValsIn d t' := by
  obtain ⟨t1, e1, e⟩ := res_bind_ok e
  have h1 : AllValsIn d t1 := by
    obtain ⟨o, _, e1⟩ := res_bind_ok e1
    split at e1
    · obtain ⟨p, _, e1⟩ := res_bind_ok e1
      exact h.of_samePay (detach_samePay e1)
    · cases e1; exact h
  obtain ⟨o, _, e⟩ := res_bind_ok e
  split at e
  · cases e
  · obtain ⟨t2, e2, e⟩ := res_bind_ok e
    obtain ⟨t3, e3, e⟩ := res_bind_ok e
    obtain ⟨o3, _, e⟩ := res_bind_ok e
    cases e
    exact show AllValsIn d t3 from (h1.upd e2 fun _ hv => hv).upd e3 fun _ hv => hv

/-- `newObject`: the new (or reused) slot has no value, all other values are unchanged -/
theorem AllValsIn.newObject {opcode info th : Nat} {r : ObjectTree × Nat} (h : AllValsIn d t)
    (e : t.newObject opcode info th = .ok r) : AllValsIn d r.1 := by
  unfold ObjectTree.newObject at e
  dsimp only at e
  split at e
  · obtain ⟨o, _, e⟩ := res_bind_ok e
    obtain ⟨t1, e1, e⟩ := res_bind_ok e
    cases e
    exact AllValsIn.upd (t := { t with freeListHeadIndex := o.nextSiblingIndex }) h e1 fun _ _ => trivial
  · cases e
    intro j o hj
    simp only [Array.getElem?_push] at hj
    split at hj
    · cases hj; trivial
    · exact h j o hj

end

structure Keeps {α : Type} (I : PState → Prop) (x : P α) (φ : α → Prop) : Prop where
  run : ∀ s, I s → ∀ a s', x s = .ok (a, s') → I s' ∧ φ a

theorem Keeps.pure {α : Type} {I : PState → Prop} {φ : α → Prop} {a : α} (h : φ a) : Keeps I (pure a : P α) φ :=
  ⟨fun s hs a' s' e => by cases e; exact ⟨hs, h⟩⟩

theorem Keeps.throw {α : Type} {I : PState → Prop} {φ : α → Prop} (err : Err) : Keeps I (throw err : P α) φ :=
  ⟨fun _ _ _ _ e => by cases e⟩

theorem Keeps.bind {α β : Type} {I : PState → Prop} {x : P α} {f : α → P β} {φ : α → Prop} {ψ : β → Prop}
    (hx : Keeps I x φ) (hf : ∀ a, φ a → Keeps I (f a) ψ) : Keeps I (x >>= f) ψ :=
  ⟨fun s hs b s' e =>
    let ⟨a, s1, e1, e2⟩ := bind_ok e
    let h1 := hx.run s hs a s1 e1
    (hf a h1.2).run s1 h1.1 b s' e2⟩

theorem Keeps.seq {α β : Type} {I : PState → Prop} {x : P α} {y : P β} {φ : α → Prop} {ψ : β → Prop}
    (hx : Keeps I x φ) (hy : Keeps I y ψ) : Keeps I (x >>= fun _ => y) ψ :=
  hx.bind fun _ _ => hy

theorem Keeps.ite {α : Type} {I : PState → Prop} {c : Prop} [Decidable c] {x y : P α} {φ : α → Prop}
    (hx : Keeps I x φ) (hy : Keeps I y φ) : Keeps I (if c then x else y) φ := by
  split
  · exact hx
  · exact hy

/-- an optional statement: `if c then x` followed by the rest `k` of the block -/
theorem Keeps.ifThen {α β : Type} {I : PState → Prop} {c : Prop} [Decidable c] {x : P α} {k : P β}
    {φ : α → Prop} {ψ : β → Prop} (hx : Keeps I x φ) (hk : Keeps I k ψ) :
    Keeps I (if c then x >>= fun _ => k else k) ψ :=
  .ite (.bind hx fun _ _ => hk) hk

theorem Keeps.tt {α : Type} {I : PState → Prop} {x : P α} {φ : α → Prop} (hx : Keeps I x φ) :
    Keeps I x (fun _ => True) := ⟨fun s hs a s' e => ⟨(hx.run s hs a s' e).1, trivial⟩⟩

theorem keeps_read {α : Type} {I : PState → Prop} {φ : α → Prop} (g : PState → Res α)
    (h : ∀ s, I s → ∀ a, g s = .ok a → φ a) :
    Keeps I (fun s => do let a ← g s; pure (a, s) : P α) φ :=
  ⟨fun s hs a s' e => by
    obtain ⟨a1, e1, e⟩ := res_bind_ok e
    cases e
    exact ⟨hs, h s hs a e1⟩⟩

theorem keeps_pure_read {α : Type} {I : PState → Prop} (g : PState → α) :
    Keeps I (fun s => Except.ok (g s, s) : P α) (fun _ => True) :=
  ⟨fun s hs a s' e => by cases e; exact ⟨hs, trivial⟩⟩

section
variable {d : Bytes} {I : PState → Prop}

theorem keeps_objectAt {i : Nat} : Keeps I (objectAt i) (fun _ => True) := keeps_pure_read _
theorem keeps_allBlocks : Keeps I allBlocks (fun _ => True) := keeps_pure_read _
theorem keeps_tableHandle : Keeps I tableHandle (fun _ => True) := keeps_pure_read _
theorem keeps_pkgEndTop : Keeps I pkgEndTop (fun _ => True) := keeps_pure_read _
theorem keeps_stackSizes : Keeps I stackSizes (fun _ => True) := keeps_pure_read _
theorem keeps_getTree : Keeps I getTree (fun _ => True) := keeps_pure_read _
theorem keeps_passCounters : Keeps I passCounters (fun _ => True) := keeps_pure_read _
theorem keeps_streamEnd : Keeps I (fun s => pure (s.streamEnd, s) : P Nat) (fun _ => True) := keeps_pure_read _
theorem keeps_reader : Keeps I reader (fun _ => True) := keeps_pure_read _

theorem keeps_liftR {α : Type} {x : Res α} : Keeps I (liftR x) (fun _ => True) :=
  keeps_read (fun _ => x) fun _ _ _ _ => trivial

theorem keeps_scopeCurrent : Keeps I scopeCurrent (fun _ => True) :=
  ⟨fun s hs a s' e => by
    unfold scopeCurrent at e
    split at e
    · cases e
    · cases e; exact ⟨hs, trivial⟩⟩

theorem keeps_getObj {i : Nat} : Keeps I (getObj i) (fun _ => True) :=
  keeps_read (fun s => s.tree.obj i) fun _ _ _ _ => trivial

theorem keeps_getObj_val {i : Nat} : Keeps (PInv d) (getObj i) (fun o => ValIn d o.value) :=
  keeps_read (fun s => s.tree.obj i) fun s hs o e => by
    unfold ObjectTree.obj at e
    split at e
    · rename_i o' ho; cases e; exact hs.2 i _ ho
    · cases e

theorem keeps_derefP {o : Option Nat} : Keeps I (derefP o) (fun _ => True) := by
  cases o
  · exact Keeps.throw _
  · exact Keeps.pure trivial

theorem keeps_optP {α : Type} {o : Option α} : Keeps I (optP o) (fun _ => True) := by
  cases o
  · exact Keeps.throw _
  · exact Keeps.pure trivial

theorem lex_run {α : Type} {x : LexM α} {s s' : PState} {a : α} (e : lex x s = .ok (a, s')) :
    ∃ r', x s.r = .ok (a, r') ∧ s' = { s with r := r' } := by
  obtain ⟨⟨a1, r1⟩, e1, e⟩ := res_bind_ok e
  cases e
  exact ⟨r1, e1, rfl⟩

theorem tree_run {f : ObjectTree → Res ObjectTree} {s s' : PState} {a : Unit} (e : tree f s = .ok (a, s')) :
    s'.r = s.r ∧ f s.tree = .ok s'.tree := by
  obtain ⟨t1, e1, e⟩ := res_bind_ok e
  cases e
  exact ⟨rfl, e1⟩

theorem newObject_run {op i : Nat} {s s' : PState} (e : newObject op s = .ok (i, s')) :
    s'.r = s.r ∧ s.tree.newObject op (pOpcodeTableIndex op true) s.tableHandle = .ok (s'.tree, i) := by
  obtain ⟨⟨t1, j⟩, e1, e⟩ := res_bind_ok e
  cases e
  exact ⟨rfl, e1⟩

theorem modify_run {f : PState → PState} {s s' : PState} {a : Unit} (e : (modify f : P Unit) s = .ok (a, s')) :
    s' = f s := by
  have e' : (Except.ok ((), f s) : Res (Unit × PState)) = .ok (a, s') := e
  cases e'; rfl

theorem keeps_lex {α : Type} {x : LexM α} {φ : α → Prop}
    (h : ∀ r, Inv d r → wp x (fun a r' => Inv d r' ∧ φ a) r) : Keeps (PInv d) (lex x) φ :=
  ⟨fun s hs a s' e => by
    obtain ⟨r', e1, rfl⟩ := lex_run e
    obtain ⟨a1, r1, e2, hi, ha⟩ := h s.r hs.1
    rw [e2] at e1; cases e1
    exact ⟨⟨hi, hs.2⟩, ha⟩⟩

theorem keeps_lex_safe {α : Type} {x : LexM α} (h : Safe d x) : Keeps (PInv d) (lex x) (fun _ => True) :=
  keeps_lex fun r hr => let ⟨a, r', e, hi⟩ := h.run r hr; ⟨a, r', e, hi, trivial⟩

theorem keeps_tree {f : ObjectTree → Res ObjectTree} (h : ∀ t t', AllValsIn d t → f t = .ok t' → AllValsIn d t') :
    Keeps (PInv d) (tree f) (fun _ => True) :=
  ⟨fun s hs a s' e => by
    obtain ⟨er, et⟩ := tree_run e
    exact ⟨⟨er ▸ hs.1, h _ _ hs.2 et⟩, trivial⟩⟩

theorem updObj_pinv {i : Nat} {f : Obj → Obj} {s s' : PState} {a : Unit} (e : updObj i f s = .ok (a, s'))
    (hf : ∀ o, ValIn d o.value → ValIn d (f o).value) (hs : PInv d s) : PInv d s' ∧ s'.r = s.r :=
  let ⟨er, et⟩ := tree_run e
  ⟨⟨er ▸ hs.1, hs.2.upd et hf⟩, er⟩

theorem keeps_updObj {i : Nat} {f : Obj → Obj} (hf : ∀ o, ValIn d o.value → ValIn d (f o).value) :
    Keeps (PInv d) (updObj i f) (fun _ => True) :=
  ⟨fun _ hs _ _ e => ⟨(updObj_pinv e hf hs).1, trivial⟩⟩

theorem keeps_append {obj arg : Nat} : Keeps (PInv d) (tree (·.append obj arg)) (fun _ => True) :=
  keeps_tree fun _ _ h e => h.of_samePay (append_samePay e)
theorem keeps_appendAfter {obj arg n : Nat} : Keeps (PInv d) (tree (·.appendAfter obj arg n)) (fun _ => True) :=
  keeps_tree fun _ _ h e => h.of_samePay (appendAfter_samePay e)
theorem keeps_detach {obj arg : Nat} : Keeps (PInv d) (tree (·.detach obj arg)) (fun _ => True) :=
  keeps_tree fun _ _ h e => h.of_samePay (detach_samePay e)
theorem keeps_free {obj : Nat} : Keeps (PInv d) (tree (·.free obj)) (fun _ => True) :=
  keeps_tree fun _ _ h e => h.free e

theorem keeps_newObject {op : Nat} : Keeps (PInv d) (newObject op) (fun _ => True) :=
  ⟨fun s hs a s' e => by
    obtain ⟨er, et⟩ := newObject_run e
    exact ⟨⟨er ▸ hs.1, hs.2.newObject et⟩, trivial⟩⟩

theorem keeps_modify {f : PState → PState} (hf : ∀ s, (f s).r = s.r ∧ (f s).tree = s.tree) :
    Keeps (PInv d) (modify f : P Unit) (fun _ => True) :=
  ⟨fun s hs a s' e => by
    cases modify_run e
    exact ⟨⟨(hf s).1 ▸ hs.1, (hf s).2 ▸ hs.2⟩, trivial⟩⟩

theorem valIn_sliceVal {sl : Slice} (h : SliceIn d sl) : ValIn d (sliceVal sl) := by
  unfold sliceVal
  split
  · show 0 + 0 ≤ d.size; omega
  · rename_i off ho; exact h off ho

theorem keeps_lex_parseString : Keeps (PInv d) (lex (parseString d)) (fun a => SliceIn d a.1) :=
  keeps_lex (parseString_slice d)

theorem keeps_lex_parseNameString (hd : d.size + 1024 ≤ 4294967296) :
    Keeps (PInv d) (lex (parseNameString d)) (fun a => SliceIn d a.1) :=
  keeps_lex fun r hr => wp_mono (parseNameString_slice d hd r hr) fun _ _ h => ⟨h.1, h.2.1⟩

theorem keeps_offset : Keeps (PInv d) (lex offset) (fun _ => True) := keeps_lex_safe (safe_offset d)
theorem keeps_eof : Keeps (PInv d) (lex eof) (fun _ => True) := keeps_lex_safe (safe_eof d)
theorem keeps_readByte : Keeps (PInv d) (lex (readByte d)) (fun _ => True) := keeps_lex_safe (safe_readByte d)
theorem keeps_parsePkgLength : Keeps (PInv d) (lex (parsePkgLength d)) (fun _ => True) :=
  keeps_lex_safe (safe_parsePkgLength d)
theorem keeps_parseNumConstant {n : Nat} : Keeps (PInv d) (lex (parseNumConstant d n)) (fun _ => True) :=
  keeps_lex_safe (safe_parseNumConstant d n)
theorem keeps_nextOpcode : Keeps (PInv d) (lex (nextOpcode d)) (fun _ => True) := keeps_lex_safe (safe_nextOpcode d)
theorem keeps_setPkgEnd {e : Nat} : Keeps (PInv d) (lex (setPkgEnd d e)) (fun _ => True) :=
  keeps_lex_safe (safe_setPkgEnd d e)
theorem keeps_setOffset {o : Nat} : Keeps (PInv d) (lex (setOffset d o)) (fun _ => True) :=
  keeps_lex_safe (safe_setOffset d o)

theorem keeps_scopeEnter {i : Nat} : Keeps (PInv d) (scopeEnter i) (fun _ => True) :=
  keeps_modify fun _ => ⟨rfl, rfl⟩

theorem keeps_scopeExit : Keeps (PInv d) scopeExit (fun _ => True) :=
  ⟨fun s hs a s' e => by
    unfold scopeExit at e
    split at e
    · cases e
    · cases e; exact ⟨hs, trivial⟩⟩

theorem keeps_pushPkgEnd {e : Nat} : Keeps (PInv d) (pushPkgEnd d e) (fun _ => True) :=
  .seq (keeps_modify fun _ => ⟨rfl, rfl⟩) <| keeps_setPkgEnd

theorem keeps_popPkgEnd : Keeps (PInv d) (popPkgEnd d) (fun _ => True) :=
  .bind (keeps_modify fun s => by split <;> exact ⟨rfl, rfl⟩) fun _ _ => .bind keeps_pkgEndTop fun top _ =>
    match top with
    | some _ => .bind keeps_setPkgEnd fun _ _ => .pure trivial
    | none => .pure trivial

theorem keeps_setNumValue {obj n : Nat} : Keeps (PInv d) (setNumValue d obj n) (fun _ => True) :=
  .bind keeps_parseNumConstant fun _ _ => .seq (keeps_updObj fun _ _ => trivial) <| .pure trivial

theorem keeps_setStringValue {obj : Nat} : Keeps (PInv d) (setStringValue d obj) (fun _ => True) :=
  .bind keeps_lex_parseString fun _ h => .seq (keeps_updObj fun _ _ => valIn_sliceVal h) <| .pure trivial

theorem keeps_setNameValue (hd : d.size + 1024 ≤ 4294967296) {obj : Nat} :
    Keeps (PInv d) (setNameValue d obj) (fun _ => True) :=
  .bind (keeps_lex_parseNameString hd) fun _ h =>
    .seq (keeps_updObj fun _ _ => valIn_sliceVal h) <| .pure trivial

theorem keeps_setOpcode {obj op : Nat} : Keeps (PInv d) (setOpcode obj op) (fun _ => True) :=
  keeps_updObj fun _ h => h

theorem keeps_finishSimpleArg {obj : Nat} {res : PRes} : Keeps (PInv d) (finishSimpleArg obj res) (fun _ => True) :=
  .bind keeps_getObj fun _ _ => .seq (keeps_updObj fun _ h => h) <| .pure trivial

theorem keeps_simpleNum {obj op n : Nat} : Keeps (PInv d) (simpleNum d obj op n) (fun _ => True) :=
  .seq keeps_setOpcode <| .bind keeps_setNumValue fun _ _ => keeps_finishSimpleArg

theorem keeps_simpleString {obj : Nat} : Keeps (PInv d) (simpleString d obj) (fun _ => True) :=
  .seq keeps_setOpcode <| .bind keeps_setStringValue fun _ _ => keeps_finishSimpleArg

theorem keeps_simpleName (hd : d.size + 1024 ≤ 4294967296) {obj : Nat} :
    Keeps (PInv d) (simpleName d obj) (fun _ => True) :=
  .seq keeps_setOpcode <| .bind (keeps_setNameValue hd) fun _ _ => keeps_finishSimpleArg

theorem keeps_parseSimpleArg (hd : d.size + 1024 ≤ 4294967296) {argType : Nat} :
    Keeps (PInv d) (parseSimpleArg d argType) (fun _ => True) :=
  .bind keeps_newObject fun _ _ => .bind keeps_offset fun _ _ => .seq (keeps_updObj fun _ h => h) <|
    .ite keeps_simpleNum <| .ite keeps_simpleNum <| .ite keeps_simpleNum <| .ite keeps_simpleNum <|
    .ite keeps_simpleString <| .ite (keeps_simpleName hd) (.pure trivial)

/-! The byte-list cases are proved on the run itself: the slice depends on the reader state at the call. -/

theorem reader_run {s s' : PState} {r : Reader} (e : reader s = .ok (r, s')) : r = s.r ∧ s' = s := by
  cases e; exact ⟨rfl, rfl⟩

theorem pure_run {α : Type} {a b : α} {s s' : PState} (e : (pure a : P α) s = .ok (b, s')) : b = a ∧ s' = s := by
  cases e; exact ⟨rfl, rfl⟩

theorem parseByteList_keeps (obj n : Nat) (s : PState) (hs : PInv d s)
    (hfit : s.r.pkgEnd ≤ s.r.offset ∨ s.r.offset + n ≤ s.r.pkgEnd) :
    ∀ a s', parseByteList d obj n s = .ok (a, s') → PInv d s' := by
  intro a s' e
  obtain ⟨_, s1, e1, e⟩ := bind_ok e
  obtain ⟨_, s2, e2, e⟩ := bind_ok e
  obtain ⟨sl, s3, e3, e⟩ := bind_ok e
  obtain ⟨k1, r1⟩ := updObj_pinv e1 (fun _ h => h) hs
  obtain ⟨k2, r2⟩ := updObj_pinv e2 (fun _ h => h) k1
  rw [← r1, ← r2] at hfit
  obtain ⟨r3, x3, rfl⟩ := lex_run e3
  obtain ⟨sl', r', ew, hi', hsl⟩ := parseByteListRaw_slice d n s2.r k2.1 hfit
  rw [ew] at x3; cases x3
  exact (updObj_pinv e (fun _ _ => valIn_sliceVal hsl) ⟨hi', k2.2⟩).1

theorem keeps_parseByteListArg (hd : d.size + 1024 ≤ 4294967296) :
    Keeps (PInv d) (parseByteListArg d) (fun _ => True) :=
  .bind keeps_reader fun _ _ => .ite (.pure trivial) <| .bind keeps_newObject fun argObj _ =>
    ⟨fun s hs a s' e => by
      obtain ⟨r, s2, e2, e⟩ := bind_ok e
      obtain ⟨rfl, rfl⟩ := reader_run e2
      obtain ⟨_, s3, e3, e⟩ := bind_ok e
      obtain ⟨_, rfl⟩ := pure_run e
      exact ⟨parseByteList_keeps argObj _ s2 hs (byteListArg_fits d (by omega) s2.r hs.1) _ _ e3, trivial⟩⟩

theorem keeps_connBufferFinish {origPkgEnd origOffset pkgLen dataLen : Nat} :
    Keeps (PInv d) (connBufferFinish d origPkgEnd origOffset pkgLen dataLen) (fun _ => True) := by
  constructor
  intro s hs a s' e
  obtain ⟨r, s0, e0, e⟩ := bind_ok e
  obtain ⟨rfl, rfl⟩ := reader_run e0
  split at e
  · obtain ⟨_, rfl⟩ := pure_run e
    exact ⟨hs, trivial⟩
  · rename_i hle
    obtain ⟨connArg, s1, e1, e⟩ := bind_ok e
    obtain ⟨_, s2, e2, e⟩ := bind_ok e
    obtain ⟨_, s3, e3, e⟩ := bind_ok e
    have k1 := keeps_newObject.run s0 hs _ _ e1
    obtain ⟨k2, r2⟩ := updObj_pinv e2 (fun _ h => h) k1.1
    have hfit : s2.r.pkgEnd ≤ s2.r.offset ∨ s2.r.offset + u32 dataLen ≤ s2.r.pkgEnd := by
      right; rw [r2, (newObject_run e1).1]
      have : u32 dataLen ≤ dataLen := Nat.mod_le _ _
      omega
    have k3 := parseByteList_keeps connArg _ s2 k2 hfit _ _ e3
    exact (show Keeps (PInv d) _ (fun _ => True) from
      .bind keeps_setPkgEnd fun _ _ => .seq keeps_setOffset <| .pure trivial).run s3 k3 _ _ e

theorem keeps_setNameByte {field i : Nat} {b : UInt8} : Keeps (PInv d) (setNameByte field i b) (fun _ => True) :=
  keeps_updObj fun _ h => h

theorem keeps_readFieldName {field n i : Nat} : Keeps (PInv d) (readFieldName d field n i) (fun _ => True) := by
  induction n generalizing i with
  | zero => exact .pure trivial
  | succ n ih =>
    rw [readFieldName]
    exact .bind keeps_readByte fun b _ => match b with
      | none => .seq keeps_setNameByte <| .pure trivial
      | some _ => .seq keeps_setNameByte <| ih

theorem keeps_fieldReserved {st : FieldSt} : Keeps (PInv d) (fieldReserved d st) (fun _ => True) :=
  .bind keeps_parsePkgLength fun _ _ => .ite (.pure trivial) (.pure trivial)

theorem keeps_fieldAccess {st : FieldSt} : Keeps (PInv d) (fieldAccess d st) (fun _ => True) :=
  .bind keeps_parseNumConstant fun _ _ => .ite (.pure trivial) <|
    .bind keeps_parseNumConstant fun _ _ => .ite (.pure trivial) (.pure trivial)

theorem keeps_fieldExtAccess {st : FieldSt} : Keeps (PInv d) (fieldExtAccess d st) (fun _ => True) :=
  .bind keeps_parseNumConstant fun _ _ => .ite (.pure trivial) <|
    .bind keeps_parseNumConstant fun _ _ => .ite (.pure trivial) <|
    .bind keeps_parseNumConstant fun _ _ => .ite (.pure trivial) (.pure trivial)

theorem keeps_connBufferLen {o p : Nat} : Keeps (PInv d) (connBufferLen d o p) (fun _ => True) :=
  .bind keeps_setPkgEnd fun _ _ => .ite (.pure trivial) <|
    .bind keeps_nextOpcode fun _ _ => .ite (.pure trivial) <|
    have jp (dl : Nat × PRes) : Keeps (PInv d) (if dl.2 = .failed then pure (.inl dl.2) else pure (.inr dl.1) :
        P (Sum PRes Nat)) (fun _ => True) := .ite (.pure trivial) (.pure trivial)
    .ite (.bind keeps_parseNumConstant fun _ _ => jp _) <| .ite (.bind keeps_parseNumConstant fun _ _ => jp _) <|
    .ite (.bind keeps_parseNumConstant fun _ _ => jp _) (.bind (.pure (φ := fun _ => True) trivial) fun _ _ => jp _)

theorem keeps_connBuffer : Keeps (PInv d) (connBuffer d) (fun _ => True) :=
  .bind keeps_reader fun _ _ => .bind keeps_parsePkgLength fun _ _ => .ite (.pure trivial) <|
    .ite (.bind keeps_connBufferLen fun x _ => match x with
      | .inl _ => .pure trivial
      | .inr _ => keeps_connBufferFinish) keeps_connBufferFinish

theorem keeps_connName (hd : d.size + 1024 ≤ 4294967296) : Keeps (PInv d) (connName d) (fun _ => True) :=
  .bind (keeps_lex_safe (safe_unreadByte d)) fun _ _ => .bind keeps_newObject fun _ _ =>
    .bind keeps_offset fun _ _ => .seq (keeps_updObj fun _ h => h) <|
    .bind (keeps_setNameValue hd) fun _ _ => .ite (.pure trivial) (.pure trivial)

theorem keeps_fieldConnection (hd : d.size + 1024 ≤ 4294967296) {curObj : Nat} {st : FieldSt} :
    Keeps (PInv d) (fieldConnection d curObj st) (fun _ => True) :=
  .bind keeps_readByte fun b _ => match b with
    | none => .pure trivial
    | some _ => .bind keeps_newObject fun _ _ => .bind keeps_getObj fun _ _ => .seq keeps_append <|
      .bind (.ite keeps_connBuffer (keeps_connName hd)) fun x _ => match x with
        | .inl _ => .pure trivial
        | .inr _ => .seq keeps_append <| .pure trivial

theorem keeps_fieldNamed {curObj : Nat} {st : FieldSt} : Keeps (PInv d) (fieldNamed d curObj st) (fun _ => True) :=
  .bind (keeps_lex_safe (safe_unreadByte d)) fun _ _ => .bind keeps_newObject fun _ _ =>
    .bind keeps_offset fun _ _ => .seq (keeps_updObj fun _ h => h) <|
    .bind keeps_readFieldName fun _ _ => .ite (.pure trivial) <|
    .bind keeps_parsePkgLength fun _ _ => .ite (.pure trivial) <|
    .bind keeps_getObj fun _ _ => .seq (keeps_updObj fun _ _ => trivial) <|
    .bind keeps_objectAt fun _ _ => .bind keeps_derefP fun _ _ => .seq keeps_appendAfter <| .pure trivial

theorem keeps_fieldStep (hd : d.size + 1024 ≤ 4294967296) {curObj : Nat} {st : FieldSt} :
    Keeps (PInv d) (fieldStep d curObj st) (fun _ => True) :=
  .bind keeps_readByte fun _ _ => .ite keeps_fieldReserved <| .ite keeps_fieldAccess <| .ite keeps_fieldExtAccess <|
    .ite (keeps_fieldConnection hd) keeps_fieldNamed

theorem keeps_fieldLoop (hd : d.size + 1024 ≤ 4294967296) {curObj f : Nat} {st : FieldSt} :
    Keeps (PInv d) (fieldLoop d curObj f st) (fun _ => True) := by
  induction f generalizing st with
  | zero => exact .throw _
  | succ f ih =>
    rw [fieldLoop]
    exact .bind keeps_eof fun _ _ => .ite (.pure trivial) <| .bind (keeps_fieldStep hd) fun x _ => match x with
      | .inl _ => .pure trivial
      | .inr _ => ih

theorem keeps_u64Value {i : Nat} : Keeps I (u64Value i) (fun _ => True) :=
  .bind keeps_getObj fun _ _ => by
    split
    · exact .pure trivial
    · exact .throw _

theorem keeps_parseFieldElements (hd : d.size + 1024 ≤ 4294967296) {curObj : Nat} :
    Keeps (PInv d) (parseFieldElements d curObj) (fun _ => True) :=
  .bind keeps_getObj fun _ _ => .bind keeps_objectAt fun _ _ => .bind keeps_derefP fun _ _ =>
    .bind keeps_u64Value fun _ _ => keeps_fieldLoop hd

theorem keeps_namePathOrCallObject {o : Nat} {sl : Slice} (hsl : SliceIn d sl) :
    Keeps (PInv d) (namePathOrCallObject o sl) (fun _ => True) :=
  .bind keeps_newObject fun _ _ => .seq (keeps_updObj fun _ h => h) <|
    .seq (keeps_updObj fun _ _ => valIn_sliceVal hsl) <| .bind keeps_scopeCurrent fun _ _ =>
    .bind keeps_derefP fun _ _ => .seq keeps_append <| .pure trivial

theorem keeps_parsePkgLenArg {info curObj : Nat} : Keeps (PInv d) (parsePkgLenArg d info curObj) (fun _ => True) :=
  .bind keeps_offset fun _ _ => .bind keeps_parsePkgLength fun _ _ => .ite (.pure trivial) <|
    .bind keeps_optP fun _ _ => .bind keeps_allBlocks fun _ _ =>
    .ite (.seq (keeps_updObj fun _ h => h) <| .seq keeps_setOffset <| .pure trivial) <|
    .bind keeps_pushPkgEnd fun _ _ => .ite (.pure trivial) (.pure trivial)

theorem keeps_newScopeBlock : Keeps (PInv d) newScopeBlock (fun _ => True) :=
  .bind keeps_newObject fun _ _ => .bind keeps_offset fun _ _ => .seq (keeps_updObj fun _ h => h) <|
    .bind keeps_getObj fun _ _ => .seq keeps_scopeEnter <| .pure trivial

/-- the nine mutually recursive functions of the object parser keep the invariant -/
structure FirstPassKeeps (d : Bytes) (f : Nat) : Prop where
  nextObject : Keeps (PInv d) (parseNextObject d f) (fun _ => True)
  objectArgs : ∀ c, Keeps (PInv d) (parseObjectArgs d f c) (fun _ => True)
  args : ∀ i c a, Keeps (PInv d) (parseArgs d f i c a) (fun _ => True)
  arg : ∀ i c a, Keeps (PInv d) (parseArg d f i c a) (fun _ => True)
  termList : Keeps (PInv d) (termListLoop d f) (fun _ => True)
  namePath : Keeps (PInv d) (parseNamePathOrMethodCall d f) (fun _ => True)
  methodArgs : ∀ n, Keeps (PInv d) (methodArgsLoop d f n) (fun _ => True)
  strictTermArg : ∀ c, Keeps (PInv d) (parseStrictTermArg d f c) (fun _ => True)
  target : Keeps (PInv d) (parseTarget d f) (fun _ => True)

section
variable {f : Nat} (ih : FirstPassKeeps d f)
include ih

theorem keeps_parseNextObject_succ : Keeps (PInv d) (parseNextObject d (f + 1)) (fun _ => True) := by
  rw [parseNextObject]
  exact .bind keeps_offset fun _ _ => .bind keeps_nextOpcode fun _ _ => .ite (.pure trivial) <| .ite ih.namePath <|
    .bind keeps_newObject fun _ _ => .seq (keeps_updObj fun _ h => h) <| .bind keeps_scopeCurrent fun _ _ =>
    .bind keeps_derefP fun _ _ => .seq keeps_append <| ih.objectArgs _

theorem keeps_parseObjectArgs_succ {c : Nat} : Keeps (PInv d) (parseObjectArgs d (f + 1) c) (fun _ => True) := by
  rw [parseObjectArgs]
  exact .bind keeps_getObj fun _ _ =>
    .ite (.bind keeps_setNumValue fun _ _ => .pure trivial) <| .ite (.bind keeps_setNumValue fun _ _ => .pure trivial) <|
    .ite (.bind keeps_setNumValue fun _ _ => .pure trivial) <| .ite (.bind keeps_setNumValue fun _ _ => .pure trivial) <|
    .ite (.bind keeps_setStringValue fun _ _ => .pure trivial) <|
    .bind keeps_optP fun _ _ => .bind (ih.args _ _ _) fun _ _ => .pure trivial

theorem keeps_parseArgs_succ {i c a : Nat} : Keeps (PInv d) (parseArgs d (f + 1) i c a) (fun _ => True) := by
  unfold parseArgs
  refine .bind keeps_optP fun _ _ => .ite (.bind keeps_optP fun _ _ => .bind (ih.arg _ _ _) fun ar _ => ?_) (.pure trivial)
  have rest : Keeps (PInv d) (if ar.2 = .ok then parseArgs d f i c (a + 1) else pure ar.2) (fun _ => True) :=
    .ite (ih.args _ _ _) (.pure trivial)
  cases ar.1
  · exact rest
  · exact .seq keeps_append <| rest

theorem keeps_parseArg_succ (hd : d.size + 1024 ≤ 4294967296) {i c a : Nat} :
    Keeps (PInv d) (parseArg d (f + 1) i c a) (fun _ => True) := by
  rw [parseArg]
  exact .ite (keeps_parseSimpleArg hd) <| .ite (keeps_parseByteListArg hd) <| .ite keeps_parsePkgLenArg <|
    .ite (.bind (keeps_parseFieldElements hd) fun _ _ => .pure trivial) <|
    .ite (.bind keeps_allBlocks fun _ _ => .ite (ih.strictTermArg _) (.pure trivial)) <|
    .ite (.bind keeps_newScopeBlock fun _ _ => .bind keeps_allBlocks fun _ _ => .ite (.pure trivial) <|
      .seq keeps_append <| .bind ih.termList fun _ _ => .ite (.pure trivial) <|
      .seq keeps_scopeExit <| .seq keeps_detach <| .pure trivial) ih.target

theorem keeps_termListLoop_succ : Keeps (PInv d) (termListLoop d (f + 1)) (fun _ => True) := by
  rw [termListLoop]
  exact .bind keeps_eof fun _ _ => .ite (.pure trivial) <| .bind ih.nextObject fun _ _ => .ite (.pure trivial) ih.termList

theorem keeps_parseNamePathOrMethodCall_succ (hd : d.size + 1024 ≤ 4294967296) :
    Keeps (PInv d) (parseNamePathOrMethodCall d (f + 1)) (fun _ => True) := by
  rw [parseNamePathOrMethodCall]
  exact .bind keeps_offset fun _ _ => .bind (keeps_lex_parseNameString hd) fun _ hsl => .ite (.pure trivial) <|
    .bind keeps_allBlocks fun _ _ => .ite (keeps_namePathOrCallObject hsl) <|
    .bind keeps_scopeCurrent fun _ _ => .bind keeps_getTree fun _ _ => .bind keeps_liftR fun _ _ =>
    .bind keeps_liftR fun _ _ => .ite (.pure trivial) <|
    .bind keeps_objectAt fun _ _ => .bind keeps_newObject fun _ _ => .seq (keeps_updObj fun _ h => h) <|
    .seq (keeps_updObj fun _ _ => trivial) <| .bind keeps_scopeCurrent fun _ _ => .bind keeps_derefP fun _ _ =>
    .seq keeps_append <| .bind keeps_derefP fun _ _ => .bind keeps_getObj fun _ _ => .ite (.pure trivial) <|
    .seq (keeps_updObj fun _ h => h) <| .seq (keeps_updObj fun _ h => h) <|
    .bind keeps_getObj fun _ _ => .seq keeps_scopeEnter <| .bind keeps_getTree fun _ _ =>
    .bind keeps_liftR fun _ _ => .bind keeps_derefP fun _ _ => .bind keeps_u64Value fun _ _ =>
    .bind (ih.methodArgs _) fun _ _ =>
    .ite (.seq keeps_scopeExit <| .pure trivial) (.seq keeps_scopeExit <| .pure trivial)

theorem keeps_methodArgsLoop_succ {n : Nat} : Keeps (PInv d) (methodArgsLoop d (f + 1) n) (fun _ => True) := by
  cases n with
  | zero => rw [methodArgsLoop]; exact .pure trivial
  | succ n =>
    rw [methodArgsLoop]
    exact .bind ih.nextObject fun _ _ => .ite (.pure trivial) (ih.methodArgs _)

theorem keeps_parseStrictTermArg_succ {c : Nat} :
    Keeps (PInv d) (parseStrictTermArg d (f + 1) c) (fun _ => True) := by
  rw [parseStrictTermArg]
  -- the common tail `if p.r.EOF() { p.popPkgEnd() }; return termObj, res`
  have tail (r : Option Nat × PRes) : Keeps (PInv d)
      (lex eof >>= fun b => if b = true then popPkgEnd d >>= fun _ => pure r else pure r) (fun _ => True) :=
    .bind keeps_eof fun _ _ => .ifThen keeps_popPkgEnd (.pure trivial)
  exact .bind keeps_offset fun _ _ => .bind (keeps_lex_safe (safe_peekNextOpcode d)) fun _ _ =>
    .ite (.bind keeps_getObj fun _ _ => .seq keeps_scopeEnter <| .bind ih.namePath fun _ _ =>
      .seq keeps_scopeExit <|
      .ite (.bind keeps_getObj fun _ _ => .bind keeps_objectAt fun _ _ => .bind keeps_derefP fun _ _ =>
        .seq keeps_detach <| .bind (.pure (φ := fun _ => True) trivial) fun _ _ => tail _)
        (.bind (.pure (φ := fun _ => True) trivial) fun _ _ => tail _)) <|
    .ite (.pure trivial) <|
    .bind keeps_nextOpcode fun _ _ => .bind keeps_newObject fun _ _ => .seq (keeps_updObj fun _ h => h) <|
    .seq keeps_append <| .bind (ih.objectArgs _) fun _ _ => .seq keeps_detach <| tail _

theorem keeps_parseTarget_succ (hd : d.size + 1024 ≤ 4294967296) :
    Keeps (PInv d) (parseTarget d (f + 1)) (fun _ => True) := by
  rw [parseTarget]
  exact .bind keeps_offset fun _ _ => .bind keeps_nextOpcode fun _ _ =>
    .ite (.ite (.pure trivial) <|
      .ite (.bind keeps_newObject fun _ _ => .seq (keeps_updObj fun _ h => h) <|
        .bind (ih.objectArgs _) fun _ _ => .pure trivial) (.pure trivial)) <|
    .seq keeps_setOffset <| .bind keeps_newObject fun _ _ => .seq (keeps_updObj fun _ h => h) <|
    .bind (keeps_setNameValue hd) fun _ _ => .pure trivial

end

theorem firstPassKeeps (hd : d.size + 1024 ≤ 4294967296) (f : Nat) : FirstPassKeeps d f := by
  induction f with
  | zero =>
    constructor
    · rw [parseNextObject]; exact .throw _
    · intro c; rw [parseObjectArgs]; exact .throw _
    · intro i c a; unfold parseArgs; exact .throw _
    · intro i c a; rw [parseArg]; exact .throw _
    · rw [termListLoop]; exact .throw _
    · rw [parseNamePathOrMethodCall]; exact .throw _
    · intro n; rw [methodArgsLoop]; exact .throw _
    · intro c; rw [parseStrictTermArg]; exact .throw _
    · rw [parseTarget]; exact .throw _
  | succ f ih => exact
    ⟨keeps_parseNextObject_succ ih, fun _ => keeps_parseObjectArgs_succ ih, fun _ _ _ => keeps_parseArgs_succ ih,
     fun _ _ _ => keeps_parseArg_succ ih hd, keeps_termListLoop_succ ih, keeps_parseNamePathOrMethodCall_succ ih hd,
     fun _ => keeps_methodArgsLoop_succ ih, fun _ => keeps_parseStrictTermArg_succ ih, keeps_parseTarget_succ ih hd⟩

theorem keeps_objectListInner (hd : d.size + 1024 ≤ 4294967296) {fuel n : Nat} :
    Keeps (PInv d) (objectListInner d fuel n) (fun _ => True) := by
  induction n with
  | zero => exact .throw _
  | succ n ih =>
    rw [objectListInner]
    exact .bind keeps_eof fun _ _ => .ite (.pure trivial) <|
      .bind (firstPassKeeps hd fuel).nextObject fun _ _ => .ite (.pure trivial) ih

theorem keeps_parseObjectList (hd : d.size + 1024 ≤ 4294967296) (fuel n : Nat) :
    Keeps (PInv d) (parseObjectList d fuel n) (fun _ => True) := by
  induction n with
  | zero => exact .throw _
  | succ n ih =>
    rw [parseObjectList]
    exact .bind keeps_stackSizes fun _ _ => .ite (.pure trivial) <|
      .bind (keeps_objectListInner hd) fun _ _ => .ite (.pure trivial) <|
      .bind keeps_stackSizes fun _ _ => .ifThen keeps_scopeExit <| .seq keeps_popPkgEnd <| ih

theorem keeps_attachSiblingsAsArgs {p t : Nat} {u : Bool} {n i : Nat} :
    Keeps (PInv d) (attachSiblingsAsArgs p t u n i) (fun _ => True) := by
  induction n generalizing i with
  | zero => exact .pure trivial
  | succ n ih =>
    unfold attachSiblingsAsArgs
    extract_lets rest
    have hrest (si : Nat) : Keeps (PInv d) (rest si) (fun _ => True) :=
      .ite (.pure trivial) <| .bind keeps_objectAt fun _ _ => .bind keeps_derefP fun _ _ => .bind keeps_getObj fun _ _ =>
      .bind keeps_objectAt fun _ _ => .bind keeps_derefP fun _ _ => .seq keeps_detach <|
      .seq keeps_append <| ih
    exact .ite (.bind keeps_getObj fun _ _ => .bind (.pure (φ := fun _ => True) trivial) fun _ _ => hrest _)
      (.bind (.pure (φ := fun _ => True) trivial) fun _ _ => hrest _)

theorem keeps_firstTermArg {info n i c : Nat} : Keeps I (firstTermArg info n i c) (fun _ => True) := by
  induction n generalizing i with
  | zero => exact .pure trivial
  | succ n ih =>
    rw [firstTermArg]
    exact .ite (.bind keeps_optP fun _ _ => .ite (.pure trivial) ih) (.pure trivial)

theorem keeps_numArgs {o : Nat} : Keeps I (numArgs o) (fun _ => True) :=
  .bind keeps_getTree fun _ _ => keeps_liftR
theorem keeps_prevOf {o : Nat} : Keeps I (prevOf o) (fun _ => True) :=
  .bind keeps_getObj fun _ _ => .pure trivial
theorem keeps_nextOf {o : Nat} : Keeps I (nextOf o) (fun _ => True) :=
  .bind keeps_getObj fun _ _ => .pure trivial

theorem keeps_revWalk {I : PState → Prop} {after : Nat → Nat → P PRes → P PRes} {V : Nat → Nat → P PRes}
    {L : Nat → Nat → Nat → P PRes} (hw : RevWalk after V L)
    (hafter : ∀ o a k, Keeps I k (fun _ => True) → Keeps I (after o a k) (fun _ => True)) (f : Nat) :
    (∀ i, Keeps I (V f i) (fun _ => True)) ∧ (∀ o i, Keeps I (L f o i) (fun _ => True)) := by
  induction f with
  | zero => exact ⟨fun i => by rw [hw.v0]; exact .throw _, fun o i => by rw [hw.l0]; exact .throw _⟩
  | succ f ih =>
    constructor
    · intro i; rw [hw.v]
      exact .bind keeps_objectAt fun _ _ => .bind keeps_derefP fun _ _ => .bind keeps_getObj fun _ _ => ih.2 _ _
    · intro o i; rw [hw.l]
      exact .ite (.pure trivial) <| .bind keeps_objectAt fun _ _ => .bind keeps_derefP fun _ _ =>
        .bind keeps_getObj fun _ _ => .bind (ih.1 _) fun _ _ => .ite (.pure trivial) <|
        hafter _ _ _ (.bind keeps_prevOf fun _ _ => ih.2 _ _)

theorem keeps_afterStep {I : PState → Prop} {step : Nat → Nat → P Bool} (hs : ∀ o a, Keeps I (step o a) (fun _ => True))
    (o a : Nat) (k : P PRes) (hk : Keeps I k (fun _ => True)) : Keeps I (afterStep step o a k) (fun _ => True) :=
  .bind (hs o a) fun _ _ => .ite (.pure trivial) hk

theorem keeps_connectNamedStep {obj argObj : Nat} : Keeps (PInv d) (connectNamedStep d obj argObj) (fun _ => True) :=
  .bind keeps_getObj fun _ _ => .bind keeps_optP fun _ _ => .bind keeps_tableHandle fun _ _ => .ite (.pure trivial) <|
    .bind keeps_objectAt fun _ _ => .bind keeps_derefP fun _ _ => .bind keeps_getObj fun _ _ => by
    split
    · exact .pure trivial
    · exact .ite (.pure trivial) <| .seq (keeps_updObj fun _ h => h) <| .bind keeps_optP fun _ _ =>
        .bind keeps_firstTermArg fun _ _ => .bind keeps_numArgs fun _ _ => .ite (.pure trivial) <|
        .bind keeps_nextOf fun _ _ => .bind keeps_attachSiblingsAsArgs fun _ _ => .ite (.pure trivial) (.pure trivial)

theorem keeps_connectNamed (f : Nat) :
    (∀ i, Keeps (PInv d) (connectNamedObjArgs d f i) (fun _ => True)) ∧
    (∀ o i, Keeps (PInv d) (connectNamedLoop d f o i) (fun _ => True)) :=
  keeps_revWalk (connectNamed_rev d) (fun _ _ _ hk => .bind keeps_connectNamedStep fun x _ => match x with
      | .inl _ => .pure trivial
      | .inr _ => hk) f

theorem keeps_findScopeBlock {f i : Nat} : Keeps I (findScopeBlock f i) (fun _ => True) := by
  induction f generalizing i with
  | zero => exact .throw _
  | succ f ih =>
    rw [findScopeBlock]
    exact .ite (.pure trivial) <| .bind keeps_objectAt fun _ _ => .bind keeps_derefP fun _ _ =>
      .bind keeps_getObj fun _ _ => .ite (.pure trivial) ih

theorem keeps_scopeBlockOf {f t : Nat} : Keeps I (scopeBlockOf f t) (fun _ => True) :=
  .bind keeps_getObj fun _ _ => .ite keeps_findScopeBlock (.pure trivial)

theorem keeps_moveContents {c t f i : Nat} : Keeps (PInv d) (moveContents c t f i) (fun _ => True) := by
  induction f generalizing i with
  | zero => exact .throw _
  | succ f ih =>
    rw [moveContents]
    exact .ite (.pure trivial) <| .bind keeps_objectAt fun _ _ => .bind keeps_derefP fun _ _ =>
      .bind keeps_nextOf fun _ _ => .seq keeps_detach <| .seq keeps_append <| ih

theorem keeps_bytesValue {i : Nat} : Keeps I (bytesValue d i) (fun _ => True) :=
  .bind keeps_getObj fun _ _ => by
    split
    · exact .pure trivial
    · exact .throw _

theorem keeps_mergeScope {fuel obj : Nat} : Keeps (PInv d) (mergeScope d fuel obj) (fun _ => True) :=
  .bind keeps_getObj fun _ _ => .bind keeps_objectAt fun _ _ => .bind keeps_derefP fun _ _ =>
    .bind keeps_bytesValue fun _ _ => .bind keeps_getTree fun _ _ => .bind keeps_liftR fun _ _ =>
    .ite (.bind keeps_passCounters fun _ _ => .ite (.pure trivial) (.pure trivial)) <|
    .bind keeps_objectAt fun _ _ => .bind keeps_derefP fun _ _ => .bind keeps_scopeBlockOf fun x _ => match x with
      | none => .pure trivial
      | some _ => .bind keeps_getObj fun _ _ => .bind keeps_objectAt fun _ _ => .bind keeps_derefP fun _ _ =>
        .bind keeps_getObj fun _ _ => .seq keeps_moveContents <| .seq keeps_free <|
        .seq keeps_free <| .seq keeps_free <|
        .seq (keeps_modify fun _ => ⟨rfl, rfl⟩) <| .pure trivial

theorem keeps_fwdLoopBody {I : PState → Prop} {V : Nat → P PRes} {L : Nat → PRes → P PRes} {sib : Nat} {res : PRes}
    (hV : ∀ i, Keeps I (V i) (fun _ => True)) (hL : ∀ i r, Keeps I (L i r) (fun _ => True)) :
    Keeps I (fwdLoopBody V L sib res) (fun _ => True) :=
  .ite (.pure trivial) <| .bind keeps_objectAt fun _ _ => .bind keeps_derefP fun _ _ =>
    .bind keeps_getObj fun _ _ => .bind (hV _) fun x _ => match x with
      | .failed => .pure trivial
      | .requireExtraPass => hL _ _
      | .ok => hL _ _
      | .shortCircuit => hL _ _

theorem keeps_merge (f : Nat) :
    (∀ i, Keeps (PInv d) (mergeScopeDirectives d f i) (fun _ => True)) ∧
    (∀ i r, Keeps (PInv d) (mergeLoop d f i r) (fun _ => True)) := by
  induction f with
  | zero =>
    constructor
    · intro i; rw [mergeScopeDirectives]; exact .throw _
    · intro i r; rw [mergeLoop]; exact .throw _
  | succ f ih =>
    constructor
    · intro i; rw [mergeScopeDirectives]
      exact .bind keeps_objectAt fun _ _ => .bind keeps_derefP fun _ _ => .bind keeps_getObj fun _ _ =>
        .ifThen (keeps_modify fun _ => ⟨rfl, rfl⟩) <| .bind keeps_optP fun _ _ => .ite (.pure trivial) <|
        .bind keeps_tableHandle fun _ _ =>
        .ite (.ite (.pure trivial) <| .bind keeps_mergeScope fun x _ => match x with
          | .inl _ => .pure trivial
          | .inr _ => ih.2 _ _) (ih.2 _ _)
    · intro i r
      exact keeps_fwdLoopBody (V := mergeScopeDirectives d f) (L := mergeLoop d f) ih.1 ih.2

theorem keeps_isAncestorOrSelf {o f a : Nat} : Keeps I (isAncestorOrSelf o f a) (fun _ => True) := by
  induction f generalizing a with
  | zero => exact .throw _
  | succ f ih =>
    rw [isAncestorOrSelf]
    exact .ite (.pure trivial) <| .bind keeps_getObj fun _ _ => .ite (.pure trivial) <|
      .bind keeps_objectAt fun _ _ => .bind keeps_derefP fun _ _ => .bind keeps_getObj fun _ _ => ih

theorem keeps_relocateOne {fuel obj off len : Nat} {bytes : List UInt8} (hfit : off + len ≤ d.size) :
    Keeps (PInv d) (relocateOne d fuel obj off len bytes) (fun _ => True) :=
  .bind keeps_getTree fun _ _ => .bind keeps_liftR fun _ _ => .bind keeps_liftR fun _ _ =>
    .ite (.bind keeps_passCounters fun _ _ => .ite (.pure trivial) (.pure trivial)) <|
    .bind keeps_objectAt fun _ _ => .bind keeps_derefP fun _ _ => .bind keeps_scopeBlockOf fun x _ => match x with
      | none => .pure trivial
      | some _ => .bind keeps_getObj fun _ _ => .bind keeps_isAncestorOrSelf fun _ _ => .ite (.pure trivial) <|
        .bind keeps_getObj fun _ _ => .bind keeps_objectAt fun _ _ => .bind keeps_derefP fun _ _ =>
        .seq keeps_detach <| .seq keeps_append <| .bind keeps_getObj fun _ _ =>
        .bind keeps_objectAt fun _ _ => .bind keeps_derefP fun _ _ =>
        .seq (keeps_updObj fun _ _ => by simp only [ValIn]; omega) <|
        .seq (keeps_modify fun _ => ⟨rfl, rfl⟩) <| .pure trivial

theorem valBytes_fit {v : Val} {nb : Nat × Nat × List UInt8} (hv : ValIn d v) (h : valBytes d v = some nb) :
    nb.1 + nb.2.1 ≤ d.size := by
  unfold valBytes at h
  split at h
  · cases h; exact hv
  · cases h

theorem keeps_relocateNamed {fuel obj : Nat} : Keeps (PInv d) (relocateNamed d fuel obj) (fun _ => True) :=
  .bind keeps_getObj fun _ _ => .bind keeps_objectAt fun _ _ => .bind keeps_derefP fun _ _ =>
    .bind keeps_getObj_val fun _ ho => by
    split
    · exact .pure trivial
    · rename_i nb hnb
      exact .ite (keeps_relocateOne (valBytes_fit ho hnb)) (.pure trivial)

theorem keeps_relocate (f : Nat) :
    (∀ i, Keeps (PInv d) (relocateNamedObjects d f i) (fun _ => True)) ∧
    (∀ i r, Keeps (PInv d) (relocateLoop d f i r) (fun _ => True)) := by
  induction f with
  | zero =>
    constructor
    · intro i; rw [relocateNamedObjects]; exact .throw _
    · intro i r; rw [relocateLoop]; exact .throw _
  | succ f ih =>
    constructor
    · intro i; rw [relocateNamedObjects]
      exact .bind keeps_objectAt fun _ _ => .bind keeps_derefP fun _ _ => .bind keeps_getObj fun _ _ =>
        .bind keeps_optP fun _ _ => .ifThen (keeps_modify fun _ => ⟨rfl, rfl⟩) <| .ite (.pure trivial) <|
        .bind keeps_tableHandle fun _ _ =>
        .ite (.bind keeps_relocateNamed fun x _ => match x with
          | .inl _ => .pure trivial
          | .inr _ => .bind keeps_getObj fun _ _ => ih.2 _ _) (ih.2 _ _)
    · intro i r
      exact keeps_fwdLoopBody (V := relocateNamedObjects d f) (L := relocateLoop d f) ih.1 ih.2

theorem keeps_popAllPkgEnds {n : Nat} : Keeps (PInv d) (popAllPkgEnds d n) (fun _ => True) := by
  induction n with
  | zero => exact .pure trivial
  | succ n ih =>
    rw [popAllPkgEnds]
    exact .bind keeps_stackSizes fun _ _ => .ite (.pure trivial) <| .seq keeps_popPkgEnd <| ih

theorem keeps_parseDeferred (hd : d.size + 1024 ≤ 4294967296) {fuel obj : Nat} :
    Keeps (PInv d) (parseDeferred d fuel obj) (fun _ => True) :=
  .bind keeps_getObj fun _ _ => .seq (keeps_modify fun _ => ⟨rfl, rfl⟩) <| .bind keeps_streamEnd fun _ _ =>
    .bind keeps_setPkgEnd fun _ _ => .seq keeps_setOffset <| .ifThen keeps_readByte <|
    .bind ((firstPassKeeps hd fuel).objectArgs _) fun _ _ => .ite (.pure trivial) <|
    .bind keeps_stackSizes fun _ _ => .seq keeps_popAllPkgEnds <| .pure trivial

theorem keeps_deferred (hd : d.size + 1024 ≤ 4294967296) (fuel f : Nat) :
    (∀ i, Keeps (PInv d) (parseDeferredBlocks d fuel f i) (fun _ => True)) ∧
    (∀ i, Keeps (PInv d) (deferredLoop d fuel f i) (fun _ => True)) := by
  induction f with
  | zero =>
    constructor
    · intro i; rw [parseDeferredBlocks]; exact .throw _
    · intro i; rw [deferredLoop]; exact .throw _
  | succ f ih =>
    constructor
    · intro i; rw [parseDeferredBlocks]
      exact .bind keeps_objectAt fun _ _ => .bind keeps_derefP fun _ _ => .bind keeps_getObj fun _ _ =>
        .bind keeps_optP fun _ _ => .bind keeps_tableHandle fun _ _ => .ite (keeps_parseDeferred hd) (ih.2 _)
    · intro i; rw [deferredLoop]
      exact .ite (.pure trivial) <| .bind (ih.1 _) fun _ _ => .ite (.pure trivial) <|
        .bind keeps_objectAt fun _ _ => .bind keeps_derefP fun _ _ => .bind keeps_nextOf fun _ _ => ih.2 _

theorem keeps_connectNonNamedStep {obj argObj : Nat} :
    Keeps (PInv d) (connectNonNamedStep obj argObj) (fun _ => True) :=
  .bind keeps_getObj fun _ _ => .bind keeps_optP fun _ _ => .bind keeps_tableHandle fun _ _ => .ite (.pure trivial) <|
    .bind keeps_optP fun _ _ => .bind keeps_firstTermArg fun _ _ => .bind keeps_numArgs fun _ _ =>
    .ite (.pure trivial) <| .bind keeps_nextOf fun _ _ => .bind keeps_attachSiblingsAsArgs fun _ _ =>
    .ite (.pure trivial) (.pure trivial)

theorem keeps_connectNonNamed (f : Nat) :
    (∀ i, Keeps (PInv d) (connectNonNamedObjArgs f i) (fun _ => True)) ∧
    (∀ o i, Keeps (PInv d) (connectNonNamedLoop f o i) (fun _ => True)) :=
  keeps_revWalk connectNonNamed_rev (keeps_afterStep fun _ _ => keeps_connectNonNamedStep) f

theorem keeps_mutateOpcode {a op : Nat} : Keeps (PInv d) (mutateOpcode a op) (fun _ => True) :=
  .seq (keeps_updObj fun _ h => h) <| keeps_updObj fun _ h => h

theorem keeps_resolveToMethod {o a r : Nat} : Keeps (PInv d) (resolveToMethod o a r) (fun _ => True) :=
  .bind keeps_getObj fun _ _ => .seq keeps_mutateOpcode <| .seq (keeps_updObj fun _ _ => trivial) <|
    .bind keeps_getTree fun _ _ => .bind keeps_liftR fun x _ => match x with
      | none => .pure trivial
      | some _ => .bind keeps_getObj fun _ _ => by
        split
        · exact .bind keeps_nextOf fun _ _ => .bind keeps_attachSiblingsAsArgs fun _ _ =>
            .ite (.pure trivial) (.pure trivial)
        · exact .pure trivial

theorem keeps_resolveStep {o a : Nat} : Keeps (PInv d) (resolveStep d o a) (fun _ => True) :=
  .bind keeps_getObj fun _ _ => .bind keeps_tableHandle fun _ _ => .ite (.pure trivial) <|
    .bind keeps_bytesValue fun _ _ => .bind keeps_getTree fun _ _ => .bind keeps_liftR fun _ _ =>
    .ite (.seq keeps_mutateOpcode <| .pure trivial) <|
    .bind keeps_objectAt fun _ _ => .bind keeps_derefP fun _ _ => .bind keeps_getObj fun _ _ =>
    .ite keeps_resolveToMethod <|
    .seq keeps_mutateOpcode <| .seq (keeps_updObj fun _ _ => trivial) <| .pure trivial

theorem keeps_resolve (f : Nat) :
    (∀ i, Keeps (PInv d) (resolveMethodCalls d f i) (fun _ => True)) ∧
    (∀ o i, Keeps (PInv d) (resolveLoop d f o i) (fun _ => True)) :=
  keeps_revWalk (resolve_rev d) (keeps_afterStep fun _ _ => keeps_resolveStep) f

theorem keeps_resolveLoopPasses (fuel n : Nat) : Keeps (PInv d) (resolveLoopPasses d fuel n) (fun _ => True) := by
  induction n with
  | zero => exact .throw _
  | succ n ih =>
    rw [resolveLoopPasses]
    exact .bind ((keeps_merge fuel).1 _) fun _ _ => .ite (.pure trivial) <|
      .bind ((keeps_relocate fuel).1 _) fun _ _ => .ite (.pure trivial) <| .ite (.pure trivial) <|
      .seq (keeps_modify fun _ => ⟨rfl, rfl⟩) <| ih

theorem keeps_parseAMLBody (hd : d.size + 1024 ≤ 4294967296) {fuel : Nat} :
    Keeps (PInv d) (parseAMLBody d fuel) (fun _ => True) :=
  .seq keeps_scopeEnter <| .bind (keeps_parseObjectList hd fuel fuel) fun _ _ => .ite (.pure trivial) <|
    .bind ((keeps_connectNamed fuel).1 _) fun _ _ => .ite (.pure trivial) <|
    .seq (keeps_modify fun _ => ⟨rfl, rfl⟩) <| .bind (keeps_resolveLoopPasses fuel fuel) fun _ _ =>
    .ite (.pure trivial) <| .bind ((keeps_deferred hd fuel fuel).1 _) fun _ _ => .ite (.pure trivial) <|
    .bind ((keeps_resolve fuel).1 _) fun _ _ => .ite (.pure trivial) <|
    .bind ((keeps_connectNonNamed fuel).1 _) fun _ _ => .ite (.pure trivial) (.pure trivial)

theorem init_establishes (handle : Nat) (s : PState) (hs : AllValsIn d s.tree) :
    ∀ a s', init d handle s = .ok (a, s') → PInv d s' := by
  intro a s' e
  obtain ⟨_, s1, e1, e⟩ := bind_ok e
  obtain ⟨_, s2, e2, e⟩ := bind_ok e
  obtain ⟨_, s3, e3, e⟩ := bind_ok e
  obtain ⟨_, rfl⟩ := pure_run e
  cases modify_run e1
  cases modify_run e2
  refine (keeps_pushPkgEnd.run _ ?_ _ _ e3).1
  exact ⟨inv_init d headerLen, hs⟩

/-- **the parser keeps every stored value inside the table** (partial correctness): whenever
`parseAML` returns — success or parse error — from a tree whose stored values lie inside `d`, the
reader window and every value stored in the resulting pool lie inside `d` -/
theorem parseAML_keeps (hd : d.size + 1024 ≤ 4294967296) (fuel handle : Nat) (s : PState) (hs : AllValsIn d s.tree) :
    ∀ ok s', parseAML d fuel handle s = .ok (ok, s') → Inv d s'.r ∧ AllValsIn d s'.tree := by
  intro ok s' e
  obtain ⟨_, s1, e1, e⟩ := bind_ok e
  exact ((keeps_parseAMLBody hd).run s1 (init_establishes handle s hs _ _ e1) _ _ e).1

end
end Firefly.AmlParser
