import Firefly.Model.Prefix
/-!
Lemmas for C16 on the prefix writer `Model/Prefix.lean`: the sink sees `prefixStream` of what `Write` is handed
(`write_stream`) and the writer is left in `lineState` of it (`write_atStart`), so that a run of calls depends on
the concatenation alone.  Both come from one induction over the byte loop, `loop_spec`.
-/
namespace Firefly.Prefix

theorem prefixStream_true_cons (pfx : List UInt8) (b : UInt8) (t : List UInt8) :
    prefixStream pfx true (b :: t) = pfx ++ prefixStream pfx false (b :: t) := by
  simp [prefixStream]

theorem prefixStream_append (pfx : List UInt8) (s : Bool) (a b : List UInt8) :
    prefixStream pfx s (a ++ b) = prefixStream pfx s a ++ prefixStream pfx (lineState s a) b := by
  induction a generalizing s with
  | nil => simp [prefixStream, lineState]
  | cons x t ih =>
    simp only [List.cons_append, prefixStream, lineState, List.foldl_cons] at ih ⊢
    rw [ih]; simp

theorem lineState_append (s : Bool) (a b : List UInt8) : lineState s (a ++ b) = lineState (lineState s a) b := by
  simp [lineState]

theorem lineState_snoc_newline (s : Bool) (a : List UInt8) : lineState s (a ++ [10]) = true := by
  simp [lineState]

/-- `seg` is the pending segment.  A newline that is the last byte gets no prefix after it here: the next call
writes that one, finding `bap = 0`. -/
theorem loop_spec (pfx : List UInt8) (p seg : List UInt8) (bap w : Nat) :
    (loop pfx p seg bap w).chunks.flatten = seg ++ prefixStream pfx false p ∧
    ((loop pfx p seg bap w).bap = 0 ↔ lineState (decide (seg = [] ∧ bap = 0)) p = true) ∧
    (loop pfx p seg bap w).written = w + seg.length + p.length := by
  induction p generalizing seg bap w with
  | nil =>
    unfold loop; split
    · next h => simp [h, prefixStream, lineState]
    · next h => simp [prefixStream, lineState, h]
  | cons b rest ih =>
    unfold loop
    by_cases hb : b = 10
    · obtain ⟨i1, i2, i3⟩ := ih [] 0 (w + (seg.length + 1))
      simp only [hb, if_true]
      refine ⟨?_, by rw [i2]; simp [lineState], by rw [i3]; simp; omega⟩
      cases rest with
      | nil => simp [loop, prefixStream]
      | cons c t =>
        simp only [reduceCtorEq, if_false, List.flatten_cons, i1, List.nil_append]
        simp [prefixStream]
    · obtain ⟨i1, i2, i3⟩ := ih (seg ++ [b]) bap w
      have hb' : (b == 10) = false := by simp [hb]
      simp only [hb, if_false]
      exact ⟨by rw [i1]; simp [prefixStream, hb'], by rw [i2]; simp [lineState, hb'], by rw [i3]; simp; omega⟩

theorem write_stream (pw : PW) (p : List UInt8) :
    (pw.write p).chunks.flatten = prefixStream pw.pfx pw.atStart p := by
  unfold PW.write PW.atStart
  cases p with
  | nil => simp [loop, prefixStream]
  | cons b t =>
    by_cases h0 : pw.bap = 0
    · simp only [h0, ne_eq, reduceCtorEq, not_false_eq_true, and_self, if_true, List.flatten_cons, (loop_spec ..).1,
        List.nil_append, decide_true]
      rw [prefixStream_true_cons]
    · simp [h0, (loop_spec ..).1]

theorem write_atStart (pw : PW) (p : List UInt8) : (pw.write p).pw.atStart = lineState pw.atStart p := by
  unfold PW.write PW.atStart
  simp only
  have := (loop_spec pw.pfx p [] pw.bap 0).2.1
  simp only [true_and] at this
  cases h : lineState (decide (pw.bap = 0)) p <;> rw [h] at this <;> simp at this <;> simp [this]

theorem write_pfx (pw : PW) (p : List UInt8) : (pw.write p).pw.pfx = pw.pfx := rfl

end Firefly.Prefix
