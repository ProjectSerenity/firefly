import Firefly.Proof.VmmMapFull
/-! The temporary mapping: `MapTemporary` of a frame that is not yet part of anything, filling the frame
through it, and unmapping it again.  `PageDirectoryTable.Init`, `reserveZeroedFrame` and the
copy-on-write handler all work on a fresh frame this way. -/
namespace Firefly.Vmm
open Firefly.Gen.C04

theorem userVA_temp : UserVA tempVA := by unfold UserVA; decide

theorem tempL_facts : UserVA (tempVA + lastEntryOff) ∧ SamePage (tempVA + lastEntryOff) tempVA ∧
    (tempVA + lastEntryOff) &&& 0xfff#64 = lastEntryOff := by
  refine ⟨by unfold UserVA; decide, by unfold SamePage; decide, by decide⟩

/-- `st'` results from `st` by a cycle "map the temporary page onto the fresh frame `F`, fill `F` with `c`
through it, unmap it": the tree may have grown by the temporary page's tables, `F` still belongs to
nothing, and the address space is as before except that the temporary page ends unmapped. -/
structure TempCycle (st st' : St) (R : W) (own own' : Own) (F : Nat) (c : Nat → W) : Prop where
  good : Good st' R own'
  grow : GrowX (· = F) st st' own own'
  fresh : own' F = none
  filled : ∀ j, st'.mem.rd F j = c j
  flushes : st'.flushes = st.flushes ++ [tempVA, tempVA]
  as : ∀ va', UserVA va' → hwEntry st'.mem R va' = if SamePage va' tempVA then none else hwEntry st.mem R va'

/-- **The temporary-page cycle.**  `mapTemporaryFn` of a fresh frame `f` (RAM, outside the tables, the
allocator and the active root) either runs out of frames for the temporary page's tables, or leaves a
state `st2` in which the temporary page shows `f`; whatever is then written *into frame `f` only*
(`m'`), the last word of `f` is reachable through the temporary page and `Unmap` of the temporary page
completes a `TempCycle`. -/
theorem temp_cycle {st : St} {R : W} {own : Own} (g : Good st R own) (hA : st.cr3 &&& hwMask = R)
    (htf : st.tmpFail = false) {f : W} (hz : (st.protect && f == st.zeroFrame) = false) (hfo : FrameOK f)
    (hfb : st.mem.backed f.toNat = true) (hfn : own f.toNat = none) (hff : ∀ x ∈ st.free, x.toNat ≠ f.toNat)
    (hfA : f.toNat ≠ frameN (st.cr3 &&& hwMask)) :
    ∃ code st2 own2, mapTemporaryFn st f = .ok ((code, if code = 0 then pageOf tempVA else 0), st2) ∧
      MapPost st st2 R own own2 tempVA ∧
      ((code = eAlloc ∧ st2.free = []) ∨
       (code = 0 ∧ mmu st2.mem st2.cr3 tempVA = some (f <<< 12) ∧ st2.mem.backed f.toNat = true ∧
        (∀ va', UserVA va' → ¬SamePage va' tempVA → hwEntry st2.mem R va' = hwEntry st.mem R va') ∧
        ∀ m' : Mem, (∀ x, m'.backed x = st2.mem.backed x) → (∀ G j, G ≠ f.toNat → m'.rd G j = st2.mem.rd G j) →
          ptePtr { st2 with mem := m' } (tempVA + lastEntryOff) = some (f.toNat, 511) ∧
          ∃ st4, unmapOp { st2 with mem := m' } (pageOf tempVA) = .ok (0, st4) ∧
            TempCycle st st4 R own own2 f.toNat (m'.rd f.toNat))) := by
  obtain ⟨code, st2, own2, hm, post, out⟩ :=
    mapOp_full g (pageOf tempVA) f (fPresent ||| fRW) (by rw [tempVA_page]; exact userVA_temp)
  rw [tempVA_page] at post out
  refine ⟨code, st2, own2, ?_, post, ?_⟩
  · simp only [mapTemporaryFn, htf, Bool.false_eq_true, if_false, mapTemporary, hz, hm]
    by_cases hc : code = 0 <;> simp [hc]
  rcases out with (⟨rfl, hfl2, has⟩ | ⟨rfl, hfe, _, _⟩) | ⟨_, _, hp, hzz, _⟩
  rotate_left
  · exact Or.inl ⟨rfl, hfe⟩
  · rw [hp, hzz] at hz; simp at hz
  have hfn2 : own2 f.toNat = none := stays_none post.newfree hfn hff
  have hasT2 : hwEntry st2.mem R tempVA = some (mkEntry f (fPresent ||| fRW)) := by
    rw [has tempVA userVA_temp, if_pos (show SamePage tempVA tempVA from rfl), if_neg (mkEntry_prw_present f)]
  have has2 : ∀ va', UserVA va' → ¬SamePage va' tempVA → hwEntry st2.mem R va' = hwEntry st.mem R va' :=
    fun va' hu' hs => by rw [has va' hu', if_neg hs]
  have hbk2 : st2.mem.backed f.toNat = true := by rw [post.regs.backed]; exact hfb
  have hcr2 : st2.cr3 &&& hwMask = R := by rw [post.regs.cr3]; exact hA
  refine Or.inr ⟨rfl, ?_, hbk2, has2, fun m' hbk hrd => ?_⟩
  · rw [post.good.mmu_eq hcr2 userVA_temp, hasT2]
    simp [mkEntry_frame hfo flagsOK_prw, show tempVA &&& 0xfff#64 = 0#64 by decide]
  obtain ⟨g3, has3⟩ := post.good.touch_unowned hfn2 (by rw [post.regs.cr3]; exact hfA) hbk hrd
  obtain ⟨tu, tsp, toff⟩ := tempL_facts
  constructor
  · unfold ptePtr
    rw [g3.mmu_eq hcr2 tu, hwEntry_samePage _ _ tsp, has3 tempVA userVA_temp, hasT2]
    simp only [Option.map, mkEntry_frame hfo flagsOK_prw, toff]
    exact physLoc_last (st := { st2 with mem := m' }) hfo (by rw [hbk]; exact hbk2)
  obtain ⟨c, st4, hum, out4⟩ := unmapOp_full g3 (pageOf tempVA) (by rw [tempVA_page]; exact userVA_temp)
  rw [tempVA_page] at out4
  rcases out4 with ⟨rfl, g4, r4, f4, fl4, foot4, _, as4⟩ | ⟨_, _, hnone⟩
  rotate_left
  · rw [has3 _ userVA_temp, hasT2] at hnone; cases hnone
  refine ⟨st4, hum, g4, ⟨post.ext, fun G j hG hGf => ?_, post.newfree, by rw [f4]; exact post.sub,
      post.regs.trans (SameRegs.trans (b := { st2 with mem := m' }) ⟨rfl, rfl, rfl, rfl, rfl, rfl, hbk⟩ r4)⟩,
    hfn2, (fun j => foot4 _ j hfn2), by rw [fl4]; show st2.flushes ++ _ = _; rw [hfl2]; simp, fun va' hu' => ?_⟩
  · rw [foot4 G j hG]; show m'.rd G j = _; rw [hrd G j hGf, post.foot G j hG id]
  · rw [as4 va' hu']
    split
    · rfl
    · rename_i ht; rw [has3 va' hu', has2 va' hu' ht]

end Firefly.Vmm
