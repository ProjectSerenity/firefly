import Firefly.Proof.AmlNodes
import Firefly.Proof.AmlConnectBase
/-!
C11, the nested fragment: `connectNamedObjArgs` on the pool the first pass built.
-/
namespace Firefly.AmlParser.F
open Firefly.AmlLex Firefly.AmlTree Firefly.C13 Firefly.AmlParser Firefly.AmlParser.G Firefly.AmlParser.S
open Firefly.Gen.C12 Firefly.AmlProg

/-- the name path and the fixed arguments of a named object: childless objects with a table row, which the reverse loop passes
one by one (`cn_leaves`) -/
theorem args_leaves {t : ObjectTree} {h x c : Nat} {es : List CArg} (kc : K t c = [])
    (infc : (slot t c).infoIndex = pOpcodeTableIndex opIntNamePath true) (args : ∀ a ∈ es, ConstT t h x a) :
    ∀ y ∈ c :: es.map (·.e), K t y = [] ∧ InfoOK (slot t y).infoIndex := by
  intro y hy
  rcases List.mem_cons.1 hy with e | hy
  · rw [e]; exact ⟨kc, by rw [infc]; exact rowSummary_info row_507⟩
  · obtain ⟨a, ha, e⟩ := List.mem_map.1 hy
    have ca := args a ha
    rw [← e]
    exact ⟨ca.ke, by rw [ca.inf]; exact (const_row a.n a.v).info⟩

/-- before `connectNamedObjArgs` reaches the nodes `ns` under `p` -/
structure CPre (d : Bytes) (t : ObjectTree) (h p : Nat) (L R : List Nat) (ns : List Node) : Prop where
  w : WF t
  lp : live t p = true
  hk : K t p = L ++ tops false ns ++ R
  ok : NodesOK d t h false p ns
  nd : (objsL ns).Nodup
  hp : p ∉ objsL ns

/-- after it has passed them -/
structure CPost (d : Bytes) (t t' : ObjectTree) (h p : Nat) (L R : List Nat) (ns : List Node) : Prop where
  w : WF t'
  hk : K t' p = L ++ tops true ns ++ R
  ok : NodesOK d t' h true p ns
  lv : ∀ y, live t' y = live t y
  frame : ∀ y, live t y = true → y ∉ objsL ns → y ≠ p → SameAt t t' y
  fp : Pay (slot t' p) = Pay (slot t p) ∧ C13.P t' p = C13.P t p
  inf : ∀ y, (slot t' y).infoIndex = (slot t y).infoIndex
  sz : t'.pool.size = t.pool.size

theorem _root_.Firefly.AmlParser.Upd.sameAt {t t' : ObjectTree} {i : Nat} {f : AmlTree.Obj → AmlTree.Obj} (u : Upd t t' i f) (w : WF t) {y : Nat}
    (hy : live t y = true) (hyi : y ≠ i) : SameAt t t' y :=
  ⟨u.links.live y, by rw [u.other y hyi], u.links.p y, kids_sameLinks w u.links hy⟩

/-- the reverse loop of `connectNamedObjArgs` under `p`, standing at the last top-level object of the node `n`, passes the
node and leaves it connected -/
def CStep (d : Bytes) (h : Nat) (n : Node) : Prop :=
  ∀ (s : PState) (g p : Nat) (A R : List Nat), WF s.tree → live s.tree p = true → K s.tree p = A ++ tops false [n] ++ R →
    NodeOK d s.tree h false false p n → n.objs.Nodup → p ∉ n.objs → s.tableHandle = h → costN n ≤ g →
    ∃ s2, connectNamedLoop d g p (lastOf (A ++ tops false [n])) s =
        connectNamedLoop d (g - (tops false [n]).length) p (lastOf A) s2 ∧
      s2 = { s with tree := s2.tree } ∧ CPost d s.tree s2.tree h p A R [n]

/-- … and passes the nodes `ns`, from the last to the first -/
def CList (d : Bytes) (h : Nat) (ns : List Node) : Prop :=
  ∀ (s : PState) (g p : Nat) (L R : List Nat), CPre d s.tree h p L R ns → s.tableHandle = h → needL ns ≤ g →
    ∃ s', connectNamedLoop d g p (lastOf (L ++ tops false ns)) s =
        connectNamedLoop d (g - (tops false ns).length) p (lastOf L) s' ∧
      s' = { s with tree := s'.tree } ∧ CPost d s.tree s'.tree h p L R ns

/-- **one `Name` declaration under the scope block `p`**: the loop passes the integer, reaches the `Name` object, connects -/
theorem cs_name {d : Bytes} {h x c k off : Nat} {seg : List UInt8} {dv : DVal} : CStep d h (.name x c k off seg dv) := by
  intro s g0 p A R w lp hk0 io ndn hpn hth hg0
  unfold NodeOK at io
  simp only [Node.objs] at ndn hpn
  have hxc : x ≠ c := by intro e; rw [e] at ndn; simp at ndn
  have hxk : x ≠ k := by intro e; rw [e] at ndn; simp at ndn
  have hck : c ≠ k := by intro e; rw [e] at ndn; simp at ndn
  obtain ⟨g, rfl⟩ : ∃ g, g0 = g + 6 := ⟨g0 - 6, by simp only [costN] at hg0; omega⟩
  have hk : K s.tree p = (A ++ [x]) ++ k :: R := by rw [hk0]; simp [tops]
  have hlast : lastOf (A ++ tops false [Node.name x c k off seg dv]) = k := by
    rw [show A ++ tops false [Node.name x c k off seg dv] = (A ++ [x]) ++ [k] by simp [tops], lastOf_snoc]
  have hkx : K s.tree x = [c] := io.kx
  have hpk : C13.P s.tree k = p := io.pk
  have hxp : x ≠ p := fun e => hpn (by simp [e])
  have hkp : k ≠ p := fun e => hpn (by simp [e])
  have hcp : c ≠ p := fun e => hpn (by simp [e])
  have hK0' : K s.tree p = A ++ x :: (k :: R) := by rw [hk]; simp
  have hpvk : Pv s.tree k = x := by
    have := pv_of_kids w lp hk
    rw [this]; simp
  have hnxx : Nx s.tree x = k := by
    have := nx_of_kids w lp hK0'
    rw [this]; rfl
  have hik : InfoOK (slot s.tree k).infoIndex := by
    rw [io.infk]
    exact (dval_row dv).info
  have hic : InfoOK (slot s.tree c).infoIndex := by
    rw [io.infc]; exact rowSummary_info row_507
  have e1 := cn_iter d (g + 5) (obj := p) w io.lk io.lk (cn_leaf d (g + 3) w io.lk io.kk)
    (cn_step_leaf d io.lk hik (fi_of_nil w io.lk io.kk))
  rw [hpvk] at e1
  obtain ⟨s', e2, hs', w', hl', hP', hK', hpay', hpayx, hsz'⟩ := cn_step_name d w lp io.lx io.lc io.lk io.opx io.infx
    (by rw [io.thx, hth]) hkx io.valc io.bytes io.seg4 io.px hpk io.kk hnxx hxk
  have hx' : live s'.tree x = true := by rw [hl']; exact io.lx
  have e3 := cn_iter d (g + 4) (obj := p) w io.lx hx' (cn_x d g w io.lx hkx io.kc hic) e2
  have hnodup : (K s.tree p).Nodup := w.chain_nodup _ _ (w.kids_chain lp)
  have hknot : k ∉ A ++ [x] := by
    have hn := hnodup
    rw [hk, List.nodup_append] at hn
    intro hm
    exact hn.2.2 _ hm _ (List.mem_cons_self ..) rfl
  have hK0n : K s'.tree p = A ++ x :: R := by
    rw [hK' p lp, if_neg (fun e => hxp e.symm), if_pos rfl, hk, List.erase_append_right _ hknot]
    simp
  have hpvx : Pv s'.tree x = lastOf A := by
    have h0' : live s'.tree p = true := by rw [hl']; exact lp
    exact pv_of_kids w' h0' hK0n
  rw [hpvx] at e3
  have pc := hpay' c (fun e => hxc e.symm)
  have pk := hpay' k (fun e => hxk e.symm)
  refine ⟨s', by rw [hlast, e1, e3]; rfl, hs', w', by rw [hK0n]; simp [tops], ?_, hl', ?_,
    ⟨hpay' p (fun e => hxp e.symm), by rw [hP', if_neg (fun e => hkp e.symm)]⟩, ?_, hsz'⟩
  · unfold NodesOK NodeOK
    refine ⟨?_, trivial⟩
    exact ⟨hx', by rw [hl']; exact io.lc, by rw [hl']; exact io.lk,
      by rw [pay_opcode hpayx]; exact io.opx, by rw [pay_info hpayx]; exact io.infx, by rw [pay_handle hpayx]; exact io.thx,
      by rw [pay_opcode pc]; exact io.opc, by rw [pay_info pc]; exact io.infc, by rw [pay_handle pc]; exact io.thc,
      by rw [pay_value pc]; exact io.valc,
      by rw [pay_opcode pk]; exact io.opk, by rw [pay_info pk]; exact io.infk, by rw [pay_handle pk]; exact io.thk,
      io.dat.of_pay pk, by rw [hK' _ io.lx, if_pos rfl]; rfl,
      by rw [hK' _ io.lc, if_neg (fun e => hxc e.symm), if_neg hcp]; exact io.kc,
      by rw [hK' _ io.lk, if_neg (fun e => hxk e.symm), if_neg hkp]; exact io.kk,
      by rw [hP', if_neg hxk]; exact io.px, by rw [hP', if_neg hck]; exact io.pc,
      by rw [hP', if_pos rfl]; rfl, fun _ => by rw [pay_name hpayx], io.bytes, io.seg4⟩
  · intro y hyl hyo hyp
    simp only [objsL, Node.objs, List.append_nil, List.mem_cons, List.mem_nil_iff, or_false, not_or] at hyo
    exact ⟨hl' y, hpay' y hyo.1, by rw [hP', if_neg hyo.2.2], by rw [hK' y hyl, if_neg hyo.1, if_neg hyp]⟩
  · intro y
    by_cases hyx : y = x
    · rw [hyx, pay_info hpayx]
    · rw [pay_info (hpay' y hyx)]

/-- **one scoped object under the scope block `p`**, given what the loop does to its contents -/
theorem cs_dev {d : Bytes} {h : Nat} {kd : BKind} {x c sb off pw : Nat} {seg : List UInt8} {es : List CArg} {kids : List Node}
    (hkids : CList d h kids) : CStep d h (.dev kd x c sb off pw seg es kids) := by
  intro s g0 p A R w lp hk0 okn ndn hpn hth hg0
  unfold NodeOK at okn
  obtain ⟨dt, hksb, okk⟩ := okn
  have hobj : (Node.dev kd x c sb off pw seg es kids).objs = [x, c, sb] ++ (es.map (·.e) ++ objsL kids) := by simp [Node.objs]
  rw [hobj] at ndn hpn
  rw [List.nodup_append] at ndn
  obtain ⟨nd3, ndek, hd3k'⟩ := ndn
  rw [List.nodup_append] at ndek
  obtain ⟨_, ndk, hdek⟩ := ndek
  have hd3k : ∀ a ∈ [x, c, sb], ∀ b ∈ objsL kids, a ≠ b := fun a ha b hb => hd3k' a ha b (List.mem_append_right _ hb)
  have hes : ∀ a ∈ es, a.e ≠ x ∧ a.e ≠ sb ∧ a.e ∉ objsL kids := fun a ha =>
    ⟨fun e => hd3k' x (by simp) a.e (List.mem_append_left _ (List.mem_map.2 ⟨a, ha, rfl⟩)) e.symm,
     fun e => hd3k' sb (by simp) a.e (List.mem_append_left _ (List.mem_map.2 ⟨a, ha, rfl⟩)) e.symm,
     fun hm => hdek a.e (List.mem_map.2 ⟨a, ha, rfl⟩) a.e hm rfl⟩
  have hesl : es.length = kd.ws.length := by rw [← dt.wsok, List.length_map]
  have hxc : x ≠ c := by intro e; rw [e] at nd3; simp at nd3
  have hxsb : x ≠ sb := by intro e; rw [e] at nd3; simp at nd3
  have hcsb : c ≠ sb := by intro e; rw [e] at nd3; simp at nd3
  have hxk : x ∉ objsL kids := fun hm => hd3k x (by simp) x hm rfl
  have hck : c ∉ objsL kids := fun hm => hd3k c (by simp) c hm rfl
  have hpk : p ∉ objsL kids := fun hm => hpn (by simp [hm])
  have hpsb : p ≠ sb := fun e => hpn (by simp [e])
  obtain ⟨g, rfl, hgk, hg, hge⟩ := costN_dev_le hg0
  rw [← hesl] at hge
  obtain ⟨s1, ek, hs1, cp⟩ := hkids s g sb [] [] ⟨w, dt.lsb, by simpa using hksb, okk, ndk, fun hm => hd3k sb (by simp) sb hm rfl⟩
    hth hgk
  have hk : K s.tree p = A ++ x :: R := by rw [hk0]; simp [tops]
  have hlast : lastOf (A ++ tops false [Node.dev kd x c sb off pw seg es kids]) = x := by
    rw [show A ++ tops false [Node.dev kd x c sb off pw seg es kids] = A ++ [x] by simp [tops], lastOf_snoc]
  have hxp : x ≠ p := fun e => hpn (by simp [e])
  -- what the contents' pass left of the device
  have sx := cp.frame x dt.lx hxk hxsb
  have sc := cp.frame c dt.lc hck hcsb
  have sp := cp.frame p lp hpk hpsb
  have w1 := cp.w
  have lx1 : live s1.tree x = true := by rw [cp.lv]; exact dt.lx
  have lc1 : live s1.tree c = true := by rw [cp.lv]; exact dt.lc
  have lsb1 : live s1.tree sb = true := by rw [cp.lv]; exact dt.lsb
  have hkx1 : K s1.tree x = c :: (es.map (·.e) ++ [sb]) := by rw [sx.2.2.2]; exact dt.kx
  have hkc1 : K s1.tree c = [] := by rw [sc.2.2.2]; exact dt.kc
  have se : ∀ a ∈ es, SameAt s.tree s1.tree a.e := fun a ha =>
    cp.frame a.e (dt.args a ha).le (hes a ha).2.2 (hes a ha).2.1
  have args1 : ∀ a ∈ es, ConstT s1.tree h x a := fun a ha => (dt.args a ha).frame (se a ha)
  have hth1 : s1.tableHandle = h := by rw [hs1]; exact hth
  -- the recursion into the device
  have hn : (tops false kids).length < g := by omega
  obtain ⟨g1, hg1⟩ : ∃ g1, g - (tops false kids).length = g1 + 1 := ⟨g - (tops false kids).length - 1, by omega⟩
  have erec_sb : connectNamedObjArgs d (g + 1) sb s = .ok (PRes.ok, s1) := by
    rw [revVisit_eq (connectNamed_rev d) w dt.lsb g, hksb]
    have : lastOf (tops false kids) = lastOf ([] ++ tops false kids) := by simp
    rw [this, ek, hg1]
    exact loop_inv d g1 sb s1
  obtain ⟨g2, hg2⟩ : ∃ g2, g = g2 + 2 := ⟨g - 2, by omega⟩
  have erec_x : connectNamedObjArgs d (g + 3) x s = .ok (PRes.ok, s1) := by
    rw [revVisit_eq (connectNamed_rev d) w dt.lx (g + 2), dt.kx, show c :: (es.map (·.e) ++ [sb]) = (c :: es.map (·.e)) ++ [sb] from rfl, lastOf_snoc]
    rw [cn_iter d (g + 1) w dt.lsb lsb1 erec_sb
      (cn_step_sb d lsb1 (by rw [pay_opcode cp.fp.1]; exact dt.opsb) (by rw [pay_info cp.fp.1]; exact dt.infsb))]
    have hpv : Pv s1.tree sb = lastOf (c :: es.map (·.e)) :=
      pv_of_kids w1 lx1 (pre := c :: es.map (·.e)) (post := []) (by rw [hkx1]; simp)
    rw [hpv]
    exact cn_leaves d w1 lx1 (c :: es.map (·.e)).length (c :: es.map (·.e)) [sb] (g + 1) rfl (by rw [hkx1]; simp)
      (args_leaves hkc1 (by rw [pay_info sc.2.1]; exact dt.infc) args1) (by
      simp only [List.length_cons, List.length_map]; omega)
  -- the loop body on the device
  obtain ⟨s2, e2, hs2, u⟩ := cn_step_named d kd.op (row_blk kd) (nestRows_ok kd.mem_rows).2.2 kd.op_ne.2.2.2.2.2.1 (p := p) w1 lx1 lc1
    (by rw [pay_opcode sx.2.1]; exact dt.opx)
    (by rw [pay_info sx.2.1]; exact dt.infx) (by rw [pay_handle sx.2.1, dt.thx, hth1]) hkx1 (by rw [pay_value sc.2.1]; exact dt.valc)
    dt.bytes dt.seg4
  have sl := u.links
  have hsl2 := u.other
  have hpx2 := congrArg Pay u.self
  have w2 : WF s2.tree := wf_of_sameLinks w1 sl
  have lx2 : live s2.tree x = true := by rw [sl.live]; exact lx1
  have hkp1 : K s1.tree p = A ++ x :: R := by rw [sp.2.2.2]; exact hk
  have lp1 : live s1.tree p = true := by rw [cp.lv]; exact lp
  have hpvx : Pv s2.tree x = lastOf A := by
    rw [sl.pv]; exact pv_of_kids w1 lp1 hkp1
  have e3 := cn_iter d (g + 3) (obj := p) w dt.lx lx2 erec_x e2
  rw [hpvx] at e3
  have s12 : ∀ y, live s1.tree y = true → y ≠ x → SameAt s1.tree s2.tree y :=
    fun y hy hyx => u.sameAt w1 hy hyx
  have pc12 := s12 c lc1 (fun e => hxc e.symm)
  have psb12 := s12 sb lsb1 (fun e => hxsb e.symm)
  refine ⟨s2, by rw [hlast, e3]; rfl, by rw [hs2, hs1], w2, by rw [kids_sameLinks w1 sl lp1, sp.2.2.2, hk]; simp [tops], ?_,
    fun y => by rw [sl.live, cp.lv], ?_,
    ⟨by rw [hsl2 p (fun e => hxp e.symm)]; exact sp.2.1, by rw [sl.p]; exact sp.2.2.1⟩, ?_, by rw [sl.size, cp.sz]⟩
  · unfold NodesOK NodeOK
    refine ⟨⟨?_, ?_, ?_⟩, trivial⟩
    · exact ⟨lx2, by rw [sl.live]; exact lc1, by rw [sl.live]; exact lsb1,
        by rw [pay_opcode hpx2, pay_opcode sx.2.1]; exact dt.opx, by rw [pay_info hpx2, pay_info sx.2.1]; exact dt.infx,
        by rw [pay_handle hpx2, pay_handle sx.2.1]; exact dt.thx,
        by rw [pay_opcode pc12.2.1, pay_opcode sc.2.1]; exact dt.opc, by rw [pay_info pc12.2.1, pay_info sc.2.1]; exact dt.infc,
        by rw [pay_handle pc12.2.1, pay_handle sc.2.1]; exact dt.thc, by rw [pay_value pc12.2.1, pay_value sc.2.1]; exact dt.valc,
        by rw [pay_opcode psb12.2.1, pay_opcode cp.fp.1]; exact dt.opsb, by rw [pay_info psb12.2.1, pay_info cp.fp.1]; exact dt.infsb,
        by rw [pay_handle psb12.2.1, pay_handle cp.fp.1]; exact dt.thsb,
        by rw [kids_sameLinks w1 sl lx1]; exact hkx1, by rw [pc12.2.2.2]; exact hkc1,
        by rw [sl.p, sx.2.2.1]; exact dt.px, by rw [sl.p, sc.2.2.1]; exact dt.pc, by rw [sl.p, cp.fp.2]; exact dt.psb,
        fun a ha => (args1 a ha).frame (s12 a.e (args1 a ha).le (hes a ha).1), dt.wsok,
        fun _ => by rw [pay_name hpx2], dt.bytes, dt.seg4⟩
    · rw [psb12.2.2.2, cp.hk]; simp
    · refine NodesOK.frame sb kids cp.ok (fun y hy => ?_)
      have hyl : live s1.tree y = true := NodesOK.live sb kids cp.ok y hy
      exact s12 y hyl (fun e => hxk (e ▸ hy))
  · intro y hyl hyo hyp
    simp only [objsL, Node.objs, List.append_nil, List.mem_append, List.mem_cons, List.mem_nil_iff, or_false, not_or] at hyo
    obtain ⟨⟨hyx, hyc, hysb⟩, hye, hyk⟩ := hyo
    exact (cp.frame y hyl hyk hysb).trans (s12 y (by rw [cp.lv]; exact hyl) hyx)
  · exact fun y => (u.keeps (·.infoIndex) rfl y).trans (cp.inf y)

/-- **one `Event` / `Mutex` declaration under the scope block `p`**: it gets its name -/
theorem cs_leaf {d : Bytes} {h : Nat} {kd : LKind} {x c off : Nat} {seg : List UInt8} {es : List CArg} :
    CStep d h (.leaf kd x c off seg es) := by
  intro s g0 p A R w lp hk0 lt ndn _ hth hg0
  unfold NodeOK at lt
  have hnd : (x :: c :: es.map (·.e)).Nodup := by simpa [Node.objs] using ndn
  have hesl : es.length = kd.ws.length := by rw [← lt.wsok, List.length_map]
  simp only [costN] at hg0
  obtain ⟨g, rfl⟩ : ∃ g, g0 = g + 1 := ⟨g0 - 1, by omega⟩
  have hg : es.length + 5 ≤ g := by omega
  have hk : K s.tree p = A ++ x :: R := by rw [hk0]; simp [tops]
  have hlast : lastOf (A ++ tops false [Node.leaf kd x c off seg es]) = x := by
    rw [show A ++ tops false [Node.leaf kd x c off seg es] = A ++ [x] by simp [tops], lastOf_snoc]
  have hxp : x ≠ p := fun e => by have := lt.px; rw [e] at this; exact w.P_ne_self lp this
  -- the recursion: only childless arguments
  obtain ⟨g1, hg1⟩ : ∃ g1, g = g1 + 1 := ⟨g - 1, by omega⟩
  have erec : connectNamedObjArgs d g x s = .ok (PRes.ok, s) := by
    rw [hg1, revVisit_eq (connectNamed_rev d) w lt.lx g1, lt.kx]
    exact cn_leaves d w lt.lx (c :: es.map (·.e)).length (c :: es.map (·.e)) [] g1 rfl (by rw [lt.kx]; simp)
      (args_leaves lt.kc lt.infc lt.args) (by
      simp only [List.length_cons, List.length_map]; omega)
  obtain ⟨s2, e2, hs2, u⟩ := cn_step_named d kd.op (row_leaf kd) (nestRows_ok kd.mem_rows).2.2 kd.op_ne.2.2.2.2.2.1 (p := p) w lt.lx lt.lc
    lt.opx lt.infx (by rw [lt.thx, hth]) lt.kx lt.valc lt.bytes lt.seg4
  have sl := u.links
  have hsl2 := u.other
  have hpx2 := congrArg Pay u.self
  have w2 : WF s2.tree := wf_of_sameLinks w sl
  have lx2 : live s2.tree x = true := by rw [sl.live]; exact lt.lx
  have e3 := cn_iter d g (obj := p) w lt.lx lx2 erec e2
  have hpvx : Pv s2.tree x = lastOf A := by rw [sl.pv]; exact pv_of_kids w lp hk
  rw [hpvx] at e3
  have s12 : ∀ y, live s.tree y = true → y ≠ x → SameAt s.tree s2.tree y :=
    fun y hy hyx => u.sameAt w hy hyx
  have hcx : c ≠ x := fun e => by rw [e] at hnd; simp at hnd
  have hex : ∀ a ∈ es, a.e ≠ x := fun a ha e => by
    have : x ∈ es.map (·.e) := List.mem_map.2 ⟨a, ha, e⟩
    simp only [List.nodup_cons, List.mem_cons, not_or] at hnd
    exact hnd.1.2 this
  have sp := s12 p lp (fun e => hxp e.symm)
  refine ⟨s2, by rw [hlast, e3]; rfl, hs2, w2, by rw [kids_sameLinks w sl lp, hk]; simp [tops], ?_, sl.live,
    fun y hyl hyo _ => s12 y hyl (fun e => hyo (by simp [objsL, Node.objs, e])), ⟨sp.2.1, sp.2.2.1⟩, ?_, sl.size⟩
  · unfold NodesOK NodeOK
    have pc := s12 c lt.lc hcx
    refine ⟨?_, trivial⟩
    exact ⟨lx2, by rw [sl.live]; exact lt.lc, by rw [pay_opcode hpx2]; exact lt.opx, by rw [pay_info hpx2]; exact lt.infx,
      by rw [pay_handle hpx2]; exact lt.thx, by rw [pay_opcode pc.2.1]; exact lt.opc, by rw [pay_info pc.2.1]; exact lt.infc,
      by rw [pay_handle pc.2.1]; exact lt.thc, by rw [pay_value pc.2.1]; exact lt.valc,
      by rw [kids_sameLinks w sl lt.lx]; exact lt.kx, by rw [pc.2.2.2]; exact lt.kc, by rw [sl.p]; exact lt.px,
      by rw [sl.p]; exact lt.pc, fun a ha => (lt.args a ha).frame (s12 a.e (lt.args a ha).le (hex a ha)),
      fun _ => by rw [pay_name hpx2], lt.bytes, lt.seg4, lt.wsok⟩
  · exact u.keeps (·.infoIndex) rfl

theorem CPost.refl {d : Bytes} {t : ObjectTree} {h p : Nat} {L R : List Nat} (w : WF t) (hk : K t p = L ++ R) :
    CPost d t t h p L R [] :=
  ⟨w, by simpa [tops] using hk, by unfold NodesOK; trivial, fun _ => rfl, fun y _ _ _ => SameAt.rfl' t y, ⟨rfl, rfl⟩, fun _ => rfl, rfl⟩

theorem CPre.after {d : Bytes} {t t1 : ObjectTree} {h p : Nat} {L R : List Nat} {ns : List Node} {n : Node}
    (pre : CPre d t h p L R (ns ++ [n])) (c : CPost d t t1 h p (L ++ tops false ns) R [n]) : CPre d t1 h p L (n.x :: R) ns := by
  have okA := ((NodesOK_append p ns [n]).1 pre.ok).1
  have hnd := pre.nd
  rw [objsL_append, List.nodup_append] at hnd
  obtain ⟨ndA, _, hdisj⟩ := hnd
  have hpA : p ∉ objsL ns := fun hm => pre.hp (by rw [objsL_append]; exact List.mem_append_left _ hm)
  refine ⟨c.w, by rw [c.lv]; exact pre.lp, by rw [c.hk, tops_true]; simp, NodesOK.frame p ns okA (fun y hy => ?_), ndA, hpA⟩
  exact c.frame y (NodesOK.live p ns okA y hy) (fun hm => hdisj y hy y hm rfl) (fun e => hpA (e ▸ hy))

theorem CPost.snoc {d : Bytes} {t t1 t2 : ObjectTree} {h p : Nat} {L R : List Nat} {ns : List Node} {n : Node}
    (pre : CPre d t h p L R (ns ++ [n])) (c1 : CPost d t t1 h p (L ++ tops false ns) R [n])
    (c2 : CPost d t1 t2 h p L (n.x :: R) ns) : CPost d t t2 h p L R (ns ++ [n]) := by
  have hnd := pre.nd
  rw [objsL_append, List.nodup_append] at hnd
  obtain ⟨_, _, hdisj⟩ := hnd
  have hpn : p ∉ objsL [n] := fun hm => pre.hp (by rw [objsL_append]; exact List.mem_append_right _ hm)
  have sa : ∀ y ∈ objsL [n], SameAt t1 t2 y := fun y hy =>
    c2.frame y (NodesOK.live p [n] c1.ok y hy) (fun hm => hdisj y hm y hy rfl) (fun e => hpn (e ▸ hy))
  refine ⟨c2.w, by rw [c2.hk, tops_append, tops_true [n]]; simp, (NodesOK_append p ns [n]).2 ⟨c2.ok, NodesOK.frame p [n] c1.ok sa⟩,
    fun y => by rw [c2.lv, c1.lv], ?_, ⟨by rw [c2.fp.1, c1.fp.1], by rw [c2.fp.2, c1.fp.2]⟩, fun y => by rw [c2.inf, c1.inf],
    by rw [c2.sz, c1.sz]⟩
  intro y hyl hyo hyp
  rw [objsL_append, List.mem_append, not_or] at hyo
  exact (c1.frame y hyl hyo.2 hyp).trans (c2.frame y (by rw [c1.lv]; exact hyl) hyo.1 hyp)

/-- **the list induction of the reverse loop**, once for every kind of node: the last node, then the nodes in front of it -/
theorem cl_of_all {d : Bytes} {h : Nat} : ∀ (k : Nat) (ns : List Node), ns.length = k → (∀ n ∈ ns, CStep d h n) → CList d h ns := by
  intro k
  induction k with
  | zero =>
    intro ns hk _ s g p L R pre _ _
    have : ns = [] := List.eq_nil_of_length_eq_zero hk
    subst this
    exact ⟨s, by simp [tops], rfl, CPost.refl pre.w (by simpa [tops] using pre.hk)⟩
  | succ k ih =>
    intro ns hk hs s g p L R pre hth hg
    rcases list_snoc_cases ns with e | ⟨ns', n, e⟩
    · subst e; cases hk
    · subst e
      rw [needL_snoc] at hg
      have okn : NodeOK d s.tree h false false p n := by
        have := ((NodesOK_append p ns' [n]).1 pre.ok).2
        unfold NodesOK at this; exact this.1
      have ndn : n.objs.Nodup := by
        have := pre.nd
        rw [objsL_append, List.nodup_append] at this
        simpa [objsL] using this.2.1
      have hpn : p ∉ n.objs := fun hm => pre.hp (by rw [objsL_append]; simp [objsL, hm])
      obtain ⟨s2, e2, hs2, c1⟩ := hs n (by simp) s g p (L ++ tops false ns') R pre.w pre.lp
        (by rw [pre.hk, tops_append]; simp) okn ndn hpn hth (by omega)
      obtain ⟨s', e', hs', c2⟩ := ih ns' (by simpa using hk) (fun m hm => hs m (by simp [hm])) s2 (g - (tops false [n]).length) p L
        (n.x :: R) (pre.after c1) (by rw [hs2]; exact hth) (by omega)
      refine ⟨s', ?_, by rw [hs', hs2], c1.snoc pre c2⟩
      rw [tops_append, ← List.append_assoc, e2, e', List.length_append]
      congr 1
      omega

mutual
theorem cs_node (d : Bytes) (h : Nat) : ∀ n : Node, CStep d h n
  | .name _ _ _ _ _ _ => cs_name
  | .dev _ _ _ _ _ _ _ _ kids => cs_dev (cl_of_all _ kids rfl (cs_list d h kids))
  | .leaf _ _ _ _ _ _ => cs_leaf
theorem cs_list (d : Bytes) (h : Nat) : ∀ (ns : List Node), ∀ n ∈ ns, CStep d h n
  | [], _, hn => nomatch hn
  | m :: ns, n, hn => by
    rcases List.mem_cons.1 hn with e | hn'
    · rw [e]; exact cs_node d h m
    · exact cs_list d h ns n hn'
end

theorem cnl (d : Bytes) (h : Nat) (ns : List Node) : CList d h ns := cl_of_all _ ns rfl (cs_list d h ns)

/-- the pool after `connectNamedObjArgs`: the old pool untouched, the nodes `ns` connected under the root -/
structure NestT (d : Bytes) (t0 t : ObjectTree) (h : Nat) (ns : List Node) : Prop where
  wf : WF t
  k0 : K t 0 = K t0 0 ++ tops true ns
  ok : NodesOK d t h true 0 ns
  old : ∀ y, live t0 y = true → live t y = true ∧ Pay (slot t y) = Pay (slot t0 y) ∧ C13.P t y = C13.P t0 y ∧
    (y ≠ 0 → K t y = K t0 y)
  nd : (objsL ns).Nodup
  new : ∀ y ∈ objsL ns, live t0 y = false

end Firefly.AmlParser.F
