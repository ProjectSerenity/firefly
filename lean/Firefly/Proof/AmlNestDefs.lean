import Firefly.Proof.AmlStrDecl
/-!
C11, the nested fragment: the programs (`PObj`), their layout in the pool (`Node`, `NodesOK`) with its frame lemmas, the table
rows of the opcodes of the fragment, and what one object of a layout is (`Role`).
-/
namespace Firefly.AmlParser.F
open Firefly.AmlLex Firefly.AmlTree Firefly.C13 Firefly.AmlParser Firefly.AmlParser.G Firefly.AmlParser.S
open Firefly.Gen.C12 Firefly.AmlProg

/-- largest value + 1 a PkgLength of `w` bytes can carry -/
def pkgBoundF (w : Nat) : Nat := if w ≤ 1 then 64 else 2 ^ (4 + 8 * (w - 1))

theorem encPkgLength_length (v w : Nat) (hw : 1 ≤ w) : (encPkgLength v w).length = w := by
  unfold encPkgLength
  split
  · simp; omega
  · simp; omega

theorem pkglen_rt (d : Bytes) (v w base pe : Nat) (hw : 1 ≤ w ∧ w ≤ 4) (hv : v < pkgBoundF w)
    (henc : ∀ i, i < w → d[base + i]? = (encPkgLength v w)[i]?) (hfit : base + w ≤ pe) :
    parsePkgLength d { offset := base, pkgEnd := pe } =
      .ok ((v, PRes.ok), { offset := base + w, pkgEnd := pe }) := by
  have hl := encPkgLength_length v w hw.1
  have := pkglen_reads (d := d) (pe := pe) v w base hw hv (fun i hi => henc i (by rwa [hl] at hi)) (by rwa [hl])
  rwa [hl] at this

/-- the scoped objects with the arguments PkgLength, NameString, fixed constants, TermList: `Device`, `ThermalZone`,
`Processor` (id, block address, block length), `PowerResource` (system level, resource order) -/
inductive BKind where
  | device
  | thermal
  | proc
  | power
  deriving DecidableEq

/-- the internal opcode (`0xff` + second opcode byte) -/
def BKind.op : BKind → Nat
  | .device => 385
  | .thermal => 388
  | .proc => 386
  | .power => 387

/-- the byte behind the extended-opcode prefix `5b` -/
def BKind.b2 : BKind → UInt8
  | .device => 0x82
  | .thermal => 0x85
  | .proc => 0x83
  | .power => 0x84

/-- widths of the fixed constant arguments between the name and the body -/
def BKind.ws : BKind → List Nat
  | .device => []
  | .thermal => []
  | .proc => [1, 4, 1]
  | .power => [1, 2]

/-- the description in the namespace (`vs`: the values of the fixed arguments, reduced to their widths) -/
def BKind.tag : BKind → List Nat → String
  | .device, _ => "device"
  | .thermal, _ => "thermal"
  | .proc, vs => s!"processor:{vs.getD 0 0}:{vs.getD 1 0}:{vs.getD 2 0}"
  | .power, vs => s!"power:{vs.getD 0 0}:{vs.getD 1 0}"

/-- a constant argument object: pool position, width in bytes (1, 2 or 4), value -/
structure CArg where
  e : Nat
  n : Nat
  v : Nat

/-- the argument type of a constant of `n` bytes: ByteData, WordData, DWordData -/
def argTy (n : Nat) : Nat := if n = 1 then 5 else if n = 2 then 6 else 7

/-- the fixed arguments: little-endian constants of the given widths -/
def encVals : List Nat → List Nat → List UInt8
  | n :: ws, v :: vs => encConst v n ++ encVals ws vs
  | _, _ => []

/-- named objects without a scope: a name and fixed constant arguments -/
inductive LKind where
  | event
  | mutex
  deriving DecidableEq

def LKind.op : LKind → Nat
  | .event => 257
  | .mutex => 256

def LKind.b2 : LKind → UInt8
  | .event => 0x02
  | .mutex => 0x01

def LKind.ws : LKind → List Nat
  | .event => []
  | .mutex => [1]

/-- `Name(NAME, data)`, `Device(NAME){…}` / `ThermalZone(NAME){…}` / `Processor(NAME, …){…}` / `PowerResource(NAME, …){…}` (PkgLength
width `pw`, fixed arguments `vals`), or `Event(NAME)` / `Mutex(NAME, sync)` -/
inductive PObj where
  | name (seg : List UInt8) (dv : DVal)
  | dev (kd : BKind) (pw : Nat) (seg : List UInt8) (vals : List Nat) (body : List PObj)
  | leaf (kd : LKind) (seg : List UInt8) (vals : List Nat)

mutual
def encP : PObj → List UInt8
  | .name seg dv => 0x08 :: (seg ++ dv.enc)
  | .dev kd pw seg vals body => [0x5b, kd.b2] ++ encPkgLength (pw + (seg.length + ((encVals kd.ws vals).length + (encPs body).length))) pw ++
      (seg ++ (encVals kd.ws vals ++ encPs body))
  | .leaf kd seg vals => [0x5b, kd.b2] ++ seg ++ encVals kd.ws vals
def encPs : List PObj → List UInt8
  | [] => []
  | o :: os => encP o ++ encPs os
end

mutual
/-- one per declaration and per fixed argument of a scoped object: the measure of pool growth (at most three objects each) and fuel -/
def sizeP : PObj → Nat
  | .name _ _ => 1
  | .dev kd _ _ _ body => 1 + kd.ws.length + sizePs body
  | .leaf _ _ _ => 1
def sizePs : List PObj → Nat
  | [] => 0
  | o :: os => sizeP o + sizePs os
end

mutual
/-- number of packages -/
def closesP : PObj → Nat
  | .name _ _ => 0
  | .dev _ _ _ _ body => 1 + closesPs body
  | .leaf _ _ _ => 0
def closesPs : List PObj → Nat
  | [] => 0
  | o :: os => closesP o + closesPs os
end

mutual
/-- well-formed: simple names, integer widths the encoder writes, PkgLength widths that hold the length -/
def okP : PObj → Prop
  | .name seg dv => NameOK [seg] ∧ seg.length = 4 ∧ dv.OK
  | .dev kd pw seg vals body => 1 ≤ pw ∧ pw ≤ 4 ∧ pw + (seg.length + ((encVals kd.ws vals).length + (encPs body).length)) < pkgBoundF pw ∧
      NameOK [seg] ∧ seg.length = 4 ∧ kd.ws.length = vals.length ∧ okPs body
  | .leaf kd seg vals => NameOK [seg] ∧ seg.length = 4 ∧ kd.ws.length = vals.length
def okPs : List PObj → Prop
  | [] => True
  | o :: os => okP o ∧ okPs os
end

/-- a constant argument object under `x` -/
structure ConstT (t : ObjectTree) (h x : Nat) (a : CArg) : Prop where
  le : live t a.e = true
  op : (slot t a.e).opcode = constOp a.n a.v
  inf : (slot t a.e).infoIndex = pOpcodeTableIndex (constOp a.n a.v) true
  th : (slot t a.e).tableHandle = h
  int : IntObj t a.e (intVal a.n a.v)
  ke : K t a.e = []
  pe : C13.P t a.e = x

theorem ConstT.frame {t t' : ObjectTree} {h x : Nat} {a : CArg} (c : ConstT t h x a) (sa : SameAt t t' a.e) : ConstT t' h x a :=
  ⟨by rw [sa.1]; exact c.le, by rw [pay_opcode sa.2.1]; exact c.op, by rw [pay_info sa.2.1]; exact c.inf,
    by rw [pay_handle sa.2.1]; exact c.th, c.int.of_pay sa.2.1, by rw [sa.2.2.2]; exact c.ke, by rw [sa.2.2.1]; exact c.pe⟩

theorem encVals_len : ∀ (ws vs : List Nat), ws.length = vs.length → (encVals ws vs).length = ws.sum
  | [], [], _ => by simp [encVals]
  | n :: ws, v :: vs, h => by
    simp only [encVals, List.length_append, encConst_length, List.sum_cons]
    rw [encVals_len ws vs (by simpa using h)]
  | [], _ :: _, h => by simp at h
  | _ :: _, [], h => by simp at h

/-- a program with the pool positions of its objects: `Name` object, name path, data object; scoped object, name path, scope block -/
inductive Node where
  | name (x c k off : Nat) (seg : List UInt8) (dv : DVal)
  | dev (kd : BKind) (x c sb off pw : Nat) (seg : List UInt8) (es : List CArg) (kids : List Node)
  | leaf (kd : LKind) (x c off : Nat) (seg : List UInt8) (es : List CArg)

mutual
def Node.prog : Node → PObj
  | .name _ _ _ _ seg dv => .name seg dv
  | .dev kd _ _ _ _ pw seg es kids => .dev kd pw seg (es.map (·.v)) (progs kids)
  | .leaf kd _ _ _ seg es => .leaf kd seg (es.map (·.v))
def progs : List Node → List PObj
  | [] => []
  | n :: ns => n.prog :: progs ns
end

/-- what the nodes contribute to the child list of their scope block: before `connectNamedObjArgs` a `Name` declaration
contributes its `Name` object and its data object, afterwards only the `Name` object -/
def tops (done : Bool) : List Node → List Nat
  | [] => []
  | .name x _ k _ _ _ :: ns => (if done then [x] else [x, k]) ++ tops done ns
  | .dev _ x _ _ _ _ _ _ _ :: ns => x :: tops done ns
  | .leaf _ x _ _ _ _ :: ns => x :: tops done ns

theorem tops_append (dn : Bool) (a b : List Node) : tops dn (a ++ b) = tops dn a ++ tops dn b := by
  induction a with
  | nil => simp [tops]
  | cons n a ih =>
    cases n with
    | name x c k off q => simp only [List.cons_append, tops, ih, List.append_assoc]
    | dev kd x c sb off pw seg es kids => simp only [List.cons_append, tops, ih]
    | leaf kd x c off seg es => simp only [List.cons_append, tops, ih]

mutual
def Node.objs : Node → List Nat
  | .name x c k _ _ _ => [x, c, k]
  | .dev _ x c sb _ _ _ es kids => [x, c, sb] ++ (es.map (·.e) ++ objsL kids)
  | .leaf _ x c _ _ es => x :: c :: es.map (·.e)
def objsL : List Node → List Nat
  | [] => []
  | n :: ns => n.objs ++ objsL ns
end

/-- the three objects of `Name(NAME, data)` under the scope block `p` -/
structure NameT (d : Bytes) (t : ObjectTree) (h p x c k off : Nat) (seg : List UInt8) (dv : DVal) (done : Bool) : Prop where
  lx : live t x = true
  lc : live t c = true
  lk : live t k = true
  opx : (slot t x).opcode = 8
  infx : (slot t x).infoIndex = pOpcodeTableIndex 8 true
  thx : (slot t x).tableHandle = h
  opc : (slot t c).opcode = opIntNamePath
  infc : (slot t c).infoIndex = pOpcodeTableIndex opIntNamePath true
  thc : (slot t c).tableHandle = h
  valc : (slot t c).value = .bytes off 4
  opk : (slot t k).opcode = dv.op
  infk : (slot t k).infoIndex = pOpcodeTableIndex dv.op true
  thk : (slot t k).tableHandle = h
  dat : DataAt d t k dv
  kx : K t x = if done then [c, k] else [c]
  kc : K t c = []
  kk : K t k = []
  px : C13.P t x = p
  pc : C13.P t c = x
  pk : C13.P t k = if done then x else p
  nm : done = true → (slot t x).name = Name.ofList seg
  bytes : BytesAt d off seg
  seg4 : seg.length = 4

/-- a scoped object, its name path and its scope block under the scope block `p`, with its constant arguments (without the
contents of its scope block) -/
structure DevT (d : Bytes) (t : ObjectTree) (h p : Nat) (kd : BKind) (x c sb off : Nat) (seg : List UInt8) (es : List CArg)
    (done : Bool) : Prop where
  lx : live t x = true
  lc : live t c = true
  lsb : live t sb = true
  opx : (slot t x).opcode = kd.op
  infx : (slot t x).infoIndex = pOpcodeTableIndex kd.op true
  thx : (slot t x).tableHandle = h
  opc : (slot t c).opcode = opIntNamePath
  infc : (slot t c).infoIndex = pOpcodeTableIndex opIntNamePath true
  thc : (slot t c).tableHandle = h
  valc : (slot t c).value = .bytes off 4
  opsb : (slot t sb).opcode = opIntScopeBlock
  infsb : (slot t sb).infoIndex = pOpcodeTableIndex opIntScopeBlock true
  thsb : (slot t sb).tableHandle = h
  kx : K t x = c :: (es.map (·.e) ++ [sb])
  kc : K t c = []
  px : C13.P t x = p
  pc : C13.P t c = x
  psb : C13.P t sb = x
  args : ∀ a ∈ es, ConstT t h x a
  wsok : es.map (·.n) = kd.ws
  nm : done = true → (slot t x).name = Name.ofList seg
  bytes : BytesAt d off seg
  seg4 : seg.length = 4

/-- the objects of `Event(NAME)` / `Mutex(NAME, sync)` under the scope block `p` -/
structure LeafT (d : Bytes) (t : ObjectTree) (h p : Nat) (kd : LKind) (x c off : Nat) (seg : List UInt8) (es : List CArg)
    (done : Bool) : Prop where
  lx : live t x = true
  lc : live t c = true
  opx : (slot t x).opcode = kd.op
  infx : (slot t x).infoIndex = pOpcodeTableIndex kd.op true
  thx : (slot t x).tableHandle = h
  opc : (slot t c).opcode = opIntNamePath
  infc : (slot t c).infoIndex = pOpcodeTableIndex opIntNamePath true
  thc : (slot t c).tableHandle = h
  valc : (slot t c).value = .bytes off 4
  kx : K t x = c :: es.map (·.e)
  kc : K t c = []
  px : C13.P t x = p
  pc : C13.P t c = x
  args : ∀ a ∈ es, ConstT t h x a
  nm : done = true → (slot t x).name = Name.ofList seg
  bytes : BytesAt d off seg
  seg4 : seg.length = 4
  wsok : es.map (·.n) = kd.ws

mutual
/-- the objects of a node are in the pool as declared; `dk`: the contents of scope blocks are connected, `dn`: the node
itself is -/
def NodeOK (d : Bytes) (t : ObjectTree) (h : Nat) (dk dn : Bool) : Nat → Node → Prop
  | p, .name x c k off seg dv => NameT d t h p x c k off seg dv dn
  | p, .dev kd x c sb off _ seg es kids => DevT d t h p kd x c sb off seg es dn ∧ K t sb = tops dk kids ∧ NodesOK d t h dk sb kids
  | p, .leaf kd x c off seg es => LeafT d t h p kd x c off seg es dn
def NodesOK (d : Bytes) (t : ObjectTree) (h : Nat) (dk : Bool) : Nat → List Node → Prop
  | _, [] => True
  | p, n :: ns => NodeOK d t h dk dk p n ∧ NodesOK d t h dk p ns
end

theorem NameT.frame {d : Bytes} {t t' : ObjectTree} {h p x c k off : Nat} {seg : List UInt8} {dv : DVal} {b : Bool} (io : NameT d t h p x c k off seg dv b)
    (hx : SameAt t t' x) (hc : SameAt t t' c) (hk : SameAt t t' k) : NameT d t' h p x c k off seg dv b := by
  obtain ⟨x1, x2, x3, x4⟩ := hx
  obtain ⟨c1, c2, c3, c4⟩ := hc
  obtain ⟨k1, k2, k3, k4⟩ := hk
  exact ⟨by rw [x1]; exact io.lx, by rw [c1]; exact io.lc, by rw [k1]; exact io.lk,
    by rw [pay_opcode x2]; exact io.opx, by rw [pay_info x2]; exact io.infx, by rw [pay_handle x2]; exact io.thx,
    by rw [pay_opcode c2]; exact io.opc, by rw [pay_info c2]; exact io.infc, by rw [pay_handle c2]; exact io.thc,
    by rw [pay_value c2]; exact io.valc,
    by rw [pay_opcode k2]; exact io.opk, by rw [pay_info k2]; exact io.infk, by rw [pay_handle k2]; exact io.thk,
    io.dat.of_pay k2, by rw [x4]; exact io.kx, by rw [c4]; exact io.kc, by rw [k4]; exact io.kk,
    by rw [x3]; exact io.px, by rw [c3]; exact io.pc, by rw [k3]; exact io.pk,
    fun hd => by rw [pay_name x2]; exact io.nm hd, io.bytes, io.seg4⟩

theorem DevT.frame {d : Bytes} {t t' : ObjectTree} {h p : Nat} {kd : BKind} {x c sb off : Nat} {seg : List UInt8} {es : List CArg}
    {b : Bool} (io : DevT d t h p kd x c sb off seg es b) (hx : SameAt t t' x) (hc : SameAt t t' c)
    (hsb : live t' sb = live t sb ∧ Pay (slot t' sb) = Pay (slot t sb) ∧ C13.P t' sb = C13.P t sb)
    (he : ∀ a ∈ es, SameAt t t' a.e) :
    DevT d t' h p kd x c sb off seg es b := by
  obtain ⟨x1, x2, x3, x4⟩ := hx
  obtain ⟨c1, c2, c3, c4⟩ := hc
  obtain ⟨k1, k2, k3⟩ := hsb
  exact ⟨by rw [x1]; exact io.lx, by rw [c1]; exact io.lc, by rw [k1]; exact io.lsb,
    by rw [pay_opcode x2]; exact io.opx, by rw [pay_info x2]; exact io.infx, by rw [pay_handle x2]; exact io.thx,
    by rw [pay_opcode c2]; exact io.opc, by rw [pay_info c2]; exact io.infc, by rw [pay_handle c2]; exact io.thc,
    by rw [pay_value c2]; exact io.valc,
    by rw [pay_opcode k2]; exact io.opsb, by rw [pay_info k2]; exact io.infsb, by rw [pay_handle k2]; exact io.thsb,
    by rw [x4]; exact io.kx, by rw [c4]; exact io.kc,
    by rw [x3]; exact io.px, by rw [c3]; exact io.pc, by rw [k3]; exact io.psb,
    fun a ha => (io.args a ha).frame (he a ha), io.wsok,
    fun hd => by rw [pay_name x2]; exact io.nm hd, io.bytes, io.seg4⟩

theorem LeafT.frame {d : Bytes} {t t' : ObjectTree} {h p : Nat} {kd : LKind} {x c off : Nat} {seg : List UInt8} {es : List CArg}
    {b : Bool} (io : LeafT d t h p kd x c off seg es b) (hx : SameAt t t' x) (hc : SameAt t t' c)
    (he : ∀ a ∈ es, SameAt t t' a.e) : LeafT d t' h p kd x c off seg es b := by
  obtain ⟨x1, x2, x3, x4⟩ := hx
  obtain ⟨c1, c2, c3, c4⟩ := hc
  exact ⟨by rw [x1]; exact io.lx, by rw [c1]; exact io.lc,
    by rw [pay_opcode x2]; exact io.opx, by rw [pay_info x2]; exact io.infx, by rw [pay_handle x2]; exact io.thx,
    by rw [pay_opcode c2]; exact io.opc, by rw [pay_info c2]; exact io.infc, by rw [pay_handle c2]; exact io.thc,
    by rw [pay_value c2]; exact io.valc, by rw [x4]; exact io.kx, by rw [c4]; exact io.kc,
    by rw [x3]; exact io.px, by rw [c3]; exact io.pc, fun a ha => (io.args a ha).frame (he a ha),
    fun hd => by rw [pay_name x2]; exact io.nm hd, io.bytes, io.seg4, io.wsok⟩

mutual
theorem NodeOK.frame {d : Bytes} {t t' : ObjectTree} {h : Nat} {dk dn : Bool} :
    ∀ (p : Nat) (n : Node), NodeOK d t h dk dn p n → (∀ y ∈ n.objs, SameAt t t' y) → NodeOK d t' h dk dn p n
  | p, .name x c k off seg dv, ok, hf => by
    unfold NodeOK at ok ⊢
    exact ok.frame (hf x (by simp [Node.objs])) (hf c (by simp [Node.objs])) (hf k (by simp [Node.objs]))
  | p, .dev kd x c sb off pw seg es kids, ok, hf => by
    unfold NodeOK at ok ⊢
    obtain ⟨o1, o2, o3⟩ := ok
    have hsb := hf sb (by simp [Node.objs])
    refine ⟨o1.frame (hf x (by simp [Node.objs])) (hf c (by simp [Node.objs])) ⟨hsb.1, hsb.2.1, hsb.2.2.1⟩
        (fun a ha => hf a.e (by
          simp only [Node.objs, List.mem_append, List.mem_cons, List.mem_map]
          exact Or.inr (Or.inl ⟨a, ha, rfl⟩))), by rw [hsb.2.2.2]; exact o2,
      NodesOK.frame sb kids o3 (fun y hy => hf y (by simp [Node.objs, hy]))⟩
  | p, .leaf kd x c off seg es, ok, hf => by
    unfold NodeOK at ok ⊢
    exact ok.frame (hf x (by simp [Node.objs])) (hf c (by simp [Node.objs]))
      (fun a ha => hf a.e (by simp only [Node.objs, List.mem_cons, List.mem_map]; exact Or.inr (Or.inr ⟨a, ha, rfl⟩)))
theorem NodesOK.frame {d : Bytes} {t t' : ObjectTree} {h : Nat} {dk : Bool} :
    ∀ (p : Nat) (ns : List Node), NodesOK d t h dk p ns → (∀ y ∈ objsL ns, SameAt t t' y) → NodesOK d t' h dk p ns
  | _, [], _, _ => by unfold NodesOK; trivial
  | p, n :: ns, ok, hf => by
    unfold NodesOK at ok ⊢
    exact ⟨NodeOK.frame p n ok.1 (fun y hy => hf y (by simp [objsL, hy])), NodesOK.frame p ns ok.2 (fun y hy => hf y (by simp [objsL, hy]))⟩
end

/-- the table rows of the scoped and of the leaf named objects -/
def nestRows : List (Nat × Bool × Bool × Bool × Nat × List Nat) :=
  [(385, true, false, false, 3, [15, 9, 1]), (388, true, false, false, 3, [15, 9, 1]),
    (386, true, false, false, 6, [15, 9, 5, 7, 5, 1]), (387, true, false, false, 5, [15, 9, 5, 6, 1]),
    (257, true, false, false, 1, [9]), (256, true, false, false, 2, [9, 5])]

/-- … as the passes and as `nextOpcode` read them; none has a term argument or a data reference -/
theorem nestRows_ok {op : Nat} {r : Bool × Bool × Bool × Nat × List Nat} (h : (op, r) ∈ nestRows) :
    rowSummary op = some r ∧ pOpcodeTableIndex op false ≠ badOpcode ∧
      ∀ k, k < r.2.2.2.1 → r.2.2.2.2.getD k 0 ≠ argTypeTermArg ∧ r.2.2.2.2.getD k 0 ≠ argTypeDataRefObj := by
  have all : (nestRows.all fun p => rowSummary p.1 == some p.2 && (pOpcodeTableIndex p.1 false != badOpcode &&
      (List.range p.2.2.2.2.1).all fun k => p.2.2.2.2.2.getD k 0 != argTypeTermArg && p.2.2.2.2.2.getD k 0 != argTypeDataRefObj)) = true := by
    decide +kernel
  simpa using List.all_eq_true.1 all _ h

theorem BKind.mem_rows (kd : BKind) :
    (kd.op, true, false, false, kd.ws.length + 3, [15, 9] ++ kd.ws.map argTy ++ [1]) ∈ nestRows := by
  cases kd <;> decide

theorem row_blk (kd : BKind) : rowSummary kd.op = some (true, false, false, kd.ws.length + 3, [15, 9] ++ kd.ws.map argTy ++ [1]) :=
  (nestRows_ok kd.mem_rows).1

theorem BKind.ws_ok (kd : BKind) : ∀ n ∈ kd.ws, n = 1 ∨ n = 2 ∨ n = 4 := by
  cases kd <;> simp [BKind.ws]

theorem BKind.ws_le (kd : BKind) : kd.ws.length ≤ 3 := by
  cases kd <;> simp [BKind.ws]

theorem BKind.op_ok (kd : BKind) : pOpcodeTableIndex (0xff + kd.b2.toNat) false ≠ badOpcode ∧
    kd.op ≠ opNoop ∧ 0xff + kd.b2.toNat = kd.op := by
  have h4 : 0xff + kd.b2.toNat = kd.op := by cases kd <;> rfl
  refine ⟨?_, by cases kd <;> decide, h4⟩
  rw [h4]
  exact (nestRows_ok kd.mem_rows).2.1

/-- the opcodes of the scoped objects are none of the opcodes the passes look for -/
theorem BKind.op_ne (kd : BKind) : kd.op ≠ opBytePrefix ∧ kd.op ≠ opWordPrefix ∧ kd.op ≠ opDwordPrefix ∧ kd.op ≠ opQwordPrefix ∧
    kd.op ≠ opStringPrefix ∧ kd.op ≠ opIntScopeBlock ∧ kd.op ≠ opScope ∧ kd.op ≠ opIntNamePathOrMethodCall ∧ kd.op ≠ 0x1fd ∧
    kd.op ≠ 0x08 := by
  cases kd <;> decide

theorem LKind.mem_rows (kd : LKind) : (kd.op, true, false, false, kd.ws.length + 1, 9 :: kd.ws.map argTy) ∈ nestRows := by
  cases kd <;> decide

theorem row_leaf (kd : LKind) : rowSummary kd.op = some (true, false, false, kd.ws.length + 1, 9 :: kd.ws.map argTy) :=
  (nestRows_ok kd.mem_rows).1

theorem LKind.ws_ok (kd : LKind) : ∀ n ∈ kd.ws, n = 1 ∨ n = 2 ∨ n = 4 := by
  cases kd <;> simp [LKind.ws]

theorem LKind.ws_le (kd : LKind) : kd.ws.length ≤ 1 := by
  cases kd <;> simp [LKind.ws]

theorem LKind.op_ok (kd : LKind) : pOpcodeTableIndex (0xff + kd.b2.toNat) false ≠ badOpcode ∧
    kd.op ≠ opNoop ∧ 0xff + kd.b2.toNat = kd.op := by
  have h4 : 0xff + kd.b2.toNat = kd.op := by cases kd <;> rfl
  refine ⟨?_, by cases kd <;> decide, h4⟩
  rw [h4]
  exact (nestRows_ok kd.mem_rows).2.1

theorem LKind.op_ne (kd : LKind) : kd.op ≠ opBytePrefix ∧ kd.op ≠ opWordPrefix ∧ kd.op ≠ opDwordPrefix ∧ kd.op ≠ opQwordPrefix ∧
    kd.op ≠ opStringPrefix ∧ kd.op ≠ opIntScopeBlock ∧ kd.op ≠ opScope ∧ kd.op ≠ opIntNamePathOrMethodCall ∧ kd.op ≠ 0x1fd ∧
    kd.op ≠ 0x08 := by
  cases kd <;> decide

/-- what an object of well-placed nodes is: a named object of the table whose first argument is a single-segment name path,
a childless object with a plain row (name path, data object, constant argument), or a scope block -/
inductive Role (t : ObjectTree) (h : Nat) : Nat → Prop
  | named {x c off op ac : Nat} {args rest : List Nat} (row : rowSummary op = some (true, false, false, ac, args))
      (h1 : op ≠ opScope) (h2 : op ≠ opIntNamePathOrMethodCall) (lx : live t x = true) (opx : (slot t x).opcode = op)
      (infx : (slot t x).infoIndex = pOpcodeTableIndex op true) (thx : (slot t x).tableHandle = h) (kx : K t x = c :: rest)
      (lc : live t c = true) (valc : (slot t c).value = .bytes off 4) : Role t h x
  | plain {y op : Nat} (row : PlainRow op) (h1 : op ≠ opScope) (h2 : op ≠ opIntNamePathOrMethodCall) (ly : live t y = true)
      (opy : (slot t y).opcode = op) (infy : (slot t y).infoIndex = pOpcodeTableIndex op true) (ky : K t y = []) : Role t h y
  | block {y : Nat} (ly : live t y = true) (opy : (slot t y).opcode = opIntScopeBlock)
      (infy : (slot t y).infoIndex = pOpcodeTableIndex opIntScopeBlock true) : Role t h y

theorem Role.lv {t : ObjectTree} {h y : Nat} : Role t h y → live t y = true
  | .named _ _ _ lx _ _ _ _ _ _ => lx
  | .plain _ _ _ ly _ _ _ => ly
  | .block ly _ _ => ly

theorem Role.path {t : ObjectTree} {h c : Nat} (lc : live t c = true) (opc : (slot t c).opcode = opIntNamePath)
    (infc : (slot t c).infoIndex = pOpcodeTableIndex opIntNamePath true) (kc : K t c = []) : Role t h c :=
  .plain (plain_of_row row_507 (fun k hk => by omega)) (by decide) (by decide) lc opc infc kc

theorem ConstT.role {t : ObjectTree} {h x : Nat} {a : CArg} (c : ConstT t h x a) : Role t h a.e :=
  .plain (const_row a.n a.v) (constOp_ne a.n a.v).1 (constOp_ne a.n a.v).2 c.le c.op c.inf c.ke

mutual
theorem NodeOK.role {d : Bytes} {t : ObjectTree} {h : Nat} {dk dn : Bool} :
    ∀ (p : Nat) (n : Node), NodeOK d t h dk dn p n → ∀ y ∈ n.objs, Role t h y
  | p, .name x c k off seg dv, ok, y, hy => by
    unfold NodeOK at ok
    simp only [Node.objs, List.mem_cons, List.mem_nil_iff, or_false] at hy
    rcases hy with rfl | rfl | rfl
    · exact .named row_8 (by decide) (by decide) ok.lx ok.opx ok.infx ok.thx (rest := if dn then [k] else [])
        (by rw [ok.kx]; cases dn <;> rfl) ok.lc ok.valc
    · exact .path ok.lc ok.opc ok.infc ok.kc
    · exact .plain (dval_row dv) dv.op_ne.1 dv.op_ne.2 ok.lk ok.opk ok.infk ok.kk
  | p, .dev kd x c sb off pw seg es kids, ok, y, hy => by
    unfold NodeOK at ok
    obtain ⟨dt, _, okk⟩ := ok
    simp only [Node.objs, List.mem_append, List.mem_cons, List.mem_nil_iff, or_false, List.mem_map] at hy
    rcases hy with (rfl | rfl | rfl) | ⟨a, ha, rfl⟩ | hy
    · exact .named (row_blk kd) kd.op_ne.2.2.2.2.2.2.1 kd.op_ne.2.2.2.2.2.2.2.1 dt.lx dt.opx dt.infx dt.thx dt.kx dt.lc dt.valc
    · exact .path dt.lc dt.opc dt.infc dt.kc
    · exact .block dt.lsb dt.opsb dt.infsb
    · exact (dt.args a ha).role
    · exact NodesOK.role sb kids okk y hy
  | p, .leaf kd x c off seg es, ok, y, hy => by
    unfold NodeOK at ok
    simp only [Node.objs, List.mem_cons, List.mem_map] at hy
    rcases hy with rfl | rfl | ⟨a, ha, rfl⟩
    · exact .named (row_leaf kd) kd.op_ne.2.2.2.2.2.2.1 kd.op_ne.2.2.2.2.2.2.2.1 ok.lx ok.opx ok.infx ok.thx ok.kx ok.lc ok.valc
    · exact .path ok.lc ok.opc ok.infc ok.kc
    · exact (ok.args a ha).role
theorem NodesOK.role {d : Bytes} {t : ObjectTree} {h : Nat} {dk : Bool} :
    ∀ (p : Nat) (ns : List Node), NodesOK d t h dk p ns → ∀ y ∈ objsL ns, Role t h y
  | _, [], _, y, hy => by simp [objsL] at hy
  | p, n :: ns, ok, y, hy => by
    unfold NodesOK at ok
    simp only [objsL, List.mem_append] at hy
    rcases hy with hy | hy
    · exact NodeOK.role p n ok.1 y hy
    · exact NodesOK.role p ns ok.2 y hy
end

theorem NodesOK.live {d : Bytes} {t : ObjectTree} {h : Nat} {dk : Bool} (p : Nat) (ns : List Node)
    (ok : NodesOK d t h dk p ns) (y : Nat) (hy : y ∈ objsL ns) : live t y = true := (NodesOK.role p ns ok y hy).lv

theorem getD_argTy {l : List Nat} (pre ws rest : List Nat) (h : l = pre ++ (ws.map argTy ++ rest)) {i : Nat} (hi : i < ws.length) :
    l.getD (pre.length + i) 0 = argTy (ws.getD i 0) := by
  rw [h, List.getD_eq_getElem?_getD, List.getElem?_append_right (Nat.le_add_right _ _), Nat.add_sub_cancel_left,
    List.getElem?_append_left (by simpa using hi), List.getElem?_map, List.getD_eq_getElem?_getD, List.getElem?_eq_getElem hi]
  rfl

/-- indices spelt `j + 1 + i`, as `named_args` takes them (here and in `LKind.row`) -/
theorem BKind.row (kd : BKind) : ∃ fl, opFlags (pOpcodeTableIndex kd.op true) = some fl ∧ hasFlag fl flagDeferParsing = false ∧
    InfoOK (pOpcodeTableIndex kd.op true) ∧ argCnt (pOpcodeTableIndex kd.op true) = kd.ws.length + 3 ∧
    argAt (pOpcodeTableIndex kd.op true) 0 = argTypePkgLen ∧ argAt (pOpcodeTableIndex kd.op true) 1 = argTypeNameString ∧
    (∀ i, i < kd.ws.length → argAt (pOpcodeTableIndex kd.op true) (1 + 1 + i) = argTy (kd.ws.getD i 0)) ∧
    argAt (pOpcodeTableIndex kd.op true) (1 + 1 + kd.ws.length) = argTypeTermList := by
  obtain ⟨fl, a1, _, _, a4, _, a6, a7, a8⟩ := rowSummary_spec (row_blk kd)
  refine ⟨fl, a1, a4, a6, a7, by rw [a8 0 (by omega)]; rfl, by rw [a8 1 (by omega)]; rfl, fun i hi => ?_, ?_⟩
  · rw [a8 (1 + 1 + i) (by omega)]; exact getD_argTy [15, 9] kd.ws [1] rfl hi
  · rw [a8 (1 + 1 + kd.ws.length) (by omega)]; cases kd <;> rfl

theorem LKind.row (kd : LKind) : InfoOK (pOpcodeTableIndex kd.op true) ∧ argCnt (pOpcodeTableIndex kd.op true) = kd.ws.length + 1 ∧
    argAt (pOpcodeTableIndex kd.op true) 0 = argTypeNameString ∧
    ∀ i, i < kd.ws.length → argAt (pOpcodeTableIndex kd.op true) (0 + 1 + i) = argTy (kd.ws.getD i 0) := by
  obtain ⟨fl, _, _, _, _, _, a6, a7, a8⟩ := rowSummary_spec (row_leaf kd)
  refine ⟨a6, a7, a8 0 (by omega), fun i hi => ?_⟩
  rw [a8 (0 + 1 + i) (by omega)]; exact getD_argTy [9] kd.ws [] (by simp) hi

end Firefly.AmlParser.F
