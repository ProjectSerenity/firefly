import Firefly.Proof.AmlRun
/-!
The steps of the object parser on an ARBITRARY well-formed pool: freed slots may exist and are reused by
`newObject`, so "new" is "not live before" (its index may lie below the pool size), and the contract `obj ∉ subtree(arg)` of
`append` is discharged from "objects that existed before keep their parents" (indices are not monotone).
Here: the state invariant `FP`, what one lexer step, payload update, new object and append do (each returns, and
leaves `FP`), the relations in which their effect is stated (`Fresh1`, `Grow`, `KFr`, `Frm`, `FrmS`, `GrowE`), the object
budget `Bud`, the run equations of the stack operations and of `init` (they always return: `pushPkgEnd_run`, `popPkgEnd_run`,
`F.init_run`; the total steps and the exact runs of the C11 fragments both read them), and the contract `FirstPassTot` of the first pass (no `.panic`, no `.outOfFuel` with fuel ≥ 13·len + 13,
`C13.WF` in the state returned), which `Proof/AmlSkipWalk.lean` proves.
-/
namespace Firefly.AmlParser.G
open Firefly.AmlLex Firefly.AmlTree Firefly.C13
open Firefly.Gen.C12

/-- an object created since `t0` is above no object of `t0`, as long as the objects of `t0` keep their parents -/
theorem not_anc_new {t0 t : ObjectTree} (w0 : WF t0) (hs : t.pool.size ≤ INV)
    (hP : ∀ x, live t0 x = true → C13.P t x = C13.P t0 x) {arg x : Nat}
    (ha : live t0 arg = false) (hx : live t0 x = true) : ¬ anc t arg x := fun h => by
  have := anc_induct hs h hx fun y _ hy hp => by rw [hP y hy] at hp ⊢; exact w0.live_p hy hp
  rw [ha] at this; cases this

theorem treeG_append {t : ObjectTree} (h : TreeG t) {obj arg : Nat} (ho : live t obj = true) (ha : live t arg = true)
    (hp : C13.P t arg = INV) (hna : ¬ anc t arg obj) :
    ∃ t', t.append obj arg = .ok t' ∧ TreeG t' ∧ Spliced t t' obj arg (La t obj) INV := by
  obtain ⟨t', e, w', s⟩ := append_spec h.wf ho ha hp hna
  exact ⟨t', e, h.ofPay w' s.pay, s⟩

theorem treeG_appendAfter {t : ObjectTree} (h : TreeG t) {obj arg nextTo : Nat} (ho : live t obj = true)
    (ha : live t arg = true) (hp : C13.P t arg = INV) (hna : ¬ anc t arg obj)
    (hn : live t nextTo = true) (hpn : C13.P t nextTo = obj) :
    ∃ t', t.appendAfter obj arg nextTo = .ok t' ∧ TreeG t' ∧ Spliced t t' obj arg nextTo (Nx t nextTo) := by
  obtain ⟨t', e, w', s⟩ := appendAfter_spec h.wf ho ha hp hna hn hpn
  exact ⟨t', e, h.ofPay w' s.pay, s⟩

/-- invariant of the parser state while objects are parsed (either mode) -/
structure FP (d : Bytes) (s : PState) : Prop where
  inv : Inv d s.r
  tree : TreeG s.tree
  scopes : ∀ x ∈ s.scopeStack.toList, live s.tree x = true

theorem FP.tp {d : Bytes} {s : PState} (h : FP d s) : TP s := tp_of_treeG h.tree

theorem FP.withR {d : Bytes} {s : PState} (h : FP d s) {r' : Reader} (hr : Inv d r') : FP d { s with r := r' } :=
  ⟨hr, h.tree, h.scopes⟩

theorem FP.withTree {d : Bytes} {s : PState} (h : FP d s) {t' : ObjectTree} (ht : TreeG t')
    (hl : ∀ x, live s.tree x = true → live t' x = true) : FP d { s with tree := t' } :=
  ⟨h.inv, ht, fun x hx => hl x (h.scopes x hx)⟩

theorem lex_step {α : Type} {d : Bytes} {x : LexM α} {R : Reader → α → Reader → Prop} (hx : LexRel d x R)
    {s : PState} (h : FP d s) :
    ∃ a s1, lex x s = .ok (a, s1) ∧ FP d s1 ∧ R s.r a s1.r ∧ s1 = { s with r := s1.r } := by
  obtain ⟨a, r', e, hi, hR⟩ := lex_ex hx h.inv
  exact ⟨a, _, e, h.withR hi, hR, rfl⟩

/-- a lexer step, then `k` from the literal state `{ s with r := r' }`: in the continuation "the tree, the stacks and the
mode are those of `s`" holds by `rfl`.  Do not rewrite there with a fact about a field of `s` (`rw [hsk]` with
`hsk : s.allBlocks = false` also rewrites inside the record, and the next run equation no longer matches): decide an
`if` on such a field with `ite_ex` / `Rs.ite`.  `omega` does not see through the record either: give a fact such as
`g.off` its reduced type (`have : r'.offset ≤ s4.r.offset := g.off`). -/
theorem lex_k {α β : Type} {d : Bytes} {x : LexM α} {R : Reader → α → Reader → Prop} (hx : LexRel d x R) {s : PState} (h : FP d s)
    {k : α → P β} {Q : β → PState → Prop}
    (hk : ∀ a r', FP d { s with r := r' } → R s.r a r' → ∃ b s', k a { s with r := r' } = .ok (b, s') ∧ Q b s') :
    ∃ b s', (lex x >>= k) s = .ok (b, s') ∧ Q b s' :=
  have ⟨a, r', e, hi, hR⟩ := lex_ex hx h.inv
  bind_ex e (hk a r' (h.withR hi) hR)

/-- `lex_k` for guarded runs -/
theorem _root_.Firefly.AmlParser.S.Rs.lex {α β : Type} {d : Bytes} {x : LexM α} {R : Reader → α → Reader → Prop}
    (hx : LexRel d x R) {s : PState} (h : FP d s) {g : Prop} {k : α → P β} {Q : β → PState → Prop}
    (hk : ∀ a r', FP d { s with r := r' } → R s.r a r' → S.Rs g (k a) { s with r := r' } Q) : S.Rs g (lex x >>= k) s Q :=
  have ⟨a, r', e, hi, hR⟩ := lex_ex hx h.inv
  S.Rs.step e (hk a r' (h.withR hi) hR)

theorem ite_ex {α : Type} {c : Prop} [Decidable c] {x y : P α} {s : PState} {Q : α → PState → Prop}
    (hx : c → ∃ a s', x s = .ok (a, s') ∧ Q a s') (hy : ¬ c → ∃ a s', y s = .ok (a, s') ∧ Q a s') :
    ∃ a s', (if c then x else y) s = .ok (a, s') ∧ Q a s' := by
  split
  · exact hx ‹_›
  · exact hy ‹_›

def _root_.Firefly.AmlParser.S.topOf (s : PState) : Nat := s.scopeStack.back?.getD INV

theorem _root_.Firefly.AmlParser.S.scopeCurrent_top {d : Bytes} {s : PState} (h : FP d s) (hne : s.scopeStack.size ≠ 0) :
    scopeCurrent s = .ok (some (S.topOf s), s) ∧ live s.tree (S.topOf s) = true ∧ S.topOf s ∈ s.scopeStack.toList := by
  unfold scopeCurrent S.topOf
  cases hb : s.scopeStack.back? with
  | none =>
    exfalso; apply hne
    simp only [Array.back?_eq_none_iff] at hb
    rw [hb]; rfl
  | some sc =>
    have hmem : sc ∈ s.scopeStack.toList := Array.mem_toList_iff.mpr (Array.mem_of_back? hb)
    have hl := h.scopes sc hmem
    refine ⟨?_, hl, hmem⟩
    simp only [objectAt_live hl, Option.getD_some]
    rfl

/-- what every first-pass function guarantees about the state it leaves; "old" objects are the ones live in `s`.
`c` bounds the objects created beyond 16 per byte consumed, `g` the scope pushes beyond the pkgEnd pushes (the
termination measure of `parseObjectList`) -/
structure Grow (c g : Nat) (s s' : PState) : Prop where
  off : s.r.offset ≤ s'.r.offset
  pool : s.tree.pool.size ≤ s'.tree.pool.size
  budget : s'.tree.pool.size + 16 * s.r.offset ≤ s.tree.pool.size + 16 * s'.r.offset + c
  oldP : ∀ x, live s.tree x = true → C13.P s'.tree x = C13.P s.tree x
  oldLive : ∀ x, live s.tree x = true → live s'.tree x = true
  sc : s.scopeStack.size ≤ s'.scopeStack.size
  pk : s.pkgEndStack.size ≤ s'.pkgEndStack.size
  scpk : s'.scopeStack.size + s.pkgEndStack.size ≤ s.scopeStack.size + s'.pkgEndStack.size + g
  pkoff : s'.pkgEndStack.size + s.r.offset ≤ s.pkgEndStack.size + s'.r.offset
  same : s'.allBlocks = s.allBlocks ∧ s'.tableHandle = s.tableHandle ∧ s'.streamEnd = s.streamEnd

theorem FP.payOnly {d : Bytes} {obj : Nat} {s s' : PState} (h : FP d s) (hp : PayOnly obj s s') (hi : Inv d s'.r)
    (hinfo : live s.tree obj = true → InfoOK (slot s'.tree obj).infoIndex) : FP d s' := by
  refine ⟨hi, ⟨wf_of_sameLinks h.tree.wf hp.links, ?_, by rw [hp.links.live]; exact h.tree.root⟩, ?_⟩
  · intro x hx
    have hx' : live s.tree x = true := by rw [← hp.links.live]; exact hx
    by_cases hxo : x = obj
    · subst hxo; exact hinfo hx'
    · rw [hp.others x hxo]; exact h.tree.info x hx'
  · intro x hx; rw [hp.scope] at hx; rw [hp.links.live]; exact h.scopes x hx

theorem upd_step {d : Bytes} {s : PState} (h : FP d s) {obj : Nat} (ho : live s.tree obj = true) (f : Obj → Obj)
    (hf : KeepsLinks f) (hl : KeepsLive s.tree obj f) (hinfo : InfoOK (f (slot s.tree obj)).infoIndex)
    (hk : KStep (slot s.tree obj) (f (slot s.tree obj)) := by exact ⟨Or.inl rfl, fun _ => ⟨rfl, rfl⟩, fun _ => rfl⟩) :
    ∃ s1, updObj obj f s = .ok ((), s1) ∧ FP d s1 ∧ PayOnly obj s s1 ∧ slot s1.tree obj = f (slot s.tree obj) ∧
      s1.r = s.r := by
  have u := upd_setAt s.tree (live_lt ho) f hf hl
  exact ⟨_, updObj_ex f (live_lt ho), ⟨h.inv, treeG_setAt h.tree obj f hf hl (fun _ => hinfo),
      fun x hx => by show live (setAt s.tree obj f) x = true; rw [u.links.live]; exact h.scopes x hx⟩,
    PayOnly.ofSetAt obj s f hf hl hk, u.self, rfl⟩

/-- one object `n` was created (in a freed slot or at the end of the pool), detached and childless; everything
else is as before, the reader moved forward with the same `pkgEnd` -/
structure Fresh1 (n : Nat) (s s' : PState) : Prop where
  nlive : live s.tree n = false
  liven : live s'.tree n = true
  size : s.tree.pool.size ≤ s'.tree.pool.size ∧ s'.tree.pool.size ≤ s.tree.pool.size + 1
  old : ∀ x, x ≠ n → slot s'.tree x = slot s.tree x
  livex : ∀ x, x ≠ n → live s'.tree x = live s.tree x
  pn : C13.P s'.tree n = INV
  fin : Fi s'.tree n = INV
  scope : s'.scopeStack = s.scopeStack
  pkg : s'.pkgEndStack = s.pkgEndStack
  same : s'.allBlocks = s.allBlocks ∧ s'.tableHandle = s.tableHandle ∧ s'.streamEnd = s.streamEnd
  pkgEnd : s'.r.pkgEnd = s.r.pkgEnd
  off : s.r.offset ≤ s'.r.offset

theorem Fresh1.ne {n : Nat} {s s' : PState} (h : Fresh1 n s s') {x : Nat} (hx : live s.tree x = true) : x ≠ n :=
  fun e => by rw [e, h.nlive] at hx; cases hx

theorem Fresh1.thenPay {n : Nat} {s s1 s2 : PState} (h : Fresh1 n s s1) (hp : PayOnly n s1 s2) : Fresh1 n s s2 := by
  refine ⟨h.nlive, by rw [hp.links.live]; exact h.liven, by rw [hp.links.size]; exact h.size, ?_, ?_,
    by rw [hp.links.p]; exact h.pn, by rw [hp.links.fi]; exact h.fin,
    by rw [hp.scope, h.scope], by rw [hp.pkg, h.pkg],
    ⟨by rw [hp.same.1, h.same.1], by rw [hp.same.2.1, h.same.2.1], by rw [hp.same.2.2, h.same.2.2]⟩,
    by rw [hp.pkgEnd, h.pkgEnd], Nat.le_trans h.off hp.off⟩
  · intro x hx; rw [hp.others x hx, h.old x hx]
  · intro x hx; rw [hp.links.live, h.livex x hx]

theorem Fresh1.afterLex {n : Nat} {s s0 s1 : PState} (hs0 : s0 = { s with r := s0.r }) (hp : s0.r.pkgEnd = s.r.pkgEnd)
    (ho : s.r.offset ≤ s0.r.offset) (h : Fresh1 n s0 s1) : Fresh1 n s s1 := by
  have ht : s0.tree = s.tree := by rw [hs0]
  have hsc : s0.scopeStack = s.scopeStack := by rw [hs0]
  have hpk : s0.pkgEndStack = s.pkgEndStack := by rw [hs0]
  have hab : s0.allBlocks = s.allBlocks ∧ s0.tableHandle = s.tableHandle ∧ s0.streamEnd = s.streamEnd := by
    rw [hs0]; exact ⟨rfl, rfl, rfl⟩
  exact ⟨by rw [← ht]; exact h.nlive, h.liven, by rw [← ht]; exact h.size, fun x hx => by rw [h.old x hx, ht],
    fun x hx => by rw [h.livex x hx, ht], h.pn, h.fin, by rw [h.scope, hsc], by rw [h.pkg, hpk],
    ⟨by rw [h.same.1, hab.1], by rw [h.same.2.1, hab.2.1], by rw [h.same.2.2, hab.2.2]⟩, by rw [h.pkgEnd, hp],
    Nat.le_trans ho h.off⟩

/-- whatever name the slot held stays: a reused slot keeps it -/
theorem newObject_step {d : Bytes} {s : PState} (h : FP d s) (op : Nat) (hsz : s.tree.pool.size < INV)
    (hinfo : InfoOK (pOpcodeTableIndex op true)) :
    ∃ n s1, newObject op s = .ok (n, s1) ∧ FP d s1 ∧ Fresh1 n s s1 ∧ s1.r = s.r ∧
      (slot s1.tree n).opcode = op ∧ (slot s1.tree n).infoIndex = pOpcodeTableIndex op true ∧ (slot s1.tree n).index = n ∧
      (slot s1.tree n).name = (slot s.tree n).name ∧ (slot s1.tree n).tableHandle = s.tableHandle := by
  obtain ⟨t', n, e, w', fr⟩ := newObject_wf h.tree.wf op (pOpcodeTableIndex op true) s.tableHandle hsz (ne_freed_of_infoOK hinfo)
  obtain ⟨⟨o, hsl, hname⟩, hs1, hs2⟩ := newObject_slot h.tree.wf e
  have e' : newObject op s = .ok (n, { s with tree := t' }) := by
    unfold newObject
    simp only [e, bind, Except.bind, pure, Except.pure]
  have hlx : ∀ x, live s.tree x = true → live t' x = true := fun x hx => by
    rw [fr.livex x fun e => by rw [e, fr.nlive] at hx; cases hx]; exact hx
  have ht : TreeG t' := by
    refine ⟨w', fun x hx => ?_, hlx 0 h.tree.root⟩
    by_cases hxn : x = n
    · rw [hxn, hsl]; exact hinfo
    · rw [fr.same x hxn]; exact h.tree.info x (by rw [← fr.livex x hxn]; exact hx)
  exact ⟨n, _, e', h.withTree ht hlx,
    ⟨fr.nlive, fr.liven, ⟨hs1, hs2⟩, fr.same, fr.livex, fr.pn, fr.fin, rfl, rfl, ⟨rfl, rfl, rfl⟩, rfl, Nat.le_refl _⟩, rfl,
    by rw [hsl]; rfl, by rw [hsl]; rfl, w'.index_eq n (live_lt fr.liven), by rw [hsl]; exact hname, by rw [hsl]; rfl⟩

/-- a new object stamped with its offset in the table: `obj := newObject(op); obj.amlOffset = off` -/
theorem newObjectAt_step {d : Bytes} {s : PState} (h : FP d s) (op off : Nat) (hsz : s.tree.pool.size < INV)
    (hinfo : InfoOK (pOpcodeTableIndex op true)) :
    ∃ n s1 s2, newObject op s = .ok (n, s1) ∧ s1.r = s.r ∧
      updObj n (fun o => { o with amlOffset := off }) s1 = .ok ((), s2) ∧ FP d s2 ∧ Fresh1 n s s2 ∧ s2.r = s.r ∧
      (slot s2.tree n).opcode = op ∧ (slot s2.tree n).infoIndex = pOpcodeTableIndex op true ∧ (slot s2.tree n).index = n ∧
      (slot s2.tree n).name = (slot s.tree n).name ∧ (slot s2.tree n).tableHandle = s.tableHandle := by
  obtain ⟨n, s1, e1, h1, f1, hr1, hop1, hinfo1, hidx1, hname1, hth1⟩ := newObject_step h op hsz hinfo
  obtain ⟨s2, e2, h2, hp2, hsl2, hr2⟩ := upd_step h1 f1.liven (fun o => { o with amlOffset := off }) (fun _ => rfl) Iff.rfl
    (h1.tree.info _ f1.liven)
  exact ⟨n, s1, s2, e1, hr1, e2, h2, f1.thenPay hp2, by rw [hr2, hr1], by rw [hsl2]; exact hop1, by rw [hsl2]; exact hinfo1,
    by rw [hsl2]; exact hidx1, by rw [hsl2]; exact hname1, by rw [hsl2]; exact hth1⟩

theorem append_step {d : Bytes} {s0 s : PState} (h : FP d s) (w0 : WF s0.tree)
    (hold : ∀ x, live s0.tree x = true → live s.tree x = true ∧ C13.P s.tree x = C13.P s0.tree x)
    {obj arg : Nat} (ho : live s0.tree obj = true) (ha0 : live s0.tree arg = false) (ha : live s.tree arg = true)
    (hp : C13.P s.tree arg = INV) :
    ∃ s1, tree (·.append obj arg) s = .ok ((), s1) ∧ FP d s1 ∧ s1 = { s with tree := s1.tree } ∧
      Spliced s.tree s1.tree obj arg (La s.tree obj) INV := by
  obtain ⟨t', e, ht', A⟩ := treeG_append h.tree (hold obj ho).1 ha hp
    (not_anc_new w0 h.tree.wf.size_le (fun x hx => (hold x hx).2) ha0 ho)
  exact ⟨_, tree_ex e, h.withTree ht' (fun x hx => by rw [A.pay.live]; exact hx), rfl, A⟩

theorem lex_offset_ex (s : PState) : lex offset s = .ok (s.r.offset, s) := rfl

theorem lex_eof_ex (s : PState) : lex eof s = .ok (s.r.eof, s) := rfl

/-- `obj.value, res = x()`, given the run of the decoder `x` -/
theorem setVal_run {α : Type} {d : Bytes} {x : LexM (α × PRes)} (mk : α → Val) {s : PState} (h : FP d s) {obj : Nat}
    (ho : live s.tree obj = true) {vr : α × PRes} {r' : Reader} (hx : Runs d x s.r vr r') :
    ∃ s', (do let vr ← lex x; updObj obj fun o => { o with value := mk vr.1 }; pure vr.2 : P PRes) s = .ok (vr.2, s') ∧
      FP d s' ∧ PayOnly obj s s' ∧ s'.r = r' ∧ slot s'.tree obj = { slot s.tree obj with value := mk vr.1 } := by
  obtain ⟨s2, e2, h2, hp2, hsl, hr2⟩ := upd_step (h.withR hx.inv) (show live ({ s with r := r' } : PState).tree obj = true from ho)
    (fun o => { o with value := mk vr.1 }) (fun _ => rfl) Iff.rfl (h.tree.info obj ho)
  exact ⟨s2, bind_ex' (lex_eq hx.run) (bind_ex' e2 rfl), h2, (PayOnly.ofR obj s r' hx.pkgEnd hx.fwd).trans hp2, hr2, hsl⟩

theorem setVal_tot {α : Type} {d : Bytes} {x : LexM (α × PRes)} {R : Reader → α × PRes → Reader → Prop} (hx : LexRel d x R)
    (hR : ∀ r a r', R r a r' → r'.pkgEnd = r.pkgEnd ∧ r.offset ≤ r'.offset) (mk : α → Val) {s : PState} (h : FP d s)
    {obj : Nat} (ho : live s.tree obj = true) :
    ∃ vr s', (do let vr ← lex x; updObj obj fun o => { o with value := mk vr.1 }; pure vr.2 : P PRes) s = .ok (vr.2, s') ∧
      FP d s' ∧ PayOnly obj s s' ∧ R s.r vr s'.r ∧ slot s'.tree obj = { slot s.tree obj with value := mk vr.1 } := by
  obtain ⟨vr, r', e, hi, hR1⟩ := hx s.r h.inv
  obtain ⟨s', e', h', hp, hr, hsl⟩ := setVal_run mk h ho ⟨e, hi, (hR _ _ _ hR1).1, (hR _ _ _ hR1).2⟩
  exact ⟨vr, s', e', h', hp, hr ▸ hR1, hsl⟩

theorem setNumValue_tot {d : Bytes} {s : PState} (h : FP d s) {obj : Nat} (ho : live s.tree obj = true) (n : Nat) :
    ∃ res s', setNumValue d obj n s = .ok (res, s') ∧ FP d s' ∧ PayOnly obj s s' ∧
      (∃ v, slot s'.tree obj = { slot s.tree obj with value := .u64 v }) ∧
      ((res = .ok ∧ s'.r.offset = s.r.offset + n) ∨ res = .failed) := by
  obtain ⟨vr, s', e, h', hp, hR, hsl⟩ := setVal_tot (rel_parseNumConstant d n) (fun _ _ _ hr => ⟨hr.1, hr.2.1⟩) Val.u64 h ho
  exact ⟨_, s', e, h', hp, ⟨vr.1, hsl⟩, hR.2.2.2⟩

theorem setStringValue_tot {d : Bytes} {s : PState} (h : FP d s) {obj : Nat} (ho : live s.tree obj = true) :
    ∃ res s', setStringValue d obj s = .ok (res, s') ∧ FP d s' ∧ PayOnly obj s s' ∧ Prog s s' res ∧
      (∃ v, slot s'.tree obj = { slot s.tree obj with value := v }) := by
  obtain ⟨vr, s', e, h', hp, hR, hsl⟩ := setVal_tot (rel_parseString d) (fun _ _ _ hr => ⟨hr.1, hr.2.1⟩) sliceVal h ho
  exact ⟨_, s', e, h', hp, hR.2.2.2, _, hsl⟩

theorem setNameValue_tot {d : Bytes} (hd : d.size + 1024 ≤ 4294967296) {s : PState} (h : FP d s) {obj : Nat}
    (ho : live s.tree obj = true) :
    ∃ res s', setNameValue d obj s = .ok (res, s') ∧ FP d s' ∧ PayOnly obj s s' ∧ Prog s s' res ∧
      (∃ v, slot s'.tree obj = { slot s.tree obj with value := v }) := by
  obtain ⟨vr, s', e, h', hp, hR, hsl⟩ := setVal_tot (rel_parseNameString d hd) (fun _ _ _ hr => ⟨hr.1, hr.2.1⟩) sliceVal h ho
  exact ⟨_, s', e, h', hp, hR.2.2.2, _, hsl⟩

theorem setOpcode_tot {d : Bytes} {s : PState} (h : FP d s) {obj : Nat} (ho : live s.tree obj = true) (op : Nat)
    (hop : op ≠ pOpIntFreedObject) (hnm : isK op = false) (hcur : isK (slot s.tree obj).opcode = false) :
    ∃ a s', setOpcode obj op s = .ok (a, s') ∧ FP d s' ∧ PayOnly obj s s' ∧ s'.r = s.r ∧
      slot s'.tree obj = { slot s.tree obj with opcode := op } := by
  unfold setOpcode
  have hl : KeepsLive s.tree obj (fun o => { o with opcode := op }) := by
    unfold KeepsLive
    constructor
    · intro hc; exact absurd hc hop
    · intro hc; exact absurd hc (live_opcode ho)
  obtain ⟨s1, e1, h1, hp1, hsl, hr1⟩ := upd_step h ho (fun o => { o with opcode := op }) (fun _ => rfl) hl (h.tree.info obj ho)
    (.ofNotK hcur hnm)
  exact ⟨(), s1, e1, h1, hp1, hr1, hsl⟩

theorem finishSimpleArg_run {d : Bytes} {s : PState} (h : FP d s) {obj : Nat} (ho : live s.tree obj = true) (res : PRes)
    (hinfo : InfoOK (pOpcodeTableIndex (slot s.tree obj).opcode true)) (hcur : isK (slot s.tree obj).opcode = false) :
    ∃ s', finishSimpleArg obj res s = .ok ((some obj, res), s') ∧ FP d s' ∧ PayOnly obj s s' ∧ s'.r = s.r ∧
      slot s'.tree obj = { slot s.tree obj with infoIndex := pOpcodeTableIndex (slot s.tree obj).opcode true } := by
  obtain ⟨s1, e1, h1, hp1, hsl, hr1⟩ := upd_step h ho
    (fun o' => { o' with infoIndex := pOpcodeTableIndex (slot s.tree obj).opcode true }) (fun _ => rfl) Iff.rfl hinfo
    (.ofNotK hcur hcur)
  exact ⟨s1, bind_ex' (getObj_live ho) (bind_ex' e1 rfl), h1, hp1, hr1, hsl⟩

theorem simpleVal_run {α : Type} {d : Bytes} {x : LexM (α × PRes)} (mk : α → Val) {s : PState} (h : FP d s)
    {obj : Nat} (ho : live s.tree obj = true) (op : Nat)
    (hinfo : InfoOK (pOpcodeTableIndex op true)) (hnm : isK op = false) (hcur : isK (slot s.tree obj).opcode = false)
    {vr : α × PRes} {r' : Reader} (hx : Runs d x s.r vr r') :
    ∃ s', (do
        setOpcode obj op
        let res ← (do let vr ← lex x; updObj obj fun o => { o with value := mk vr.1 }; pure vr.2 : P PRes)
        finishSimpleArg obj res) s = .ok ((some obj, vr.2), s') ∧
      FP d s' ∧ PayOnly obj s s' ∧ s'.r = r' ∧
      slot s'.tree obj = { slot s.tree obj with opcode := op, value := mk vr.1, infoIndex := pOpcodeTableIndex op true } := by
  obtain ⟨_, s1, e1, h1, hp1, hr1, hsl1⟩ := setOpcode_tot h ho op (ne_freed_of_infoOK hinfo) hnm hcur
  have ho1 : live s1.tree obj = true := by rw [hp1.links.live]; exact ho
  obtain ⟨s2, e2, h2, hp2, hr2, hsl2⟩ := setVal_run mk h1 ho1 (hr1 ▸ hx)
  have ho2 : live s2.tree obj = true := by rw [hp2.links.live]; exact ho1
  have hop2 : (slot s2.tree obj).opcode = op := by rw [hsl2, hsl1]
  obtain ⟨s3, e3, h3, hp3, hr3, hsl3⟩ := finishSimpleArg_run h2 ho2 vr.2 (by rw [hop2]; exact hinfo) (by rw [hop2]; exact hnm)
  exact ⟨s3, bind_ex' e1 (bind_ex' e2 e3), h3, (hp1.trans hp2).trans hp3, by rw [hr3, hr2], by rw [hsl3, hop2, hsl2, hsl1]⟩

/-- the opcode `parseSimpleArg(argType)` gives its object (`0` when it rejects the argument type) -/
def simpleOp (argType : Nat) : Nat :=
  if argType = argTypeByteData then opBytePrefix
  else if argType = argTypeWordData then opWordPrefix
  else if argType = argTypeDwordData then opDwordPrefix
  else if argType = argTypeQwordData then opQwordPrefix
  else if argType = argTypeString then opStringPrefix
  else if argType = argTypeNameString then opIntNamePath
  else 0

/-- a row of `parseSimpleArg`: an argument type whose case (`hcase`) is `setOpcode op`, the decoder `x`, `obj.value = mk a` -/
theorem simpleArg_run {d : Bytes} {s : PState} (h : FP d s) (hsz : s.tree.pool.size < INV) (argType op : Nat) {α : Type}
    (x : LexM (α × PRes)) (mk : α → Val) (hinfo : InfoOK (pOpcodeTableIndex op true))
    (hnm : isK op = false) {vr : α × PRes} {r' : Reader} (hx : Runs d x s.r vr r')
    (hcase : parseSimpleArg d argType = (do
        let obj ← newObject 0
        let off ← lex offset
        updObj obj fun o => { o with amlOffset := off }
        setOpcode obj op
        let res ← (do let r ← lex x; updObj obj fun o => { o with value := mk r.1 }; pure r.2 : P PRes)
        finishSimpleArg obj res)) :
    ∃ n s', parseSimpleArg d argType s = .ok ((some n, vr.2), s') ∧ FP d s' ∧ live s.tree n = false ∧ live s'.tree n = true ∧
      C13.P s'.tree n = INV ∧ (slot s'.tree n).value = mk vr.1 ∧ (slot s'.tree n).opcode = op ∧
      s'.r = r' ∧ Fresh1 n s s' ∧
      (slot s'.tree n).infoIndex = pOpcodeTableIndex op true ∧ (slot s'.tree n).tableHandle = s.tableHandle := by
  obtain ⟨n, s1, s3, e1, hr1, e3, h3, f3, hr3, hop3, _, _, _, hth3⟩ :=
    newObjectAt_step h 0 s.r.offset hsz (infoOK_const (by decide))
  obtain ⟨s4, e4, h4, hp4, hr4, hsl4⟩ := simpleVal_run mk h3 f3.liven op hinfo hnm (by rw [hop3]; decide) (hr3 ▸ hx)
  have f4 := f3.thenPay hp4
  refine ⟨n, s4, ?_, h4, f4.nlive, f4.liven, f4.pn, by rw [hsl4], by rw [hsl4], hr4, f4, by rw [hsl4], by rw [hsl4]; exact hth3⟩
  rw [hcase]
  exact bind_ex' e1 (bind_ex' (lex_offset_ex s1) (hr1 ▸ bind_ex' e3 e4))

/-- `RN` is what is known of `parseNameString` (at least `NameRel`) -/
theorem parseSimpleArg_full {d : Bytes} {RN : Reader → Slice × PRes → Reader → Prop}
    (hn : LexRel d (parseNameString d) RN) (hRN : ∀ r a r', RN r a r' → NameRel d r a r') {s : PState} (h : FP d s)
    (hsz : s.tree.pool.size < INV) {argType : Nat} (hs : isSimpleArg argType = true) :
    ∃ n res s', parseSimpleArg d argType s = .ok ((some n, res), s') ∧ FP d s' ∧ Fresh1 n s s' ∧
      (slot s'.tree n).opcode = simpleOp argType ∧ (slot s'.tree n).infoIndex = pOpcodeTableIndex (simpleOp argType) true ∧
      isK (slot s'.tree n).opcode = false ∧ Prog s s' res ∧ (IsNum argType → ∃ v, (slot s'.tree n).value = .u64 v) ∧
      (argType = argTypeNameString → ∃ sr r r', RN r sr r' ∧ res = sr.2 ∧ (slot s'.tree n).value = sliceVal sr.1) := by
  -- every decoder here consumes at least one byte when it succeeds
  have row : ∀ {α : Type} {x : LexM (α × PRes)} {R : Reader → α × PRes → Reader → Prop} (_ : LexRel d x R)
      (_ : ∀ r a r', R r a r' → r'.pkgEnd = r.pkgEnd ∧ r.offset ≤ r'.offset ∧ ((a.2 = .ok ∧ r.offset < r'.offset) ∨ a.2 = .failed))
      (mk : α → Val) (op : Nat), InfoOK (pOpcodeTableIndex op true) → isK op = false →
      parseSimpleArg d argType = (do
        let obj ← newObject 0
        let off ← lex offset
        updObj obj fun o => { o with amlOffset := off }
        setOpcode obj op
        let res ← (do let r ← lex x; updObj obj fun o => { o with value := mk r.1 }; pure r.2 : P PRes)
        finishSimpleArg obj res) →
      ∃ n vr s', parseSimpleArg d argType s = .ok ((some n, vr.2), s') ∧ FP d s' ∧ Fresh1 n s s' ∧
        (slot s'.tree n).opcode = op ∧ (slot s'.tree n).infoIndex = pOpcodeTableIndex op true ∧
        isK (slot s'.tree n).opcode = false ∧ Prog s s' vr.2 ∧ (slot s'.tree n).value = mk vr.1 ∧ ∃ r r', R r vr r' := by
    intro α x R hx hR mk op hinfo hnm hcase
    obtain ⟨vr, r', e, hi, hR1⟩ := hx s.r h.inv
    obtain ⟨n, s', e', h', _, _, _, hv, ho, hr, f', hi', _⟩ :=
      simpleArg_run h hsz argType op x mk hinfo hnm ⟨e, hi, (hR _ _ _ hR1).1, (hR _ _ _ hR1).2.1⟩ hcase
    exact ⟨n, vr, s', e', h', f', ho, hi', by rw [ho]; exact hnm, by have := (hR _ _ _ hR1).2.2; rwa [← hr] at this, hv, _, _, hR1⟩
  have num : ∀ k, 1 ≤ k → ∀ r a r', NumRel k r a r' →
      r'.pkgEnd = r.pkgEnd ∧ r.offset ≤ r'.offset ∧ ((a.2 = .ok ∧ r.offset < r'.offset) ∨ a.2 = .failed) :=
    fun k hk r a r' hr => ⟨hr.1, hr.2.1, hr.2.2.2.imp (fun q => ⟨q.1, by omega⟩) id⟩
  have nonum : ∀ {P : Prop}, argType = argTypeString ∨ argType = argTypeNameString → IsNum argType → P := fun ht hq => by
    rcases ht with rfl | rfl <;> rcases hq with hq | hq | hq | hq <;> cases hq
  unfold isSimpleArg at hs
  rcases of_decide_eq_true hs with rfl | rfl | rfl | rfl | rfl | rfl
  · obtain ⟨n, vr, s', e, h', f', ho', hi', hk', hp', hv', _⟩ := row (rel_parseNumConstant d 1) (num 1 (by omega)) Val.u64 opBytePrefix
      (infoOK_const (by decide)) (by decide) rfl
    exact ⟨n, _, s', e, h', f', ho', hi', hk', hp', fun _ => ⟨_, hv'⟩, fun hc => absurd hc (by decide)⟩
  · obtain ⟨n, vr, s', e, h', f', ho', hi', hk', hp', hv', _⟩ := row (rel_parseNumConstant d 2) (num 2 (by omega)) Val.u64 opWordPrefix
      (infoOK_const (by decide)) (by decide) rfl
    exact ⟨n, _, s', e, h', f', ho', hi', hk', hp', fun _ => ⟨_, hv'⟩, fun hc => absurd hc (by decide)⟩
  · obtain ⟨n, vr, s', e, h', f', ho', hi', hk', hp', hv', _⟩ := row (rel_parseNumConstant d 4) (num 4 (by omega)) Val.u64 opDwordPrefix
      (infoOK_const (by decide)) (by decide) rfl
    exact ⟨n, _, s', e, h', f', ho', hi', hk', hp', fun _ => ⟨_, hv'⟩, fun hc => absurd hc (by decide)⟩
  · obtain ⟨n, vr, s', e, h', f', ho', hi', hk', hp', hv', _⟩ := row (rel_parseNumConstant d 8) (num 8 (by omega)) Val.u64 opQwordPrefix
      (infoOK_const (by decide)) (by decide) rfl
    exact ⟨n, _, s', e, h', f', ho', hi', hk', hp', fun _ => ⟨_, hv'⟩, fun hc => absurd hc (by decide)⟩
  · obtain ⟨n, vr, s', e, h', f', ho', hi', hk', hp', _, _⟩ := row (rel_parseString d) (fun _ _ _ hr => ⟨hr.1, hr.2.1, hr.2.2.2⟩) sliceVal
      opStringPrefix (infoOK_const (by decide)) (by decide) rfl
    exact ⟨n, _, s', e, h', f', ho', hi', hk', hp', nonum (Or.inl rfl), fun hc => absurd hc (by decide)⟩
  · obtain ⟨n, vr, s', e, h', f', ho', hi', hk', hp', hv', r, r', hR'⟩ := row hn
      (fun r a r' hr => ⟨(hRN r a r' hr).1, (hRN r a r' hr).2.1, (hRN r a r' hr).2.2.2⟩) sliceVal
      opIntNamePath (infoOK_const (by decide)) (by decide) rfl
    exact ⟨n, _, s', e, h', f', ho', hi', hk', hp', nonum (Or.inr rfl), fun _ => ⟨vr, r, r', hR', rfl, hv'⟩⟩

theorem parseSimpleArg_tot {d : Bytes} (hd : d.size + 1024 ≤ 4294967296) {s : PState} (h : FP d s)
    (hsz : s.tree.pool.size < INV) {argType : Nat} (hs : isSimpleArg argType = true) :
    ∃ n res s', parseSimpleArg d argType s = .ok ((some n, res), s') ∧ FP d s' ∧ Fresh1 n s s' ∧
      isK (slot s'.tree n).opcode = false ∧ Prog s s' res ∧ (IsNum argType → ∃ v, (slot s'.tree n).value = .u64 v) :=
  have ⟨n, res, s', e, h', f', _, _, hk', hp', hv', _⟩ := parseSimpleArg_full (rel_parseNameString d hd) (fun _ _ _ hr => hr) h hsz hs
  ⟨n, res, s', e, h', f', hk', hp', hv'⟩

theorem setNameByte_tot {d : Bytes} {s : PState} (h : FP d s) {field : Nat} (hf : live s.tree field = true) (i : Nat) (b : UInt8)
    (hcur : isK (slot s.tree field).opcode = false) :
    ∃ a s', setNameByte field i b s = .ok (a, s') ∧ FP d s' ∧ PayOnly field s s' ∧ s'.r = s.r := by
  unfold setNameByte
  obtain ⟨s1, e1, h1, hp1, _, hr1⟩ := upd_step h hf
    (fun o => { o with name := Name.ofList ((o.name.toList.take i) ++ [b] ++ (o.name.toList.drop (i+1))) })
    (fun _ => rfl) Iff.rfl (h.tree.info field hf) (.ofNotK hcur hcur)
  exact ⟨(), s1, e1, h1, hp1, hr1⟩

theorem readFieldName_tot {d : Bytes} {field : Nat} (n : Nat) : ∀ (i : Nat) {s : PState}, FP d s → live s.tree field = true →
    isK (slot s.tree field).opcode = false →
    ∃ b s', readFieldName d field n i s = .ok (b, s') ∧ FP d s' ∧ PayOnly field s s' ∧
      (b = true → s'.r.offset = s.r.offset + n) := by
  induction n with
  | zero =>
    intro i s h hf _
    unfold readFieldName
    exact pure_ex ⟨h, PayOnly.refl _ _, fun _ => rfl⟩
  | succ n ih =>
    intro i s h hf hcur
    unfold readFieldName
    refine lex_k (rel_readByte d) h fun ob r1 h1 hR => ?_
    rcases hR with ⟨hn, hr, _⟩ | ⟨b, hb, hr, hlt⟩
    · subst hn
      obtain ⟨_, s2, e2, h2, hp2, hr2⟩ := setNameByte_tot h1 hf i 0 hcur
      exact bind_ex e2 (pure_ex ⟨h2, (PayOnly.ofR field s r1 (by rw [hr]) (Nat.le_of_eq (by rw [hr]))).trans hp2, fun hc => by cases hc⟩)
    · subst hb
      obtain ⟨_, s2, e2, h2, hp2, hr2⟩ := setNameByte_tot h1 hf i b hcur
      refine bind_ex e2 ?_
      obtain ⟨b', s3, e3, h3, hp3, hoff⟩ := ih (i + 1) h2 (by rw [hp2.links.live]; exact hf) (hp2.notK hcur)
      refine ⟨b', s3, e3, h3, ((PayOnly.ofR field s r1 (by rw [hr]) (by rw [hr]; exact Nat.le_succ _)).trans hp2).trans hp3, fun hb' => ?_⟩
      rw [hoff hb', hr2, hr]
      show s.r.offset + 1 + n = s.r.offset + (n + 1)
      omega

/-- the frame of the opcodes that carry an invariant (`isK`): `KStep` of every object that existed (`KFr.kstep`) -/
structure KFr (s s' : PState) : Prop where
  opK : ∀ x, live s.tree x = true → (slot s'.tree x).opcode = (slot s.tree x).opcode ∨
    (isK (slot s.tree x).opcode = false ∧ isK (slot s'.tree x).opcode = false)
  nameKK : ∀ x, live s.tree x = true → isK (slot s.tree x).opcode = true → (slot s'.tree x).name = (slot s.tree x).name ∧
    (slot s'.tree x).tableHandle = (slot s.tree x).tableHandle
  deadK : ∀ x, live s'.tree x = false → (slot s'.tree x).name = (slot s.tree x).name
  infoKK : ∀ x, live s.tree x = true → isK (slot s.tree x).opcode = true → (slot s'.tree x).infoIndex = (slot s.tree x).infoIndex

theorem KFr.kstep {s s' : PState} (h : KFr s s') {x : Nat} (hx : live s.tree x = true) : KStep (slot s.tree x) (slot s'.tree x) :=
  ⟨h.opK x hx, h.nameKK x hx, h.infoKK x hx⟩

theorem KFr.isKeq {s s' : PState} (h : KFr s s') {x : Nat} (hx : live s.tree x = true) :
    isK (slot s'.tree x).opcode = isK (slot s.tree x).opcode := (h.kstep hx).isKeq

theorem KFr.mK {s s' : PState} (h : KFr s s') (x : Nat) (hx : live s.tree x = true) :
    (slot s'.tree x).opcode = opMethod ↔ (slot s.tree x).opcode = opMethod := (h.kstep hx).opK isK_method

theorem KFr.sK {s s' : PState} (h : KFr s s') (x : Nat) (hx : live s.tree x = true) :
    (slot s'.tree x).opcode = opScope ↔ (slot s.tree x).opcode = opScope := (h.kstep hx).opK isK_scope

theorem KFr.nameK {s s' : PState} (h : KFr s s') (x : Nat) (hx : live s.tree x = true) (ho : (slot s.tree x).opcode = opMethod) :
    (slot s'.tree x).name = (slot s.tree x).name := (h.nameKK x hx (by rw [ho]; exact isK_method)).1

theorem KFr.nameS {s s' : PState} (h : KFr s s') (x : Nat) (hx : live s.tree x = true) (ho : (slot s.tree x).opcode = opScope) :
    (slot s'.tree x).name = (slot s.tree x).name := (h.nameKK x hx (by rw [ho]; exact isK_scope)).1

theorem KFr.bK {s s' : PState} (h : KFr s s') (x : Nat) (hx : live s.tree x = true) :
    (slot s'.tree x).opcode = opIntScopeBlock ↔ (slot s.tree x).opcode = opIntScopeBlock := (h.kstep hx).opK isK_block

theorem KFr.trans {a b c : PState} (h1 : KFr a b) (h2 : KFr b c) (hl : ∀ x, live a.tree x = true → live b.tree x = true)
    (hl2 : ∀ x, live b.tree x = true → live c.tree x = true) : KFr a c := by
  have k : ∀ x, live a.tree x = true → KStep (slot a.tree x) (slot c.tree x) := fun x hx => (h1.kstep hx).trans (h2.kstep (hl x hx))
  refine ⟨fun x hx => (k x hx).opc, fun x hx => (k x hx).nmk, fun x hx => ?_, fun x hx => (k x hx).vik⟩
  have hb : live b.tree x = false := by
    cases hq : live b.tree x with
    | false => rfl
    | true => rw [hl2 x hq] at hx; cases hx
  rw [h2.deadK x hx, h1.deadK x hb]

theorem KFr.ofTree {s s' : PState} (ht : s'.tree = s.tree) : KFr s s' :=
  ⟨fun _ _ => by rw [ht]; exact Or.inl rfl, fun _ _ _ => by rw [ht]; exact ⟨rfl, rfl⟩, fun _ _ => by rw [ht],
   fun _ _ _ => by rw [ht]⟩

theorem KFr.ofPay {obj : Nat} {s s' : PState} (h : PayOnly obj s s') (ho : live s.tree obj = true) : KFr s s' := by
  have k : ∀ x, KStep (slot s.tree x) (slot s'.tree x) := fun x => by
    by_cases hx : x = obj
    · rw [hx]; exact h.kstep
    · rw [h.others x hx]; exact .refl _
  refine ⟨fun x _ => (k x).opc, fun x _ => (k x).nmk, fun x hx => ?_, fun x _ => (k x).vik⟩
  rw [h.others x fun e => by rw [e, h.links.live, ho] at hx; cases hx]

theorem KFr.ofSamePay {s s' : PState} (sp : SamePay s.tree s'.tree) : KFr s s' :=
  ⟨fun x _ => Or.inl (congrArg (fun p => p.1) (sp.pay x)),
   fun x _ _ => ⟨congrArg (fun p => p.2.2.2.1) (sp.pay x), congrArg (fun p => p.2.2.1) (sp.pay x)⟩,
   fun x _ => congrArg (fun p => p.2.2.2.1) (sp.pay x), fun x _ _ => congrArg (fun p => p.2.1) (sp.pay x)⟩

theorem KFr.ofFresh {n : Nat} {s s' : PState} (h : Fresh1 n s s') : KFr s s' :=
  ⟨fun x hx => by rw [h.old x (h.ne hx)]; exact Or.inl rfl, fun x hx _ => by rw [h.old x (h.ne hx)]; exact ⟨rfl, rfl⟩,
   fun x hx => by
     have hne : x ≠ n := fun e => by rw [e, h.liven] at hx; cases hx
     rw [h.old x hne], fun x hx _ => by rw [h.old x (h.ne hx)]⟩

variable {T : Nat → Prop}

/-- the tree part of every frame relation of the parser walks (`FrmS`, `GrowE`, `S.SGrow`).  `T` = the parents whose
argument lists the step may change: outside of them the first-argument links, the sibling links and the payloads of
attached objects are as before; parents of existing objects are untouched; the opcodes of `isK` are framed as in `KFr`.
`T` only matters on objects that were live in `s` (`comp`). -/
structure Frm (T : Nat → Prop) (s s' : PState) : Prop where
  oldP : ∀ x, live s.tree x = true → C13.P s'.tree x = C13.P s.tree x
  oldLive : ∀ x, live s.tree x = true → live s'.tree x = true
  fiK : ∀ x, live s.tree x = true → ¬ T x → Fi s'.tree x = Fi s.tree x
  kidK : ∀ x, live s.tree x = true → C13.P s.tree x ≠ INV → ¬ T (C13.P s.tree x) →
    Nx s'.tree x = Nx s.tree x ∧ Pay (slot s'.tree x) = Pay (slot s.tree x)
  payK : ∀ x, live s.tree x = true → ¬ T x → (C13.P s.tree x ≠ INV ∨ x = 0) → Pay (slot s'.tree x) = Pay (slot s.tree x)
  kfr : KFr s s'

theorem Frm.ofTree {s s' : PState} (ht : s'.tree = s.tree) : Frm T s s' :=
  ⟨fun _ _ => by rw [ht], fun _ h => by rw [ht]; exact h, fun _ _ _ => by rw [ht], fun _ _ _ _ => by rw [ht]; exact ⟨rfl, rfl⟩,
   fun _ _ _ _ => by rw [ht], KFr.ofTree ht⟩

/-- composition; the two steps may name different touched sets, of which only the objects live at the start count -/
theorem Frm.comp {T1 T2 : Nat → Prop} {a b c : PState} (h1 : Frm T1 a b) (h2 : Frm T2 b c)
    (hx : ∀ x, live a.tree x = true → ¬ T x → ¬ T1 x ∧ ¬ T2 x)
    (hp : ∀ x, live a.tree x = true → C13.P a.tree x ≠ INV → ¬ T (C13.P a.tree x) →
      ¬ T1 (C13.P a.tree x) ∧ ¬ T2 (C13.P a.tree x)) : Frm T a c := by
  refine ⟨fun x hl => by rw [h2.oldP x (h1.oldLive x hl), h1.oldP x hl], fun x hl => h2.oldLive x (h1.oldLive x hl), ?_, ?_, ?_,
    h1.kfr.trans h2.kfr h1.oldLive h2.oldLive⟩
  · intro x hl ht
    rw [h2.fiK x (h1.oldLive x hl) (hx x hl ht).2, h1.fiK x hl (hx x hl ht).1]
  · intro x hl hq ht
    obtain ⟨n1, p1⟩ := h1.kidK x hl hq (hp x hl hq ht).1
    obtain ⟨n2, p2⟩ := h2.kidK x (h1.oldLive x hl) (by rw [h1.oldP x hl]; exact hq) (by rw [h1.oldP x hl]; exact (hp x hl hq ht).2)
    exact ⟨by rw [n2, n1], by rw [p2, p1]⟩
  · intro x hl ht hq
    rw [h2.payK x (h1.oldLive x hl) (hx x hl ht).2 (by rw [h1.oldP x hl]; exact hq), h1.payK x hl (hx x hl ht).1 hq]

theorem Frm.trans {a b c : PState} (h1 : Frm T a b) (h2 : Frm T b c) : Frm T a c :=
  h1.comp h2 (fun _ _ h => ⟨h, h⟩) (fun _ _ _ h => ⟨h, h⟩)

/-- `comp` for a well-formed start: parents of live objects are live -/
theorem Frm.comp' {T1 T2 : Nat → Prop} {a b c : PState} (h1 : Frm T1 a b) (h2 : Frm T2 b c) (w : WF a.tree)
    (hT : ∀ x, live a.tree x = true → T1 x ∨ T2 x → T x) : Frm T a c :=
  h1.comp h2 (fun x hl ht => ⟨fun q => ht (hT x hl (Or.inl q)), fun q => ht (hT x hl (Or.inr q))⟩)
    (fun x hl hq ht => ⟨fun q => ht (hT _ (w.live_p hl hq) (Or.inl q)), fun q => ht (hT _ (w.live_p hl hq) (Or.inr q))⟩)

theorem Frm.mono {T' : Nat → Prop} {a b : PState} (h : Frm T' a b) (w : WF a.tree)
    (hT : ∀ x, live a.tree x = true → T' x → T x) : Frm T a b :=
  h.comp' (Frm.ofTree rfl) w (fun x hl q => q.elim (hT x hl) id)

theorem Frm.ofFresh {n : Nat} {s s' : PState} (h : Fresh1 n s s') : Frm T s s' :=
  ⟨fun x hx => by unfold C13.P; rw [h.old x (h.ne hx)], fun x hx => by rw [h.livex x (h.ne hx)]; exact hx,
   fun x hx _ => by unfold Fi; rw [h.old x (h.ne hx)],
   fun x hx _ _ => ⟨by unfold Nx; rw [h.old x (h.ne hx)], by rw [h.old x (h.ne hx)]⟩,
   fun x hx _ _ => by rw [h.old x (h.ne hx)], KFr.ofFresh h⟩

/-- a payload-only step on `obj`: no attached object outside of `T` sees it when `obj` is detached or hangs under a
touched parent, and `obj` itself is touched or a detached object other than the root -/
theorem Frm.ofPay {obj : Nat} {s s' : PState} (h : PayOnly obj s s') (ho : live s.tree obj = true)
    (hk : C13.P s.tree obj = INV ∨ T (C13.P s.tree obj)) (hp : T obj ∨ (C13.P s.tree obj = INV ∧ obj ≠ 0)) : Frm T s s' := by
  refine ⟨fun x _ => h.links.p x, fun x hx => by rw [h.links.live]; exact hx, fun x _ _ => h.links.fi x, ?_, ?_, KFr.ofPay h ho⟩
  · intro x _ hpx hTx
    have hne : x ≠ obj := fun e => hk.elim (fun q => hpx (by rw [e]; exact q)) (fun q => hTx (by rw [e]; exact q))
    exact ⟨h.links.nx x, by rw [h.others x hne]⟩
  · intro x _ hTx hpx
    have hne : x ≠ obj := fun e =>
      hp.elim (fun q => hTx (e ▸ q)) (fun q => hpx.elim (fun r => r (by rw [e]; exact q.1)) (fun r => q.2 (e ▸ r)))
    rw [h.others x hne]

/-- an edit of the argument list of `obj` that moves an object `arg` which did not exist in the base state, where `obj` is
touched or did not exist either: `append`, `appendAfter` and `detach` of a new object (`Spliced.frame`, `Unlinked.frame`) -/
theorem Frm.thenEdit {s s1 s2 : PState} (g : Frm T s s1) {obj arg : Nat} (f : LinkFrame s1.tree s2.tree (· = arg) (· = obj))
    (hnew : live s.tree arg = false) (hT : T obj ∨ (WF s.tree ∧ live s.tree obj = false)) : Frm T s s2 := by
  have hne : ∀ x, live s.tree x = true → x ≠ arg := fun x hx e => by rw [e, hnew] at hx; cases hx
  have hxo : ∀ x, live s.tree x = true → ¬ T x → x ≠ obj := fun x hx hTx e => by
    rcases hT with hT | ⟨_, hno⟩
    · exact hTx (by rw [e]; exact hT)
    · rw [e, hno] at hx; cases hx
  refine ⟨fun x hx => by rw [f.p x (hne x hx)]; exact g.oldP x hx, fun x hx => by rw [f.pay.live]; exact g.oldLive x hx,
    fun x hx hTx => by rw [f.fi x (hxo x hx hTx)]; exact g.fiK x hx hTx, fun x hx hp hTx => ?_,
    fun x hx hTx hp => by rw [f.pay.pay x]; exact g.payK x hx hTx hp,
    g.kfr.trans (KFr.ofSamePay f.pay) g.oldLive (fun x hx => by rw [f.pay.live]; exact hx)⟩
  obtain ⟨n1, p1⟩ := g.kidK x hx hp hTx
  have hpo : ¬ C13.P s1.tree x = obj := by
    rw [g.oldP x hx]
    intro e
    rcases hT with hT | ⟨w, hno⟩
    · exact hTx (by rw [e]; exact hT)
    · have := w.live_p hx hp
      rw [e, hno] at this; cases this
  exact ⟨by rw [f.nx x (hne x hx) hpo, n1], by rw [f.pay.pay x, p1]⟩

/-- the frame of a skip-mode step: `Frm`, and no new object has an opcode of `isK`. -/
structure FrmS (T : Nat → Prop) (s s' : PState) : Prop where
  oldP : ∀ x, live s.tree x = true → C13.P s'.tree x = C13.P s.tree x
  oldLive : ∀ x, live s.tree x = true → live s'.tree x = true
  fiK : ∀ x, live s.tree x = true → ¬ T x → Fi s'.tree x = Fi s.tree x
  kidK : ∀ x, live s.tree x = true → C13.P s.tree x ≠ INV → ¬ T (C13.P s.tree x) →
    Nx s'.tree x = Nx s.tree x ∧ Pay (slot s'.tree x) = Pay (slot s.tree x)
  payK : ∀ x, live s.tree x = true → ¬ T x → (C13.P s.tree x ≠ INV ∨ x = 0) → Pay (slot s'.tree x) = Pay (slot s.tree x)
  kfr : KFr s s'
  newK : ∀ y, live s.tree y = false → live s'.tree y = true → isK (slot s'.tree y).opcode = false

theorem FrmS.frm {s s' : PState} (h : FrmS T s s') : Frm T s s' := ⟨h.oldP, h.oldLive, h.fiK, h.kidK, h.payK, h.kfr⟩

theorem FrmS.ofFrm {s s' : PState} (f : Frm T s s')
    (newK : ∀ y, live s.tree y = false → live s'.tree y = true → isK (slot s'.tree y).opcode = false) : FrmS T s s' :=
  ⟨f.oldP, f.oldLive, f.fiK, f.kidK, f.payK, f.kfr, newK⟩

theorem FrmS.nameK {s s' : PState} (h : FrmS T s s') (x : Nat) (hx : live s.tree x = true)
    (ho : (slot s.tree x).opcode = opMethod) : (slot s'.tree x).name = (slot s.tree x).name := h.kfr.nameK x hx ho
theorem FrmS.newOp {s s' : PState} (h : FrmS T s s') (y : Nat) (h1 : live s.tree y = false)
    (h2 : live s'.tree y = true) : (slot s'.tree y).opcode ≠ opMethod := by
  intro hq
  have := h.newK y h1 h2
  rw [hq, isK_method] at this; cases this

theorem FrmS.refl (s : PState) : FrmS T s s :=
  .ofFrm (.ofTree rfl) fun y h1 h2 => (by rw [h1] at h2; cases h2)

theorem FrmS.trans {a b c : PState} (h1 : FrmS T a b) (h2 : FrmS T b c) : FrmS T a c := by
  refine .ofFrm (h1.frm.trans h2.frm) fun y hy hy' => ?_
  cases hb : live b.tree y with
  | true => rw [h2.kfr.isKeq hb]; exact h1.newK y hy hb
  | false => exact h2.newK y hb hy'

theorem FrmS.ofTree {a c c' : PState} (h : FrmS T a c) (ht : c'.tree = c.tree) : FrmS T a c' :=
  .ofFrm (h.frm.trans (.ofTree ht)) (by rw [ht]; exact h.newK)

theorem FrmS.ofFresh {n : Nat} {s s' : PState} (h : Fresh1 n s s') (hnm : isK (slot s'.tree n).opcode = false) :
    FrmS T s s' := by
  refine .ofFrm (.ofFresh h) fun y h1 h2 => ?_
  by_cases hy : y = n
  · rw [hy]; exact hnm
  · rw [h.livex y hy, h1] at h2; cases h2

/-- steps that leave both stacks alone: the frame `FrmS`, the reader goes back at most `b` bytes, at most `m`
objects are created -/
structure GrowE (T : Nat → Prop) (b m : Nat) (s s' : PState) : Prop where
  offb : s.r.offset ≤ s'.r.offset + b
  pool : s.tree.pool.size ≤ s'.tree.pool.size
  poolUp : s'.tree.pool.size ≤ s.tree.pool.size + m
  oldP : ∀ x, live s.tree x = true → C13.P s'.tree x = C13.P s.tree x
  oldLive : ∀ x, live s.tree x = true → live s'.tree x = true
  scope : s'.scopeStack = s.scopeStack
  pkg : s'.pkgEndStack = s.pkgEndStack
  same : s'.allBlocks = s.allBlocks ∧ s'.tableHandle = s.tableHandle ∧ s'.streamEnd = s.streamEnd
  fiK : ∀ x, live s.tree x = true → ¬ T x → Fi s'.tree x = Fi s.tree x
  kidK : ∀ x, live s.tree x = true → C13.P s.tree x ≠ INV → ¬ T (C13.P s.tree x) →
    Nx s'.tree x = Nx s.tree x ∧ Pay (slot s'.tree x) = Pay (slot s.tree x)
  payK : ∀ x, live s.tree x = true → ¬ T x → (C13.P s.tree x ≠ INV ∨ x = 0) → Pay (slot s'.tree x) = Pay (slot s.tree x)
  kfr : KFr s s'
  newK : ∀ y, live s.tree y = false → live s'.tree y = true → isK (slot s'.tree y).opcode = false

theorem GrowE.frmS {b m : Nat} {s s' : PState} (g : GrowE T b m s s') : FrmS T s s' :=
  ⟨g.oldP, g.oldLive, g.fiK, g.kidK, g.payK, g.kfr, g.newK⟩

theorem GrowE.ofFrm {b m : Nat} {s s' : PState} (f : FrmS T s s') (offb : s.r.offset ≤ s'.r.offset + b)
    (pool : s.tree.pool.size ≤ s'.tree.pool.size) (poolUp : s'.tree.pool.size ≤ s.tree.pool.size + m)
    (scope : s'.scopeStack = s.scopeStack) (pkg : s'.pkgEndStack = s.pkgEndStack)
    (same : s'.allBlocks = s.allBlocks ∧ s'.tableHandle = s.tableHandle ∧ s'.streamEnd = s.streamEnd) : GrowE T b m s s' :=
  ⟨offb, pool, poolUp, f.oldP, f.oldLive, scope, pkg, same, f.fiK, f.kidK, f.payK, f.kfr, f.newK⟩

theorem GrowE.mK {b m : Nat} {s s' : PState} (h : GrowE T b m s s') (x : Nat) (hx : live s.tree x = true) :
    (slot s'.tree x).opcode = opMethod ↔ (slot s.tree x).opcode = opMethod := h.kfr.mK x hx
theorem GrowE.nameK {b m : Nat} {s s' : PState} (h : GrowE T b m s s') (x : Nat) (hx : live s.tree x = true)
    (ho : (slot s.tree x).opcode = opMethod) : (slot s'.tree x).name = (slot s.tree x).name := h.kfr.nameK x hx ho
theorem GrowE.newOp {b m : Nat} {s s' : PState} (h : GrowE T b m s s') (y : Nat) (h1 : live s.tree y = false)
    (h2 : live s'.tree y = true) : (slot s'.tree y).opcode ≠ opMethod := h.frmS.newOp y h1 h2

theorem GrowE.refl (s : PState) : GrowE T 0 0 s s :=
  .ofFrm (FrmS.refl s) (by omega) (Nat.le_refl _) (by omega) rfl rfl ⟨rfl, rfl, rfl⟩

theorem GrowE.trans {b1 m1 b2 m2 : Nat} {a b c : PState} (h1 : GrowE T b1 m1 a b) (h2 : GrowE T b2 m2 b c) :
    GrowE T (b1 + b2) (m1 + m2) a c :=
  .ofFrm (h1.frmS.trans h2.frmS) (by have := h1.offb; have := h2.offb; omega) (Nat.le_trans h1.pool h2.pool)
    (by have := h1.poolUp; have := h2.poolUp; omega) (by rw [h2.scope, h1.scope]) (by rw [h2.pkg, h1.pkg])
    ⟨by rw [h2.same.1, h1.same.1], by rw [h2.same.2.1, h1.same.2.1], by rw [h2.same.2.2, h1.same.2.2]⟩

theorem GrowE.weaken {b m b' m' : Nat} {a c : PState} (h : GrowE T b m a c) (hb : b ≤ b') (hm : m ≤ m') : GrowE T b' m' a c :=
  .ofFrm h.frmS (by have := h.offb; omega) h.pool (by have := h.poolUp; omega) h.scope h.pkg h.same

theorem GrowE.reoff {b m b' m' : Nat} {a c : PState} (h : GrowE T b m a c) (hb : a.r.offset ≤ c.r.offset + b') (hm : m ≤ m') :
    GrowE T b' m' a c :=
  .ofFrm h.frmS hb h.pool (by have := h.poolUp; omega) h.scope h.pkg h.same

theorem GrowE.thenLex {b m b' : Nat} {a c c' : PState} (h : GrowE T b m a c) (hc : c' = { c with r := c'.r })
    (hb : a.r.offset ≤ c'.r.offset + b') : GrowE T b' m a c' := by
  have ht : c'.tree = c.tree := by rw [hc]
  exact .ofFrm (h.frmS.ofTree ht) hb (by rw [ht]; exact h.pool) (by rw [ht]; exact h.poolUp) (by rw [hc]; exact h.scope)
    (by rw [hc]; exact h.pkg) (by rw [hc]; exact h.same)

theorem Fresh1.growE {n : Nat} {s s' : PState} (h : Fresh1 n s s') (hnm : isK (slot s'.tree n).opcode = false) :
    GrowE T 0 1 s s' :=
  .ofFrm (FrmS.ofFresh h hnm) (by have := h.off; omega) h.size.1 h.size.2 h.scope h.pkg h.same

theorem GrowE.ofLex {s s1 : PState} (b : Nat) (hs1 : s1 = { s with r := s1.r }) (ho : s.r.offset ≤ s1.r.offset + b) :
    GrowE T b 0 s s1 :=
  (GrowE.refl s).thenLex hs1 ho

theorem GrowE.hold {b m : Nat} {s0 s : PState} (gr : GrowE T b m s0 s) :
    ∀ x, live s0.tree x = true → live s.tree x = true ∧ C13.P s.tree x = C13.P s0.tree x :=
  fun x hx => ⟨gr.oldLive x hx, gr.oldP x hx⟩

/-- `Frm.thenEdit`: a link edit creates nothing, changes no opcode and leaves the reader and the stacks alone -/
theorem GrowE.thenEdit {b m : Nat} {s s1 s2 : PState} (g : GrowE T b m s s1) {obj arg : Nat}
    (hs2 : s2 = { s1 with tree := s2.tree }) (f : LinkFrame s1.tree s2.tree (· = arg) (· = obj))
    (hnew : live s.tree arg = false) (hT : T obj ∨ (WF s.tree ∧ live s.tree obj = false)) : GrowE T b m s s2 := by
  have hr : s2.r = s1.r := by rw [hs2]
  have hsz := f.pay.size
  refine .ofFrm (.ofFrm (g.frmS.frm.thenEdit f hnew hT) fun y h1 h2 => ?_) (by rw [hr]; exact g.offb) (by rw [hsz]; exact g.pool)
    (by rw [hsz]; exact g.poolUp) (by rw [hs2]; exact g.scope) (by rw [hs2]; exact g.pkg) (by rw [hs2]; exact g.same)
  rw [show (slot s2.tree y).opcode = (slot s1.tree y).opcode from congrArg (fun p => p.1) (f.pay.pay y)]
  exact g.newK y h1 (by rw [← f.pay.live]; exact h2)

/-- the object budget: `k` more objects fit besides 16 for every byte not yet consumed -/
def Bud (d : Bytes) (k : Nat) (s : PState) : Prop := s.tree.pool.size + 16 * (d.size - s.r.offset) + k ≤ INV

/-- the reader after `SetPkgEnd(e)`: as it was when `e` lies beyond the table -/
def setEnd (d : Bytes) (r : Reader) (e : Nat) : Reader := if e > d.size then r else { r with pkgEnd := e }

theorem setEnd_inv {d : Bytes} {r : Reader} (h : Inv d r) (e : Nat) : Inv d (setEnd d r e) ∧ (setEnd d r e).offset = r.offset := by
  unfold setEnd; split
  · exact ⟨h, rfl⟩
  · exact ⟨⟨h.1, by show e ≤ d.size; omega⟩, rfl⟩

theorem setEnd_le {d : Bytes} {e : Nat} (h : e ≤ d.size) (r : Reader) : setEnd d r e = { r with pkgEnd := e } :=
  if_neg (by omega)

theorem lex_setPkgEnd_run (d : Bytes) (e : Nat) (s : PState) :
    lex (setPkgEnd d e) s = .ok (decide (e ≤ d.size), { s with r := setEnd d s.r e }) := by
  apply lex_eq
  unfold setPkgEnd setEnd
  by_cases h : e > d.size
  · rw [if_pos h, if_pos h, decide_eq_false (by omega)]; rfl
  · rw [if_neg h, if_neg h, decide_eq_true (by omega)]; rfl

theorem pushPkgEnd_run (d : Bytes) (e : Nat) (s : PState) :
    pushPkgEnd d e s = .ok (decide (e ≤ d.size), { s with pkgEndStack := s.pkgEndStack.push e, r := setEnd d s.r e }) :=
  lex_setPkgEnd_run d e { s with pkgEndStack := s.pkgEndStack.push e }

theorem Bud.mono {d : Bytes} {k k' : Nat} {s : PState} (h : Bud d k s) (hk : k' ≤ k) : Bud d k' s := by
  unfold Bud at h ⊢; omega

/-- a reader-only step that consumed a byte buys 16 objects -/
theorem Bud.consume {d : Bytes} {k : Nat} {s s1 : PState} (h : Bud d k s) (ht : s1.tree = s.tree)
    (hlt : s.r.offset < s1.r.offset) (hi : s1.r.offset ≤ d.size) : Bud d (k + 16) s1 := by
  unfold Bud at h ⊢; rw [ht]; omega

theorem Bud.size_lt {d : Bytes} {k : Nat} {s : PState} (h : Bud d (k + 1) s) : s.tree.pool.size < INV := by
  unfold Bud at h; omega

/-- an object a parser function hands back to be appended: created by the call, still detached -/
def RetOK (s s' : PState) (o : Option Nat) : Prop :=
  ∀ a, o = some a → live s.tree a = false ∧ live s'.tree a = true ∧ C13.P s'.tree a = INV

/-- the argument before `j` was a `ByteData`: it is the last argument of `curObj` and holds an integer -/
def PrevOK (s : PState) (info curObj j : Nat) : Prop :=
  1 ≤ j → argAt info (j - 1) = argTypeByteData →
    live s.tree (La s.tree curObj) = true ∧ ∃ v, (slot s.tree (La s.tree curObj)).value = .u64 v

/-- total correctness of the mutually recursive functions with fuel `f` in the first pass -/
structure FirstPassTot (d : Bytes) (f : Nat) : Prop where
  target : ∀ {s : PState}, FP d s → s.allBlocks = false → Bud d 1 s → needT (d.size - s.r.offset) ≤ f →
    ∃ a s', parseTarget d f s = .ok (a, s') ∧ FP d s' ∧ Grow 1 0 s s' ∧ RetOK s s' a.1
  arg : ∀ {s : PState} (info curObj argType : Nat), FP d s → s.allBlocks = false → live s.tree curObj = true → InfoOK info → Bud d 2 s →
    argType ≠ argTypeByteList →
    (argType = argTypeFieldList → C13.P s.tree curObj ≠ INV ∧ live s.tree (La s.tree curObj) = true ∧
      ∃ v, (slot s.tree (La s.tree curObj)).value = .u64 v) →
    needArg (d.size - s.r.offset) ≤ f →
    ∃ a s', parseArg d f info curObj argType s = .ok (a, s') ∧ FP d s' ∧
      Grow 2 (if argType = argTypeTermList then 1 else 0) s s' ∧ RetOK s s' a.1 ∧
      (argType = argTypeByteData → a.2 = .ok → ∃ x v, a.1 = some x ∧ (slot s'.tree x).value = .u64 v) ∧
      (argType = argTypePkgLen → s'.scopeStack.size = s.scopeStack.size ∧
        (a.2 = .ok → s'.pkgEndStack.size = s.pkgEndStack.size + 1)) ∧
      (argType = argTypeTermArg ∨ argType = argTypeTermList → a.2 ≠ .ok)
  args : ∀ {s : PState} (info curObj j : Nat), FP d s → s.allBlocks = false → live s.tree curObj = true → InfoOK info → rowFacts info = true →
    j ≤ argCnt info → Bud d (2 * (7 - j)) s → Att s info curObj → PrevOK s info curObj j →
    (1 ≤ j → argAt info (j - 1) ≠ argTypeTermArg) → needArgs (d.size - s.r.offset) j ≤ f →
    ∃ res s', parseArgs d f info curObj j s = .ok (res, s') ∧ FP d s' ∧ Grow (2 * (7 - j)) (AmlParser.G info j) s s'
  objectArgs : ∀ {s : PState} (curObj : Nat), FP d s → s.allBlocks = false → live s.tree curObj = true →
    rowFacts (slot s.tree curObj).infoIndex = true → Att s (slot s.tree curObj).infoIndex curObj → Bud d 14 s →
    needOA (d.size - s.r.offset) ≤ f →
    ∃ res s', parseObjectArgs d f curObj s = .ok (res, s') ∧ FP d s' ∧ Grow 14 0 s s'
  nextObject : ∀ {s : PState}, FP d s → s.allBlocks = false → s.scopeStack.size ≠ 0 → Bud d 0 s → needNext (d.size - s.r.offset) ≤ f →
    ∃ res s', parseNextObject d f s = .ok (res, s') ∧ FP d s' ∧ Grow 0 0 s s' ∧ (res = .ok → s.r.offset < s'.r.offset)

/-- the condition under which `parseTarget` parses an object -/
theorem isTargetOp_iff (op : Nat) :
    (pOpIsArg op = true ∨ op = opRefOf ∨ op = opDerefOf ∨ op = opIndex ∨ op = opDebug) ↔ isTargetOp op = true := by
  unfold isTargetOp
  simp only [Bool.or_eq_true, beq_iff_eq, or_assoc]

theorem lex_setOffset_self {d : Bytes} {s : PState} (h : FP d s) : lex (setOffset d s.r.offset) s = .ok ((), s) := by
  have := h.inv.1
  show Except.ok ((), { s with r := { s.r with offset := if s.r.offset > d.size then d.size else s.r.offset } }) = _
  rw [if_neg (by omega)]

theorem popPkgEnd_run (d : Bytes) (s : PState) :
    popPkgEnd d s = .ok ((), { s with pkgEndStack := s.pkgEndStack.pop, r := s.pkgEndStack.pop.back?.elim s.r (setEnd d s.r) }) := by
  have e0 : (modify fun s => if s.pkgEndStack.size ≠ 0 then { s with pkgEndStack := s.pkgEndStack.pop } else s : P Unit) s =
      .ok ((), { s with pkgEndStack := s.pkgEndStack.pop }) := by
    show Except.ok ((), if s.pkgEndStack.size ≠ 0 then { s with pkgEndStack := s.pkgEndStack.pop } else s) = _
    split
    · rfl
    · rename_i h0
      have : s.pkgEndStack.pop = s.pkgEndStack := by
        rw [Array.eq_empty_of_size_eq_zero (Decidable.not_not.1 h0)]; rfl
      rw [this]
  have e1 : pkgEndTop { s with pkgEndStack := s.pkgEndStack.pop } =
      .ok (s.pkgEndStack.pop.back?, { s with pkgEndStack := s.pkgEndStack.pop }) := rfl
  unfold popPkgEnd
  rw [bind_run e0, bind_run e1]
  cases s.pkgEndStack.pop.back? with
  | none => rfl
  | some e => exact bind_run (lex_setPkgEnd_run d e _)

theorem popPkgEnd_step {d : Bytes} {s : PState} (h : FP d s) :
    ∃ (a : Unit) (s' : PState), popPkgEnd d s = .ok (a, s') ∧ FP d s' ∧
      s' = { s with pkgEndStack := s.pkgEndStack.pop, r := s'.r } ∧ s'.r.offset = s.r.offset := by
  have hr : Inv d (s.pkgEndStack.pop.back?.elim s.r (setEnd d s.r)) ∧ (s.pkgEndStack.pop.back?.elim s.r (setEnd d s.r)).offset = s.r.offset := by
    cases s.pkgEndStack.pop.back? with
    | none => exact ⟨h.inv, rfl⟩
    | some e => exact setEnd_inv h.inv e
  exact ⟨(), _, popPkgEnd_run d s, ⟨hr.1, h.tree, h.scopes⟩, rfl, hr.2⟩

theorem scopeExit_run {s : PState} (hne : s.scopeStack.size ≠ 0) : scopeExit s = .ok ((), { s with scopeStack := s.scopeStack.pop }) := by
  unfold scopeExit
  rw [if_neg hne]; rfl

theorem scopeExit_step {d : Bytes} {s : PState} (h : FP d s) (hne : s.scopeStack.size ≠ 0) :
    ∃ s', scopeExit s = .ok ((), s') ∧ FP d s' ∧ s' = { s with scopeStack := s.scopeStack.pop } := by
  refine ⟨_, scopeExit_run hne, ⟨h.inv, h.tree, fun x hx => ?_⟩, rfl⟩
  show live s.tree x = true
  apply h.scopes x
  simp only [Array.toList_pop] at hx
  exact (List.dropLast_sublist _).subset hx

/-- the scope block of a `TermList` argument: a fresh detached object (state `sm`) whose index is then pushed on the
scope stack -/
theorem newScopeBlock_step {d : Bytes} {s : PState} (h : FP d s) (hsz : s.tree.pool.size < INV) :
    ∃ a s' sm, newScopeBlock s = .ok (a, s') ∧ FP d s' ∧ FP d sm ∧ Fresh1 a s sm ∧
      s' = { sm with scopeStack := sm.scopeStack.push a } ∧ (slot sm.tree a).opcode = opIntScopeBlock ∧
      (slot sm.tree a).infoIndex = pOpcodeTableIndex opIntScopeBlock true ∧ sm.r = s.r ∧
      (slot sm.tree a).tableHandle = s.tableHandle := by
  unfold newScopeBlock
  obtain ⟨n, s1, s3, e1, hr1, e3, h3, f3, hr3, hop3, hinfo3, hidx, _, hth3⟩ := newObjectAt_step h opIntScopeBlock s.r.offset hsz
    (infoOK_const (by decide))
  refine ⟨n, { s3 with scopeStack := s3.scopeStack.push n }, s3, bind_ex' e1 (bind_ex' (lex_offset_ex s1) ?_), ⟨h3.inv, h3.tree, fun x hx => ?_⟩,
    h3, f3, rfl, hop3, hinfo3, hr3, hth3⟩
  · rw [hr1]
    refine bind_ex' e3 (bind_ex' (getObj_live f3.liven) ?_)
    rw [hidx]; rfl
  · show live s3.tree x = true
    simp only [Array.toList_push, List.mem_append, List.mem_singleton] at hx
    rcases hx with hx | hx
    · exact h3.scopes x hx
    · rw [hx]; exact f3.liven

/-- the state `init(…)` and `scopeEnter(0)` leave: the one the object list of a table is parsed from -/
def _root_.Firefly.AmlParser.F.initState (d : Bytes) (handle : Nat) (s : PState) : PState :=
  { s with tableHandle := handle, resolvePasses := 0, mergedScopes := 0, relocatedObjects := 0, allBlocks := false,
           scopeStack := #[0], pkgEndStack := #[d.size], r := Reader.init d headerLen, streamEnd := d.size }

theorem _root_.Firefly.AmlParser.F.init_run (d : Bytes) (handle : Nat) (s : PState) :
    (init d handle >>= fun _ => scopeEnter 0) s = .ok ((), F.initState d handle s) := by
  let s0 : PState := { s with tableHandle := handle, resolvePasses := 0, mergedScopes := 0, relocatedObjects := 0, allBlocks := false, scopeStack := #[], pkgEndStack := #[] }
  let s1 : PState := { s0 with r := Reader.init d headerLen, streamEnd := d.size }
  have e : init d handle s = .ok ((), { s1 with pkgEndStack := #[d.size], r := setEnd d s1.r d.size }) := by
    unfold init
    exact bind_ex' (s1 := s0) rfl (bind_ex' (s1 := s1) rfl (bind_ex' (pushPkgEnd_run d d.size s1) rfl))
  rw [bind_run e, setEnd_le (Nat.le_refl _)]
  rfl

theorem _root_.Firefly.AmlParser.F.initState_fp {d : Bytes} {s : PState} (ht : TreeG s.tree) (handle : Nat) :
    FP d (F.initState d handle s) :=
  ⟨inv_init d headerLen, ht, fun x hx => by rw [show x = 0 by simpa [F.initState] using hx]; exact ht.root⟩

theorem _root_.Firefly.AmlParser.F.firstPass_eq (d : Bytes) (fuel handle : Nat) (s : PState) :
    firstPass d fuel handle s = parseObjectList d fuel fuel (F.initState d handle s) := by
  unfold firstPass
  show (init d handle >>= fun _ => (scopeEnter 0 >>= fun _ => parseObjectList d fuel fuel)) s = _
  rw [← bind_assoc, bind_run (F.init_run d handle s)]

/-- executable check of `TreeG` (for the non-vacuity examples) -/
def treeGb (t : ObjectTree) : Bool :=
  wfCheck t && live t 0 &&
  (List.range t.pool.size).all fun x => !live t x || (opFlags (slot t x).infoIndex).isSome

theorem treeG_of_b {t : ObjectTree} (h : treeGb t = true) : TreeG t := by
  unfold treeGb at h
  simp only [Bool.and_eq_true, List.all_eq_true, List.mem_range, Bool.or_eq_true, Bool.not_eq_true'] at h
  obtain ⟨⟨hw, hroot⟩, hall⟩ := h
  refine ⟨by unfold wfCheck at hw; exact wfCert_sound' hw, ?_, hroot⟩
  intro x hx
  rcases hall x (live_lt hx) with h1 | h1
  · rw [hx] at h1; cases h1
  · exact h1

end Firefly.AmlParser.G
