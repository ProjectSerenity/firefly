import Firefly.Proof.AmlFrames
import Firefly.Proof.AmlMerge
import Firefly.Model.AmlShapes
/-!
What the first pass leaves behind: every `Scope` directive of the table has the shape the merge pass relies on
(`MI`, `Proof/AmlMerge.lean`).  The invariants (`DirOK`, `MthOK`, `CSA`, together `Both`; `KP`; while the arguments of a
`Scope` or `Method` are read `DIRx`, which the argument loop uses in the form `ArgsInv`) and how a step with a slot frame
(`SGrow`), a fresh object, a payload update and an append keep them.  The walk that uses them is `Proof/AmlSkipWalk.lean`;
the contract `FNP` and what `parseArg` says of its result (`ArgRes`) are stated here.
-/
namespace Firefly.AmlParser.F
open Firefly.AmlLex Firefly.AmlTree Firefly.C13 Firefly.AmlParser.G Firefly.AmlParser.S
open Firefly.Gen.C12

def scopeInfo : Nat := pOpcodeTableIndex opScope true

theorem scope_row : argCnt scopeInfo = 3 ∧ argAt scopeInfo 0 = argTypePkgLen ∧ argAt scopeInfo 1 = argTypeNameString ∧
    argAt scopeInfo 2 = argTypeTermList := by decide +kernel

/-- a complete `Scope` directive: attached, with the shape `MI` asks for, its first argument a name-path object -/
structure DShape (d : Bytes) (t : ObjectTree) (x : Nat) : Prop where
  att : C13.P t x ≠ INV
  fi : Fi t x ≠ INV
  shape : ShapeAt d t x
  nameOp : (slot t (Fi t x)).opcode = opIntNamePath

/-- every `Scope` object of the table being parsed, other than `ex`, has no arguments yet or is complete -/
def DirOK (d : Bytes) (ex : Option Nat) (s : PState) : Prop :=
  ∀ x, live s.tree x = true → (slot s.tree x).opcode = opScope → (slot s.tree x).tableHandle = s.tableHandle → some x ≠ ex →
    Fi s.tree x = INV ∨ DShape d s.tree x

theorem DirOK.weaken {d : Bytes} {s : PState} (h : DirOK d none s) (ex : Option Nat) : DirOK d ex s :=
  fun x hl ho hh _ => h x hl ho hh (by intro hc; cases hc)

theorem DirOK.ofSome {d : Bytes} {s : PState} {c : Nat} (h : DirOK d (some c) s) (hc : (slot s.tree c).opcode ≠ opScope) :
    DirOK d none s := by
  intro x hl ho hh _
  exact h x hl ho hh (by intro e; cases e; exact hc ho)

theorem DirOK.close {d : Bytes} {s : PState} {c : Nat} (h : DirOK d (some c) s) (hc : Fi s.tree c = INV ∨ DShape d s.tree c) :
    DirOK d none s := by
  intro x hl ho hh _
  by_cases hx : x = c
  · rw [hx]; exact hc
  · exact h x hl ho hh (by intro e; cases e; exact hx rfl)

theorem DirOK.ofTree {d : Bytes} {ex : Option Nat} {s s' : PState} (h : DirOK d ex s) (ht : s'.tree = s.tree)
    (hh : s'.tableHandle = s.tableHandle) : DirOK d ex s' := by
  intro x hl ho hd hex
  rw [ht] at hl ho hd ⊢
  exact h x hl ho (by rw [hd, hh]) hex

/-- `curObj` hangs under a scope block (or nowhere) -/
def ParSB (s : PState) (curObj : Nat) : Prop :=
  C13.P s.tree curObj = INV ∨ (slot s.tree (C13.P s.tree curObj)).opcode = opIntScopeBlock

variable {T : Nat → Prop}

theorem DShape.keep {d : Bytes} {t t' : ObjectTree} {x : Nat} (h : DShape d t x) (w : WF t) (w' : WF t')
    (hx : live t x = true) (a : KeepsArgs t t' x) (f1 : Fi t' (Fi t x) = Fi t (Fi t x))
    (hp : Pay (slot t' x) = Pay (slot t x)) (hpx : C13.P t' x ≠ INV) : DShape d t' x :=
  ⟨hpx, by rw [a.fi]; exact h.fi, h.shape.keep w w' hx h.fi a f1 hp,
    by rw [a.fi, pay_opcode (a.kid _ (w.live_fi hx h.fi) ((w.lP hx).fi h.fi).1).2.2.1]; exact h.nameOp⟩

/-- what `append(y, ·)` may touch, as `DirOK.append` and `MthOK.append` spell it out: the object under construction (the
exception, a `Scope` or a `Method`), or an object that is neither and hangs under a scope block (or nowhere) or is a scope
block itself — so not the name object of a directive and not the name or the flags of a method -/
def Tch (s : PState) (ex : Option Nat) (y : Nat) : Prop :=
  (some y = ex ∧ ((slot s.tree y).opcode = opScope ∨ (slot s.tree y).opcode = opMethod)) ∨
    (((slot s.tree y).opcode ≠ opScope ∧ (slot s.tree y).opcode ≠ opMethod) ∧
      (ParSB s y ∨ (slot s.tree y).opcode = opIntScopeBlock))

/-- what a step of the walk may touch: such an object that is no name-or-call object either (`CSA`) -/
def TOK (s : PState) (ex : Option Nat) (y : Nat) : Prop := Tch s ex y ∧ (slot s.tree y).opcode ≠ opIntNamePathOrMethodCall

/-- if `obj` may be touched, so may its parent: a scope block, when there is one -/
theorem TOK.ofTCur {s : PState} {ex : Option Nat} {obj : Nat} (hobj : TOK s ex obj) (hpar : ParSB s obj) (w : WF s.tree) :
    ∀ y, TCur s obj y → live s.tree y = true → TOK s ex y := by
  intro y hT hl
  rcases hT with hT | hT
  · rw [hT]; exact hobj
  · rcases hpar with hq | hq
    · rw [hT, hq, live_not_INV w] at hl; cases hl
    · rw [hT]; exact ⟨Or.inr ⟨⟨by rw [hq]; decide, by rw [hq]; decide⟩, Or.inr hq⟩, by rw [hq]; decide⟩

/-- the exception of the invariants while the arguments of `c` are read: a `Scope` or a `Method` is incomplete until its
block hangs under it; an object of any other kind is no exception -/
def exOf (s : PState) (c : Nat) : Option Nat :=
  if (slot s.tree c).opcode = opScope ∨ (slot s.tree c).opcode = opMethod then some c else none

theorem exOf_pos {s : PState} {c : Nat} (h : (slot s.tree c).opcode = opScope ∨ (slot s.tree c).opcode = opMethod) :
    exOf s c = some c := if_pos h

theorem exOf_neg {s : PState} {c : Nat} (h1 : (slot s.tree c).opcode ≠ opScope) (h2 : (slot s.tree c).opcode ≠ opMethod) :
    exOf s c = none := if_neg (fun e => e.elim h1 h2)

/-- `exOf s c` is the only exception the contract of `parseArg` (`FNP.arg`) admits -/
theorem exOf_eq {s : PState} {c : Nat} {ex : Option Nat}
    (h1 : ∀ e, ex = some e → e = c ∧ ((slot s.tree c).opcode = opScope ∨ (slot s.tree c).opcode = opMethod))
    (h2 : (slot s.tree c).opcode = opScope ∨ (slot s.tree c).opcode = opMethod → ex = some c) : ex = exOf s c := by
  by_cases hq : (slot s.tree c).opcode = opScope ∨ (slot s.tree c).opcode = opMethod
  · rw [exOf_pos hq]; exact h2 hq
  · rw [exOf_neg (fun e => hq (Or.inl e)) (fun e => hq (Or.inr e))]
    cases ex with
    | none => rfl
    | some e => exact absurd (h1 e rfl).2 hq

theorem exOf_kfr {s s' : PState} (k : KFr s s') {c : Nat} (hc : live s.tree c = true) : exOf s' c = exOf s c := by
  unfold exOf; simp only [k.sK c hc, k.mK c hc]

/-- while its arguments are read, `c` (under a scope block, or nowhere) may be touched -/
theorem Tch.cur {s : PState} {c : Nat} (hpar : ParSB s c) : Tch s (exOf s c) c := by
  by_cases hq : (slot s.tree c).opcode = opScope ∨ (slot s.tree c).opcode = opMethod
  · exact Or.inl ⟨(exOf_pos hq).symm, hq⟩
  · exact Or.inr ⟨⟨fun e => hq (Or.inl e), fun e => hq (Or.inr e)⟩, Or.inl hpar⟩

/-- a touchable object is not the name object of a complete directive -/
theorem Tch.not_name {d : Bytes} {s : PState} {ex : Option Nat} {y x : Nat} (hy : Tch s ex y) (w : WF s.tree) (hx : live s.tree x = true)
    (hop : (slot s.tree x).opcode = opScope) (h1 : DShape d s.tree x) : y ≠ Fi s.tree x := by
  intro e
  have p1 := ((w.lP hx).fi h1.fi).1
  rcases hy with h0 | h0
  · have := h0.2
    rw [e, h1.nameOp] at this
    revert this; decide
  · rcases h0.2 with (h3 | h3) | h3
    · rw [e, p1] at h3; exact live_ne_INV w.size_le hx h3
    · rw [e, p1, hop] at h3
      revert h3; decide
    · rw [e, h1.nameOp] at h3
      revert h3; decide

/-- `DirOK` is kept by every step that leaves the objects outside a set of touchable objects alone: a step of the walk
(`τ := T`, `SGrow.oframe`) and `append(obj, arg)` (`τ := (· = obj)`, `oframe_append`) alike -/
theorem DirOK.keep {d : Bytes} {ex : Option Nat} {τ : Nat → Prop} {s s' : PState} (h : DirOK d ex s) (f : OFrame τ s s')
    (w : WF s.tree) (w' : WF s'.tree) (hth : s'.tableHandle = s.tableHandle) (hT : ∀ y, τ y → live s.tree y = true → Tch s ex y)
    (hfresh : ∀ x, live s.tree x = false → live s'.tree x = true → (slot s'.tree x).opcode = opScope → Fi s'.tree x = INV) :
    DirOK d ex s' := by
  intro x hl ho hh hne
  cases hl0 : live s.tree x with
  | false => exact Or.inl (hfresh x hl0 hl ho)
  | true =>
    have ho0 : (slot s.tree x).opcode = opScope := (f.kfr.sK x hl0).1 ho
    have hh0 : (slot s.tree x).tableHandle = s.tableHandle := by
      rw [← (f.kfr.nameKK x hl0 (by rw [ho0]; exact isK_scope)).2, hh, hth]
    have n0 : ¬ τ x := fun q => (hT x q hl0).elim (fun h1 => hne h1.1) fun h1 => h1.1.1 ho0
    have a := f.args x hl0 n0
    rcases h x hl0 ho0 hh0 hne with h1 | h1
    · exact Or.inl (by rw [a.fi]; exact h1)
    · have l1 := w.live_fi hl0 h1.fi
      exact Or.inr (h1.keep w w' hl0 a (f.args _ l1 fun q => (hT _ q l1).not_name w hl0 ho0 h1 rfl).fi (f.pay x hl0 n0 h1.att)
        (f.par x hl0 h1.att))

/-- freed slots carry no name: a new object that reuses one starts without a name -/
def FN (s : PState) : Prop := ∀ x, live s.tree x = false → (slot s.tree x).name.b0 = 0

theorem FN.grow {c : Nat} {s s' : PState} (h : FN s) (g : SGrow T c s s') : FN s' := by
  intro x hx
  rw [g.kfr.deadK x hx]
  apply h
  cases hq : live s.tree x with
  | false => rfl
  | true => rw [g.oldLive x hq] at hx; cases hx

/-- a complete `Method`: a childless name object, a childless byte constant (the flags), a scope block -/
def MthC (t : ObjectTree) (m : Nat) : Prop := ∃ k1 k2 k3, MK3 t m k1 k2 k3

/-- every `Method` other than `ex` is complete -/
def MthOK (ex : Option Nat) (s : PState) : Prop :=
  ∀ m, live s.tree m = true → (slot s.tree m).opcode = opMethod → some m ≠ ex → MthC s.tree m

theorem MthOK.ofSome {s : PState} {c : Nat} (h : MthOK (some c) s) (hc : (slot s.tree c).opcode ≠ opMethod) : MthOK none s := by
  intro m hl ho _
  exact h m hl ho (by intro e; cases e; exact hc ho)

theorem MthOK.close {s : PState} {c : Nat} (h : MthOK (some c) s) (hc : MthC s.tree c) : MthOK none s := by
  intro m hl ho _
  by_cases hm : m = c
  · rw [hm]; exact hc
  · exact h m hl ho (by intro e; cases e; exact hm rfl)

theorem MthOK.ofTree {ex : Option Nat} {s s' : PState} (h : MthOK ex s) (ht : s'.tree = s.tree) : MthOK ex s' := by
  unfold MthOK; rw [ht]; exact h

theorem mth_ops : opIntNamePath ≠ opMethod ∧ opBytePrefix ≠ opMethod ∧ opIntScopeBlock ≠ opMethod ∧
    opIntNamePath ≠ opIntScopeBlock ∧ opBytePrefix ≠ opIntScopeBlock ∧ opIntNamePath ≠ opScope ∧ opBytePrefix ≠ opScope ∧
    opMethod ≠ opIntScopeBlock ∧ opMethod ≠ opScope := by decide

/-- a touchable object is not a complete `Method` other than the exception, nor its name, nor its flags -/
theorem Tch.not_method {s : PState} {ex : Option Nat} {y m k1 k2 k3 : Nat} (hy : Tch s ex y) (w : WF s.tree) (hm : live s.tree m = true)
    (hop : (slot s.tree m).opcode = opMethod) (hne : some m ≠ ex) (mk : MK3 s.tree m k1 k2 k3) : y ≠ m ∧ y ≠ k1 ∧ y ≠ k2 := by
  obtain ⟨p1, p2, _⟩ := mk.parents w hm
  have hmINV : m ≠ INV := live_ne_INV w.size_le hm
  -- a name or a byte constant under `m`
  have hk : ∀ k, C13.P s.tree k = m → (slot s.tree k).opcode ≠ opScope → (slot s.tree k).opcode ≠ opMethod →
      (slot s.tree k).opcode ≠ opIntScopeBlock → y ≠ k := by
    intro k hk n1 n2 n3 e
    rcases hy with h0 | h0
    · rcases h0.2 with h2 | h2
      · exact n1 (by rw [← e]; exact h2)
      · exact n2 (by rw [← e]; exact h2)
    · rcases h0.2 with (h3 | h3) | h3
      · rw [e, hk] at h3; exact hmINV h3
      · rw [e, hk, hop] at h3; exact mth_ops.2.2.2.2.2.2.2.1 h3
      · exact n3 (by rw [← e]; exact h3)
  refine ⟨fun e => ?_, hk k1 p1 (by rw [mk.o1]; exact mth_ops.2.2.2.2.2.1) (by rw [mk.o1]; exact mth_ops.1) (by rw [mk.o1]; exact mth_ops.2.2.2.1),
    hk k2 p2 (by rw [mk.o2]; exact mth_ops.2.2.2.2.2.2.1) (by rw [mk.o2]; exact mth_ops.2.1) (by rw [mk.o2]; exact mth_ops.2.2.2.2.1)⟩
  rcases hy with h0 | h0
  · exact hne (by rw [← e]; exact h0.1)
  · exact h0.1.2 (by rw [e]; exact hop)

/-- `MthOK` is kept by every step that leaves the objects outside a set of touchable objects alone (see `DirOK.keep`) -/
theorem MthOK.keep {ex : Option Nat} {τ : Nat → Prop} {s s' : PState} (h : MthOK ex s) (f : OFrame τ s s') (w : WF s.tree)
    (hT : ∀ y, τ y → live s.tree y = true → Tch s ex y)
    (hfresh : ∀ x, live s.tree x = false → live s'.tree x = true → (slot s'.tree x).opcode = opMethod → some x = ex) :
    MthOK ex s' := by
  intro m hl ho hne
  cases hl0 : live s.tree m with
  | false => exact absurd (hfresh m hl0 hl ho) hne
  | true =>
    have ho0 := (f.kfr.mK m hl0).1 ho
    obtain ⟨k1, k2, k3, mk⟩ := h m hl0 ho0 hne
    have nt : ∀ y, live s.tree y = true → τ y → y ≠ m ∧ y ≠ k1 ∧ y ≠ k2 := fun y hy q => (hT y q hy).not_method w hl0 ho0 hne mk
    have n0 := fun q => (nt m hl0 q).1 rfl
    exact ⟨k1, k2, k3, mk.keep w hl0 (f.args m hl0 n0) (f.args k1 mk.l1 fun q => (nt k1 mk.l1 q).2.1 rfl).fi
      (f.args k2 mk.l2 fun q => (nt k2 mk.l2 q).2.2 rfl).fi (f.pay m hl0 n0 mk.att) (f.par m hl0 mk.att)⟩

/-- `append(obj, arg)` under the exception or under an object far from every method -/
theorem MthOK.append {ex : Option Nat} {s1 s2 : PState} (h : MthOK ex s1) (w1 : WF s1.tree)
    {obj arg : Nat} (ha : C13.P s1.tree arg = INV) (ho : live s1.tree obj = true)
    (hobj : (some obj = ex ∧ ((slot s1.tree obj).opcode = opScope ∨ (slot s1.tree obj).opcode = opMethod)) ∨
      (((slot s1.tree obj).opcode ≠ opScope ∧ (slot s1.tree obj).opcode ≠ opMethod) ∧
        (ParSB s1 obj ∨ (slot s1.tree obj).opcode = opIntScopeBlock)))
    (hl : ∀ x, live s2.tree x = live s1.tree x) (sp : SamePay s1.tree s2.tree)
    (hP : ∀ x, C13.P s2.tree x = if x = arg then obj else C13.P s1.tree x)
    (hNx : ∀ x, Nx s2.tree x = if x = arg then INV else if x = La s1.tree obj ∧ La s1.tree obj ≠ INV then arg else Nx s1.tree x)
    (hFi : ∀ x, Fi s2.tree x = if x = obj ∧ La s1.tree obj = INV then arg else Fi s1.tree x) : MthOK ex s2 :=
  h.keep (oframe_append w1 ha ho hl sp hP hNx hFi) w1 (fun _ e _ => e ▸ hobj) fun x h1 h2 _ => by rw [hl, h1] at h2; cases h2

/-- every unresolved name-or-call object is attached and holds the `[]byte` of its path -/
def CSA (s : PState) : Prop :=
  ∀ x, live s.tree x = true → (slot s.tree x).opcode = opIntNamePathOrMethodCall →
    C13.P s.tree x ≠ INV ∧ ∃ off len, (slot s.tree x).value = .bytes off len

theorem CSA.callShape {s : PState} (h : CSA s) : CallShape s := fun x hl ho => (h x hl ho).2

theorem kfr_cK {s s' : PState} (h : KFr s s') (x : Nat) (hx : live s.tree x = true) :
    (slot s'.tree x).opcode = opIntNamePathOrMethodCall ↔ (slot s.tree x).opcode = opIntNamePathOrMethodCall := by
  rcases h.opK x hx with e | ⟨e1, e2⟩
  · rw [e]
  · constructor
    · intro hq; rw [hq, isK_call] at e2; cases e2
    · intro hq; rw [hq, isK_call] at e1; cases e1

theorem CSA.ofTree {s s' : PState} (h : CSA s) (ht : s'.tree = s.tree) : CSA s' := by
  unfold CSA; rw [ht]; exact h

theorem CSA.grow {ex : Option Nat} {c : Nat} {s s' : PState} (h : CSA s) (g : SGrow T c s s')
    (hT : ∀ y, T y → live s.tree y = true → TOK s ex y)
    (hfresh : ∀ x, live s.tree x = false → live s'.tree x = true → (slot s'.tree x).opcode = opIntNamePathOrMethodCall →
      C13.P s'.tree x ≠ INV ∧ ∃ off len, (slot s'.tree x).value = .bytes off len) : CSA s' := by
  intro x hl ho
  cases hl0 : live s.tree x with
  | false => exact hfresh x hl0 hl ho
  | true =>
    have ho0 := (kfr_cK g.kfr x hl0).1 ho
    obtain ⟨hp, off, len, hv⟩ := h x hl0 ho0
    have hTx : ¬ T x := fun hq => (hT x hq hl0).2 ho0
    have hpay := g.payK x hl0 hTx (Or.inl hp)
    exact ⟨by rw [g.oldP x hl0]; exact hp, off, len, by rw [pay_value hpay]; exact hv⟩

theorem CSA.append {s1 s2 : PState} (h : CSA s1) (w1 : WF s1.tree) {obj arg : Nat} (ho : live s1.tree obj = true)
    (hl : ∀ x, live s2.tree x = live s1.tree x) (sp : SamePay s1.tree s2.tree)
    (hP : ∀ x, C13.P s2.tree x = if x = arg then obj else C13.P s1.tree x) : CSA s2 := by
  intro x hx hop
  refine ⟨?_, h.callShape.ofPay (fun y hy => ⟨by rw [← hl]; exact hy, sp.pay y⟩) x hx hop⟩
  rw [hP]
  split
  · exact live_ne_INV w1.size_le ho
  · exact (h x (by rw [← hl]; exact hx) (by rw [← pay_opcode (sp.pay x)]; exact hop)).1

/-- both invariants of the first pass: the `Scope` directives and — when `jf` holds, i.e. when the pool the table is
parsed into had only complete methods — the `Method`s and the name-or-call objects -/
structure Both (jf : Prop) (d : Bytes) (ex : Option Nat) (s : PState) : Prop where
  dir : DirOK d ex s
  mth : jf → MthOK ex s
  cs : jf → CSA s

variable {jf : Prop}

theorem Both.ofSome {d : Bytes} {s : PState} {c : Nat} (h : Both jf d (some c) s) (h1 : (slot s.tree c).opcode ≠ opScope)
    (h2 : (slot s.tree c).opcode ≠ opMethod) : Both jf d none s := ⟨h.dir.ofSome h1, fun hb => (h.mth hb).ofSome h2, h.cs⟩

theorem Both.ofTree {d : Bytes} {ex : Option Nat} {s s' : PState} (h : Both jf d ex s) (ht : s'.tree = s.tree)
    (hh : s'.tableHandle = s.tableHandle) : Both jf d ex s' := ⟨h.dir.ofTree ht hh, fun hb => (h.mth hb).ofTree ht, fun hb => (h.cs hb).ofTree ht⟩

/-- the exception as the argument loop states it: `exOf s c` while arguments are outstanding -/
theorem Both.exAt {d : Bytes} {s : PState} {c j n : Nat} (h : Both jf d (exOf s c) s) (hlt : exOf s c ≠ none → j < n) :
    Both jf d (if j < n then exOf s c else none) s := by
  by_cases q : j < n
  · rw [if_pos q]; exact h
  · rw [if_neg q]
    have e : exOf s c = none := Classical.byContradiction fun e => q (hlt e)
    exact e ▸ h

theorem Both.weaken {d : Bytes} {s : PState} (h : Both jf d none s) (ex : Option Nat) : Both jf d ex s :=
  ⟨h.dir.weaken ex, fun hb m hl ho _ => h.mth hb m hl ho (by intro e; cases e), h.cs⟩

/-- a step of the walk: what it touches may be touched, and a new object is a blank `Scope`, the excepted `Method`, an
attached name-or-call object with its path, or of no kind the invariants speak of -/
theorem Both.grow {d : Bytes} {ex : Option Nat} {c : Nat} {s s' : PState} (h : Both jf d ex s) (g : SGrow T c s s')
    (w : WF s.tree) (w' : WF s'.tree) (hT : ∀ y, T y → live s.tree y = true → TOK s ex y)
    (hfresh : ∀ x, live s.tree x = false → live s'.tree x = true →
      ((slot s'.tree x).opcode = opScope → Fi s'.tree x = INV) ∧ ((slot s'.tree x).opcode = opMethod → some x = ex) ∧
      ((slot s'.tree x).opcode = opIntNamePathOrMethodCall →
        C13.P s'.tree x ≠ INV ∧ ∃ off len, (slot s'.tree x).value = .bytes off len)) :
    Both jf d ex s' :=
  have hT' := fun y q hy => (hT y q hy).1
  ⟨h.dir.keep (g.oframe w) w w' g.same.2.1 hT' (fun x h1 h2 h3 => (hfresh x h1 h2).1 h3),
   fun hb => (h.mth hb).keep (g.oframe w) w hT' (fun x h1 h2 h3 => (hfresh x h1 h2).2.1 h3),
   fun hb => (h.cs hb).grow g hT (fun x h1 h2 h3 => (hfresh x h1 h2).2.2 h3)⟩

/-- what `parseSimpleArg(NameString)` hands back: a childless name-path object holding the bytes of the path -/
def NameObj (d : Bytes) (t : ObjectTree) (c : Nat) : Prop :=
  (slot t c).opcode = opIntNamePath ∧ Fi t c = INV ∧ ∃ off len, (slot t c).value = .bytes off len ∧ ExprOK (sliceBytes d off len)

theorem sliceVal_exprOK (d : Bytes) (sl : Slice) (h : ∀ b, (sliceExpr d sl)[0]? = some b → b ≠ 0) :
    ∃ off len, sliceVal sl = .bytes off len ∧ ExprOK (sliceBytes d off len) := by
  unfold sliceVal
  cases hd : sl.data with
  | none =>
    refine ⟨0, 0, rfl, ?_⟩
    intro hl
    unfold sliceBytes at hl
    simp at hl
  | some off =>
    refine ⟨off, sl.len, rfl, ?_⟩
    intro _ b hb
    apply h b
    unfold sliceExpr
    rw [hd]
    exact hb

/-- the invariant of the parser state in the first pass -/
structure KP (d : Bytes) (s : PState) : Prop where
  fp : FP d s
  sk : s.allBlocks = false
  ns : ∀ x ∈ s.scopeStack.toList, (slot s.tree x).opcode = opIntScopeBlock
  fn : FN s

/-- what a first-pass function leaves behind (`ok` = it did not fail) -/
def PostF (d : Bytes) (T : Nat → Prop) (c : Nat) (s s' : PState) (ok extra : Prop) : Prop :=
  KP d s' ∧ SGrow T c s s' ∧ s.scopeStack.size ≤ s'.scopeStack.size ∧ (ok → extra)

theorem KP.step {d : Bytes} {c : Nat} {s s' : PState} (h : KP d s) (hf : FP d s') (g : SGrow T c s s')
    (hst : ∀ x ∈ s'.scopeStack.toList, x ∈ s.scopeStack.toList ∨ (slot s'.tree x).opcode = opIntScopeBlock) : KP d s' := by
  refine ⟨hf, by rw [g.same.1]; exact h.sk, ?_, h.fn.grow g⟩
  intro x hx
  rcases hst x hx with h0 | h0
  · exact (g.kfr.bK x (h.fp.scopes x h0)).2 (h.ns x h0)
  · exact h0

/-- a childless name-path object with its table row -/
def NameObj2 (t : ObjectTree) (c : Nat) : Prop :=
  (slot t c).opcode = opIntNamePath ∧ Fi t c = INV ∧ (slot t c).infoIndex = pOpcodeTableIndex opIntNamePath true

/-- a childless byte constant with its table row -/
def ByteObj (t : ObjectTree) (c : Nat) : Prop :=
  (slot t c).opcode = opBytePrefix ∧ Fi t c = INV ∧ (slot t c).infoIndex = pOpcodeTableIndex opBytePrefix true ∧
    ∃ v, (slot t c).value = .u64 v

/-- the invariant while argument `j` of `curObj` is read: a `Scope` gets its name and its block, a `Method` its name,
its flags and its block -/
def DIRx (jf : Prop) (d : Bytes) (s : PState) (curObj j : Nat) : Prop :=
  if (slot s.tree curObj).opcode = opScope then
    (slot s.tree curObj).name.b0 = 0 ∧ C13.P s.tree curObj ≠ INV ∧ (slot s.tree curObj).infoIndex = scopeInfo ∧
    (j ≤ 1 → Both jf d (some curObj) s ∧ Fi s.tree curObj = INV ∧ La s.tree curObj = INV) ∧
    (j = 2 → Both jf d (some curObj) s ∧ La s.tree curObj = Fi s.tree curObj ∧ live s.tree (Fi s.tree curObj) = true ∧
      NameObj d s.tree (Fi s.tree curObj)) ∧
    (3 ≤ j → Both jf d none s)
  else if (slot s.tree curObj).opcode = opMethod then
    C13.P s.tree curObj ≠ INV ∧ (slot s.tree curObj).infoIndex = methodInfoIdx ∧
    (j ≤ 1 → Both jf d (some curObj) s ∧ Fi s.tree curObj = INV ∧ La s.tree curObj = INV) ∧
    (j = 2 → Both jf d (some curObj) s ∧ La s.tree curObj = Fi s.tree curObj ∧ live s.tree (Fi s.tree curObj) = true ∧
      NameObj2 s.tree (Fi s.tree curObj)) ∧
    (j = 3 → Both jf d (some curObj) s ∧ live s.tree (Fi s.tree curObj) = true ∧ NameObj2 s.tree (Fi s.tree curObj) ∧
      Nx s.tree (Fi s.tree curObj) = La s.tree curObj ∧ live s.tree (La s.tree curObj) = true ∧
      ByteObj s.tree (La s.tree curObj)) ∧
    (4 ≤ j → Both jf d none s)
  else Both jf d none s

/-- panic-freedom (and the directive invariant) of the mutually recursive functions with fuel `f` in the first pass -/
structure FNP (jf : Prop) (d : Bytes) (f : Nat) : Prop where
  target : ∀ {s : PState}, KP d s → Both jf d none s → Bud d 1 s →
    NPs (parseTarget d f) s (fun a s' => PostF d (fun _ => False) 1 s s' (a.2 ≠ .failed) (Both jf d none s') ∧ RetOK s s' a.1)
  arg : ∀ {s : PState} (info curObj argType : Nat) (ex : Option Nat), KP d s → live s.tree curObj = true → InfoOK info →
    Bud d 2 s → argType ≠ argTypeByteList →
    (argType = argTypeFieldList → C13.P s.tree curObj ≠ INV ∧ live s.tree (La s.tree curObj) = true ∧
      ∃ v, (slot s.tree (La s.tree curObj)).value = .u64 v) →
    Both jf d ex s → (∀ e, ex = some e → e = curObj ∧ ((slot s.tree curObj).opcode = opScope ∨ (slot s.tree curObj).opcode = opMethod)) →
    ((slot s.tree curObj).opcode = opScope ∨ (slot s.tree curObj).opcode = opMethod → ex = some curObj) →
    ParSB s curObj → (ex ≠ none → Leaf argType ∨ argType = argTypeTermList) → (slot s.tree curObj).opcode ≠ opIntNamePathOrMethodCall →
    NPs (parseArg d f info curObj argType) s (fun a s' => PostF d (TCur s curObj) 2 s s' (a.2 ≠ .failed) (Both jf d ex s') ∧
      RetOK s s' a.1 ∧
      (Leaf argType → (∀ x, live s.tree x = true → x ≠ curObj → slot s'.tree x = slot s.tree x) ∧
        Fi s'.tree curObj = Fi s.tree curObj ∧ La s'.tree curObj = La s.tree curObj) ∧
      (argType = argTypeByteData → a.2 = .ok → ∃ x v, a.1 = some x ∧ (slot s'.tree x).value = .u64 v) ∧
      (argType = argTypePkgLen → a.1 = none) ∧ (isSimpleArg argType = true → a.2 = .ok → ∃ x, a.1 = some x) ∧
      (argType = argTypeNameString → a.2 = .ok → ∃ x, a.1 = some x ∧ NameObj d s'.tree x) ∧
      (argType = argTypeTermList → a.2 ≠ .failed → ∃ x, a.1 = some x ∧ (slot s'.tree x).opcode = opIntScopeBlock ∧
        (slot s'.tree x).infoIndex = pOpcodeTableIndex opIntScopeBlock true) ∧
      (argType = argTypeTermArg ∨ argType = argTypeTermList → a.2 ≠ .ok) ∧
      (Leaf argType ∨ argType = argTypeTermList → (slot s'.tree curObj).infoIndex = (slot s.tree curObj).infoIndex) ∧
      (argType = argTypeTermList → ∀ x, live s.tree x = true → slot s'.tree x = slot s.tree x) ∧
      (isSimpleArg argType = true → a.2 = .ok ∨ a.2 = .failed) ∧
      (argType = argTypeNameString → a.2 = .ok → ∀ x, a.1 = some x → NameObj2 s'.tree x) ∧
      (argType = argTypeByteData → a.2 = .ok → ∀ x, a.1 = some x → ByteObj s'.tree x) ∧
      (argType = argTypePkgLen → a.2 = .ok ∨ a.2 = .failed ∨ ∃ fl, opFlags info = some fl ∧ hasFlag fl flagDeferParsing = true))
  args : ∀ {s : PState} (info curObj j : Nat), KP d s → live s.tree curObj = true → InfoOK info → rowFacts info = true →
    j ≤ argCnt info → Bud d (2 * (7 - j)) s → Att s info curObj → PrevOK s info curObj j →
    (1 ≤ j → argAt info (j - 1) ≠ argTypeTermArg) → DIRx jf d s curObj j →
    ((slot s.tree curObj).opcode = opScope → info = scopeInfo) → ((slot s.tree curObj).opcode = opMethod → info = methodInfoIdx) →
    ParSB s curObj → (slot s.tree curObj).opcode ≠ opIntNamePathOrMethodCall →
    NPs (parseArgs d f info curObj j) s (fun res s' => PostF d (TCur s curObj) (2 * (7 - j)) s s' (res ≠ .failed) (Both jf d none s'))
  objArgs : ∀ {s : PState} (curObj : Nat), KP d s → live s.tree curObj = true →
    rowFacts (slot s.tree curObj).infoIndex = true → Att s (slot s.tree curObj).infoIndex curObj → Bud d 14 s →
    DIRx jf d s curObj 0 → ParSB s curObj → (slot s.tree curObj).opcode ≠ opIntNamePathOrMethodCall →
    NPs (parseObjectArgs d f curObj) s (fun res s' => PostF d (TCur s curObj) 14 s s' (res ≠ .failed) (Both jf d none s'))
  next : ∀ {s : PState}, KP d s → Both jf d none s → s.scopeStack.size ≠ 0 → Bud d 0 s →
    NPs (parseNextObject d f) s (fun res s' => PostF d (TTop s) 0 s s' (res ≠ .failed) (Both jf d none s'))

theorem target_ops : isTargetOp opScope = false ∧ isTargetOp opIntNamePath = false ∧ isTargetOp opMethod = false ∧
    isTargetOp opIntNamePathOrMethodCall = false ∧ pOpcodeTableIndex opIntNamePathOrMethodCall false = badOpcode := by
  decide +kernel

theorem notScope_of_notK {op : Nat} (h : isK op = false) : op ≠ opScope := by
  intro e; rw [e, isK_scope] at h; cases h

/-- an object of no kind the frames single out (`isK`) is of no kind the invariants speak of -/
theorem notK_new {op : Nat} {A B C : Prop} (h : isK op = false) :
    (op = opScope → A) ∧ (op = opMethod → B) ∧ (op = opIntNamePathOrMethodCall → C) :=
  ⟨fun e => (by rw [e, isK_scope] at h; cases h), fun e => (by rw [e, isK_method] at h; cases h),
   fun e => (by rw [e, isK_call] at h; cases h)⟩

theorem Both.fresh1 {d : Bytes} {ex : Option Nat} {n : Nat} {s s' : PState} (h : Both jf d ex s) (f : Fresh1 n s s')
    (w : WF s.tree) (w' : WF s'.tree) (hnM : (slot s'.tree n).opcode ≠ opMethod)
    (hnC : (slot s'.tree n).opcode ≠ opIntNamePathOrMethodCall) : Both jf d ex s' := by
  refine h.grow (T := fun _ => False) (SGrow.ofFresh1 f) w w' (fun _ hq _ => False.elim hq) ?_
  intro x h1 h2
  by_cases hx : x = n
  · rw [hx]
    exact ⟨fun _ => f.fin, fun ho => absurd ho hnM, fun ho => absurd ho hnC⟩
  · rw [f.livex x hx, h1] at h2; cases h2

theorem KP.append {d : Bytes} {s1 s2 : PState} (h1 : KP d s1) (h2 : FP d s2) (hs2 : s2 = { s1 with tree := s2.tree })
    (sp : SamePay s1.tree s2.tree) (hl : ∀ x, live s2.tree x = live s1.tree x) : KP d s2 := by
  have hsc : s2.scopeStack = s1.scopeStack := by rw [hs2]
  have hab : s2.allBlocks = s1.allBlocks := by rw [hs2]
  refine ⟨h2, by rw [hab]; exact h1.sk, ?_, ?_⟩
  · intro x hx
    rw [pay_opcode (sp.pay x)]
    exact h1.ns x (by rw [← hsc]; exact hx)
  · intro x hx
    rw [pay_name (sp.pay x)]
    exact h1.fn x (by rw [← hl]; exact hx)

theorem ParSB.grow {c : Nat} {s s' : PState} {curObj : Nat} (hpar : ParSB s curObj) (g : SGrow T c s s') (w : WF s.tree)
    (hc : live s.tree curObj = true) : ParSB s' curObj := by
  unfold ParSB at hpar ⊢
  rw [g.oldP _ hc]
  rcases hpar with hq | hq
  · exact Or.inl hq
  · by_cases hpi : C13.P s.tree curObj = INV
    · exact Or.inl hpi
    · have hpl : live s.tree (C13.P s.tree curObj) = true := (w.lP hc).lp.resolve_left hpi
      exact Or.inr ((g.kfr.bK _ hpl).2 hq)

/-- `append(obj, arg)` under the exception or under an object that is neither a `Scope` nor a directive's name -/
theorem DirOK.append {d : Bytes} {ex : Option Nat} {s1 s2 : PState} (h : DirOK d ex s1) (w1 : WF s1.tree) (w2 : WF s2.tree)
    {obj arg : Nat} (hs2 : s2 = { s1 with tree := s2.tree })
    (ha : C13.P s1.tree arg = INV) (ho : live s1.tree obj = true)
    (hobj : (some obj = ex ∧ ((slot s1.tree obj).opcode = opScope ∨ (slot s1.tree obj).opcode = opMethod)) ∨
      (((slot s1.tree obj).opcode ≠ opScope ∧ (slot s1.tree obj).opcode ≠ opMethod) ∧
        (ParSB s1 obj ∨ (slot s1.tree obj).opcode = opIntScopeBlock)))
    (hl : ∀ x, live s2.tree x = live s1.tree x) (sp : SamePay s1.tree s2.tree)
    (hP : ∀ x, C13.P s2.tree x = if x = arg then obj else C13.P s1.tree x)
    (hNx : ∀ x, Nx s2.tree x = if x = arg then INV else if x = La s1.tree obj ∧ La s1.tree obj ≠ INV then arg else Nx s1.tree x)
    (hFi : ∀ x, Fi s2.tree x = if x = obj ∧ La s1.tree obj = INV then arg else Fi s1.tree x) : DirOK d ex s2 :=
  h.keep (oframe_append w1 ha ho hl sp hP hNx hFi) w1 w2 (by rw [hs2]) (fun _ e _ => e ▸ hobj)
    fun x h1 h2 _ => by rw [hl, h1] at h2; cases h2

theorem Both.append {d : Bytes} {ex : Option Nat} {s1 s2 : PState} (h : Both jf d ex s1) (w1 : WF s1.tree) (w2 : WF s2.tree)
    {obj arg : Nat} (hs2 : s2 = { s1 with tree := s2.tree })
    (ha : C13.P s1.tree arg = INV) (ho : live s1.tree obj = true)
    (hobj : (some obj = ex ∧ ((slot s1.tree obj).opcode = opScope ∨ (slot s1.tree obj).opcode = opMethod)) ∨
      (((slot s1.tree obj).opcode ≠ opScope ∧ (slot s1.tree obj).opcode ≠ opMethod) ∧
        (ParSB s1 obj ∨ (slot s1.tree obj).opcode = opIntScopeBlock)))
    (hl : ∀ x, live s2.tree x = live s1.tree x) (sp : SamePay s1.tree s2.tree)
    (hP : ∀ x, C13.P s2.tree x = if x = arg then obj else C13.P s1.tree x)
    (hNx : ∀ x, Nx s2.tree x = if x = arg then INV else if x = La s1.tree obj ∧ La s1.tree obj ≠ INV then arg else Nx s1.tree x)
    (hFi : ∀ x, Fi s2.tree x = if x = obj ∧ La s1.tree obj = INV then arg else Fi s1.tree x) : Both jf d ex s2 :=
  ⟨h.dir.append w1 w2 hs2 ha ho hobj hl sp hP hNx hFi, fun hb => (h.mth hb).append w1 ha ho hobj hl sp hP hNx hFi,
   fun hb => (h.cs hb).append w1 ho hl sp hP⟩

/-- the `Scope` under construction is blank or complete: no exception is left -/
theorem Both.closeDir {d : Bytes} {s : PState} {c : Nat} (h : Both jf d (some c) s) (ho : (slot s.tree c).opcode = opScope)
    (hc : Fi s.tree c = INV ∨ DShape d s.tree c) : Both jf d none s :=
  ⟨h.dir.close hc, fun hb => (h.mth hb).ofSome (by rw [ho]; decide), h.cs⟩

theorem Both.closeMth {d : Bytes} {s : PState} {c : Nat} (h : Both jf d (some c) s) (ho : (slot s.tree c).opcode = opMethod)
    (hc : MthC s.tree c) : Both jf d none s :=
  ⟨h.dir.ofSome (by rw [ho]; decide), fun hb => (h.mth hb).close hc, h.cs⟩

theorem method_not_deferred : ∀ fl, opFlags methodInfoIdx = some fl → hasFlag fl flagDeferParsing = false := by
  intro fl h
  have := method_flags
  rw [show opFlags methodInfo = some fl from h] at this
  exact Option.some.inj this

theorem methodIdx_row : argCnt methodInfoIdx = 4 ∧ argAt methodInfoIdx 0 = argTypePkgLen ∧
    argAt methodInfoIdx 1 = argTypeNameString ∧ argAt methodInfoIdx 2 = argTypeByteData ∧
    argAt methodInfoIdx 3 = argTypeTermList := method_row

/-! `DIRx` says, argument by argument, which arguments the object under construction has.  Its tree part is `ScopeArgs` /
`MethodArgs`; the lemmas below say how the parse of one argument (`congr`: the object and its arguments are left alone)
and the append of the object it returned (`name`, `flags`, `close`) move from one argument to the next. -/

theorem fi_ne_self {t : ObjectTree} (w : WF t) {c : Nat} (hc : live t c = true) (h : live t (Fi t c) = true) : Fi t c ≠ c :=
  fun e => w.P_ne_self h (by rw [((w.lP hc).fi (live_ne_INV w.size_le h)).1]; exact e.symm)

theorem la_ne_self {t : ObjectTree} (w : WF t) {c : Nat} (hc : live t c = true) (h : live t (La t c) = true) : La t c ≠ c :=
  fun e => w.P_ne_self h (by rw [((w.lP hc).la (live_ne_INV w.size_le h)).1]; exact e.symm)

theorem fi_ne_detached {t : ObjectTree} (w : WF t) {c x : Nat} (hc : live t c = true) (h : live t (Fi t c) = true)
    (hx : C13.P t x = INV) : Fi t c ≠ x :=
  fun e => live_ne_INV w.size_le hc (by rw [← ((w.lP hc).fi (live_ne_INV w.size_le h)).1, e]; exact hx)

theorem la_ne_detached {t : ObjectTree} (w : WF t) {c x : Nat} (hc : live t c = true) (h : live t (La t c) = true)
    (hx : C13.P t x = INV) : La t c ≠ x :=
  fun e => live_ne_INV w.size_le hc (by rw [← ((w.lP hc).la (live_ne_INV w.size_le h)).1, e]; exact hx)

theorem NameObj.congr {d : Bytes} {t t' : ObjectTree} {k : Nat} (h : NameObj d t k) (hp : Pay (slot t' k) = Pay (slot t k))
    (hf : Fi t' k = Fi t k) : NameObj d t' k := by
  obtain ⟨o, f, off, len, v, e⟩ := h
  exact ⟨by rw [pay_opcode hp]; exact o, by rw [hf]; exact f, off, len, by rw [pay_value hp]; exact v, e⟩

theorem NameObj2.congr {t t' : ObjectTree} {k : Nat} (h : NameObj2 t k) (hp : Pay (slot t' k) = Pay (slot t k))
    (hf : Fi t' k = Fi t k) : NameObj2 t' k :=
  ⟨by rw [pay_opcode hp]; exact h.1, by rw [hf]; exact h.2.1, by rw [pay_info hp]; exact h.2.2⟩

theorem ByteObj.congr {t t' : ObjectTree} {k : Nat} (h : ByteObj t k) (hp : Pay (slot t' k) = Pay (slot t k))
    (hf : Fi t' k = Fi t k) : ByteObj t' k := by
  obtain ⟨o, f, i, v, hv⟩ := h
  exact ⟨by rw [pay_opcode hp]; exact o, by rw [hf]; exact f, by rw [pay_info hp]; exact i, v, by rw [pay_value hp]; exact hv⟩

/-- the arguments of a `Scope` while its argument `j` is read: none before the name, the name in front of the block -/
def ScopeArgs (d : Bytes) (t : ObjectTree) (c j : Nat) : Prop :=
  (j ≤ 1 → Fi t c = INV ∧ La t c = INV) ∧
  (j = 2 → La t c = Fi t c ∧ live t (Fi t c) = true ∧ NameObj d t (Fi t c))

/-- the arguments of a `Method` while its argument `j` is read -/
def MethodArgs (t : ObjectTree) (c j : Nat) : Prop :=
  (j ≤ 1 → Fi t c = INV ∧ La t c = INV) ∧
  (j = 2 → La t c = Fi t c ∧ live t (Fi t c) = true ∧ NameObj2 t (Fi t c)) ∧
  (j = 3 → live t (Fi t c) = true ∧ NameObj2 t (Fi t c) ∧ Nx t (Fi t c) = La t c ∧ live t (La t c) = true ∧
    ByteObj t (La t c))

/-- the header of a `Scope` under construction: created without a name (`FN`), attached, with its table row -/
def ScopeHdr (t : ObjectTree) (c : Nat) : Prop :=
  (slot t c).name.b0 = 0 ∧ C13.P t c ≠ INV ∧ (slot t c).infoIndex = scopeInfo

/-- the header of a `Method` under construction -/
def MethodHdr (t : ObjectTree) (c : Nat) : Prop := C13.P t c ≠ INV ∧ (slot t c).infoIndex = methodInfoIdx

/-- the invariant of the argument loop of `c` (table row `info`) before argument `j`, in the form the loop works with
(`DIRx`, which the contract `FNP` states, unfolded once: `ofDIRx`): both invariants with `c` excepted while arguments are
outstanding and `c` is a `Scope` or a `Method` (`exOf`), and for these two kinds the row, the header and the arguments
read so far -/
structure ArgsInv (jf : Prop) (d : Bytes) (s : PState) (info c j : Nat) : Prop where
  both : Both jf d (if j < argCnt info then exOf s c else none) s
  par : ParSB s c
  ncall : (slot s.tree c).opcode ≠ opIntNamePathOrMethodCall
  scope : (slot s.tree c).opcode = opScope → info = scopeInfo ∧ ScopeHdr s.tree c ∧ ScopeArgs d s.tree c j
  method : (slot s.tree c).opcode = opMethod → info = methodInfoIdx ∧ MethodHdr s.tree c ∧ MethodArgs s.tree c j

/-- an object that is neither a `Scope` nor a `Method` is never excepted -/
theorem ArgsInv.other {d : Bytes} {s : PState} {info c j : Nat} (hb : Both jf d none s) (hpar : ParSB s c)
    (hcN : (slot s.tree c).opcode ≠ opIntNamePathOrMethodCall) (hq : (slot s.tree c).opcode ≠ opScope)
    (hqm : (slot s.tree c).opcode ≠ opMethod) : ArgsInv jf d s info c j :=
  ⟨by rw [exOf_neg hq hqm, ite_self]; exact hb, hpar, hcN, fun e => absurd e hq, fun e => absurd e hqm⟩

theorem ArgsInv.ofDIRx {d : Bytes} {s : PState} {info c j : Nat} (h : DIRx jf d s c j)
    (hs : (slot s.tree c).opcode = opScope → (slot s.tree c).infoIndex = scopeInfo → info = scopeInfo)
    (hm : (slot s.tree c).opcode = opMethod → (slot s.tree c).infoIndex = methodInfoIdx → info = methodInfoIdx)
    (hpar : ParSB s c) (hcN : (slot s.tree c).opcode ≠ opIntNamePathOrMethodCall) : ArgsInv jf d s info c j := by
  unfold DIRx at h
  by_cases hq : (slot s.tree c).opcode = opScope
  · rw [if_pos hq] at h
    obtain ⟨a, b, e, h1, h2, h3⟩ := h
    refine ⟨?_, hpar, hcN, fun _ => ⟨hs hq e, ⟨a, b, e⟩, fun hj => (h1 hj).2, fun hj => (h2 hj).2⟩,
      fun e => absurd (hq.symm.trans e) mth_ops.2.2.2.2.2.2.2.2.symm⟩
    rw [hs hq e, scope_row.1, exOf_pos (Or.inl hq)]
    by_cases q : j < 3
    · rw [if_pos q]
      by_cases q1 : j ≤ 1
      · exact (h1 q1).1
      · exact (h2 (by omega)).1
    · rw [if_neg q]; exact h3 (by omega)
  · rw [if_neg hq] at h
    by_cases hqm : (slot s.tree c).opcode = opMethod
    · rw [if_pos hqm] at h
      obtain ⟨b, e, h1, h2, h3, h4⟩ := h
      refine ⟨?_, hpar, hcN, fun e => absurd e hq,
        fun _ => ⟨hm hqm e, ⟨b, e⟩, fun hj => (h1 hj).2, fun hj => (h2 hj).2, fun hj => (h3 hj).2⟩⟩
      rw [hm hqm e, methodIdx_row.1, exOf_pos (Or.inr hqm)]
      by_cases q : j < 4
      · rw [if_pos q]
        by_cases q1 : j ≤ 1
        · exact (h1 q1).1
        · by_cases q2 : j = 2
          · exact (h2 q2).1
          · exact (h3 (by omega)).1
      · rw [if_neg q]; exact h4 (by omega)
    · rw [if_neg hqm] at h
      exact .other h hpar hcN hq hqm

theorem ScopeArgs.congr {d : Bytes} {t t1 : ObjectTree} {c j : Nat} (w : WF t) (hc : live t c = true) (h : ScopeArgs d t c j)
    (hl : ∀ y, live t y = true → live t1 y = true) (hs : ∀ y, live t y = true → y ≠ c → slot t1 y = slot t y)
    (hfi : Fi t1 c = Fi t c) (hla : La t1 c = La t c) : ScopeArgs d t1 c j := by
  refine ⟨fun hj => by rw [hfi, hla]; exact h.1 hj, fun hj => ?_⟩
  obtain ⟨e, lv, nm⟩ := h.2 hj
  have hsl := hs _ lv (fi_ne_self w hc lv)
  rw [hfi, hla]
  exact ⟨e, hl _ lv, nm.congr (by rw [hsl]) (congrArg Obj.firstArgIndex hsl)⟩

theorem ScopeArgs.name {d : Bytes} {t1 t2 : ObjectTree} {c x : Nat} (h : ScopeArgs d t1 c 1) (A : Spliced t1 t2 c x (La t1 c) INV)
    (hx : live t1 x = true) (nm : NameObj d t1 x) (hxc : x ≠ c) : ScopeArgs d t2 c 2 := by
  have hfx : Fi t2 c = x := by rw [A.fi, if_pos ⟨rfl, (h.1 (Nat.le_refl _)).2⟩]
  refine ⟨fun hj => absurd hj (by omega), fun _ => ?_⟩
  rw [hfx, A.la_last]
  exact ⟨rfl, by rw [A.pay.live]; exact hx, nm.congr (A.pay.pay x) (A.fi_of_ne hxc)⟩

theorem ScopeArgs.close {d : Bytes} {t1 t2 : ObjectTree} {c x : Nat} (h : ScopeArgs d t1 c 2) (A : Spliced t1 t2 c x (La t1 c) INV)
    (w1 : WF t1) (hc : live t1 c = true) (hdr : ScopeHdr t1 c) (hop : (slot t1 x).opcode = opIntScopeBlock) (hxc : x ≠ c) :
    DShape d t2 c := by
  obtain ⟨hn, hp, hi⟩ := hdr
  obtain ⟨hla, lv, nop, nfi, off, len, nval, nex⟩ := h.2 rfl
  have hk : Fi t1 c ≠ INV := live_ne_INV w1.size_le lv
  have hkx : Fi t1 c ≠ x := fun e => by rw [e, hop] at nop; revert nop; decide
  have hfi : Fi t2 c = Fi t1 c := A.fi_keep (by rw [hla]; exact hk)
  have hpk := A.pay.pay (Fi t1 c)
  have hnx : Nx t2 (Fi t1 c) = x := by
    have := A.nx_left (by rw [hla]; exact hk) (by rw [hla]; exact hkx)
    rw [hla] at this; exact this
  refine ⟨by rw [A.p, if_neg (Ne.symm hxc)]; exact hp, by rw [hfi]; exact hk,
    ⟨by rw [pay_name (A.pay.pay c)]; exact hn, by rw [pay_info (A.pay.pay c)]; exact hi, ?_, by rw [hfi, hnx, A.la_last],
     by rw [A.la_last, pay_opcode (A.pay.pay x)]; exact hop, by rw [hfi, pay_opcode hpk, nop]; decide,
     off, len, by rw [hfi, pay_value hpk]; exact nval, nex⟩, by rw [hfi, pay_opcode hpk]; exact nop⟩
  rw [hfi, A.fi_of_ne (fi_ne_self w1 hc lv)]; exact nfi

theorem MethodArgs.congr {t t1 : ObjectTree} {c j : Nat} (w : WF t) (hc : live t c = true) (h : MethodArgs t c j)
    (hl : ∀ y, live t y = true → live t1 y = true) (hs : ∀ y, live t y = true → y ≠ c → slot t1 y = slot t y)
    (hfi : Fi t1 c = Fi t c) (hla : La t1 c = La t c) : MethodArgs t1 c j := by
  refine ⟨fun hj => by rw [hfi, hla]; exact h.1 hj, fun hj => ?_, fun hj => ?_⟩
  · obtain ⟨e, lv, nm⟩ := h.2.1 hj
    have hsl := hs _ lv (fi_ne_self w hc lv)
    rw [hfi, hla]
    exact ⟨e, hl _ lv, nm.congr (by rw [hsl]) (congrArg Obj.firstArgIndex hsl)⟩
  · obtain ⟨lv1, nm, hn, lv2, bo⟩ := h.2.2 hj
    have hs1 := hs _ lv1 (fi_ne_self w hc lv1)
    have hs2 := hs _ lv2 (la_ne_self w hc lv2)
    rw [hfi, hla]
    exact ⟨hl _ lv1, nm.congr (by rw [hs1]) (congrArg Obj.firstArgIndex hs1),
      (congrArg Obj.nextSiblingIndex hs1).trans hn, hl _ lv2, bo.congr (by rw [hs2]) (congrArg Obj.firstArgIndex hs2)⟩

theorem MethodArgs.name {t1 t2 : ObjectTree} {c x : Nat} (h : MethodArgs t1 c 1) (A : Spliced t1 t2 c x (La t1 c) INV)
    (hx : live t1 x = true) (nm : NameObj2 t1 x) (hxc : x ≠ c) : MethodArgs t2 c 2 := by
  have hfx : Fi t2 c = x := by rw [A.fi, if_pos ⟨rfl, (h.1 (Nat.le_refl _)).2⟩]
  refine ⟨fun hj => absurd hj (by omega), fun _ => ?_, fun hj => absurd hj (by omega)⟩
  rw [hfx, A.la_last]
  exact ⟨rfl, by rw [A.pay.live]; exact hx, nm.congr (A.pay.pay x) (A.fi_of_ne hxc)⟩

theorem MethodArgs.flags {t1 t2 : ObjectTree} {c x : Nat} (h : MethodArgs t1 c 2) (A : Spliced t1 t2 c x (La t1 c) INV) (w1 : WF t1)
    (hc : live t1 c = true) (hx : live t1 x = true) (bo : ByteObj t1 x) (hxc : x ≠ c) (hpx : C13.P t1 x = INV) :
    MethodArgs t2 c 3 := by
  obtain ⟨hla, lv, nm⟩ := h.2.1 rfl
  have hk : Fi t1 c ≠ INV := live_ne_INV w1.size_le lv
  have hkx := fi_ne_detached w1 hc lv hpx
  have hfi : Fi t2 c = Fi t1 c := A.fi_keep (by rw [hla]; exact hk)
  have hnx : Nx t2 (Fi t1 c) = x := by
    have := A.nx_left (by rw [hla]; exact hk) (by rw [hla]; exact hkx)
    rw [hla] at this; exact this
  refine ⟨fun hj => absurd hj (by omega), fun hj => absurd hj (by omega), fun _ => ?_⟩
  rw [hfi, A.la_last]
  exact ⟨by rw [A.pay.live]; exact lv, nm.congr (A.pay.pay _) (A.fi_of_ne (fi_ne_self w1 hc lv)), hnx, by rw [A.pay.live]; exact hx,
    bo.congr (A.pay.pay x) (A.fi_of_ne hxc)⟩

theorem MethodArgs.close {t1 t2 : ObjectTree} {c x : Nat} (h : MethodArgs t1 c 3) (A : Spliced t1 t2 c x (La t1 c) INV) (w1 : WF t1)
    (hc : live t1 c = true) (hdr : MethodHdr t1 c) (hx : live t1 x = true)
    (hop : (slot t1 x).opcode = opIntScopeBlock) (hix : (slot t1 x).infoIndex = pOpcodeTableIndex opIntScopeBlock true)
    (hxc : x ≠ c) (hpx : C13.P t1 x = INV) : MthC t2 c := by
  obtain ⟨hp, hi⟩ := hdr
  obtain ⟨lv1, ⟨no1, nf1, ni1⟩, hn12, lv2, bo2, bf2, bi2, v, bv2⟩ := h.2.2 rfl
  have h1x := fi_ne_detached w1 hc lv1 hpx
  have h2x := la_ne_detached w1 hc lv2 hpx
  have hk2 : La t1 c ≠ INV := live_ne_INV w1.size_le lv2
  have hk12 : Fi t1 c ≠ La t1 c := fun e => w1.Nx_ne_self lv1 (by rw [hn12, ← e])
  have hp1 := A.pay.pay (Fi t1 c)
  have hp2 := A.pay.pay (La t1 c)
  exact ⟨Fi t1 c, La t1 c, x, A.fi_keep hk2, by rw [A.nx_of_ne h1x hk12]; exact hn12, A.nx_left hk2 h2x,
    by rw [A.pay.live]; exact lv1, by rw [A.pay.live]; exact lv2, by rw [A.pay.live]; exact hx, ⟨v, by rw [pay_value hp2]; exact bv2⟩,
    by rw [A.fi_of_ne (fi_ne_self w1 hc lv1)]; exact nf1, by rw [A.fi_of_ne (la_ne_self w1 hc lv2)]; exact bf2,
    by rw [pay_opcode hp1]; exact no1, by rw [pay_opcode hp2]; exact bo2, by rw [pay_opcode (A.pay.pay x)]; exact hop,
    by rw [pay_info hp1]; exact ni1, by rw [pay_info hp2]; exact bi2, by rw [pay_info (A.pay.pay x)]; exact hix,
    by rw [pay_info (A.pay.pay c)]; exact hi, by rw [A.nx, if_pos rfl], by rw [A.p, if_neg (Ne.symm hxc)]; exact hp⟩

/-- what `parseArg` says of its result beyond the frame, by argument type (no invariant is involved) -/
structure ArgRes (d : Bytes) (s s' : PState) (info curObj argType : Nat) (a : Option Nat × PRes) : Prop where
  ret : RetOK s s' a.1
  leaf : Leaf argType → (∀ x, live s.tree x = true → x ≠ curObj → slot s'.tree x = slot s.tree x) ∧
    Fi s'.tree curObj = Fi s.tree curObj ∧ La s'.tree curObj = La s.tree curObj
  byteData : argType = argTypeByteData → a.2 = .ok → ∃ x v, a.1 = some x ∧ (slot s'.tree x).value = .u64 v
  pkgNone : argType = argTypePkgLen → a.1 = none
  simple : isSimpleArg argType = true → a.2 = .ok → ∃ x, a.1 = some x
  name : argType = argTypeNameString → a.2 = .ok → ∃ x, a.1 = some x ∧ NameObj d s'.tree x
  block : argType = argTypeTermList → a.2 ≠ .failed → ∃ x, a.1 = some x ∧ (slot s'.tree x).opcode = opIntScopeBlock ∧
    (slot s'.tree x).infoIndex = pOpcodeTableIndex opIntScopeBlock true
  stop : argType = argTypeTermArg ∨ argType = argTypeTermList → a.2 ≠ .ok
  infoK : Leaf argType ∨ argType = argTypeTermList → (slot s'.tree curObj).infoIndex = (slot s.tree curObj).infoIndex
  blockFrame : argType = argTypeTermList → ∀ x, live s.tree x = true → slot s'.tree x = slot s.tree x
  simpleRes : isSimpleArg argType = true → a.2 = .ok ∨ a.2 = .failed
  name2 : argType = argTypeNameString → a.2 = .ok → ∀ x, a.1 = some x → NameObj2 s'.tree x
  byte2 : argType = argTypeByteData → a.2 = .ok → ∀ x, a.1 = some x → ByteObj s'.tree x
  pkgRes : argType = argTypePkgLen → a.2 = .ok ∨ a.2 = .failed ∨ ∃ fl, opFlags info = some fl ∧ hasFlag fl flagDeferParsing = true
  pkgStk : argType = argTypePkgLen → s'.scopeStack.size = s.scopeStack.size ∧
    (a.2 = .ok → s'.pkgEndStack.size = s.pkgEndStack.size + 1)

/-- the result facts of an argument type that is neither a leaf nor a `TermList` -/
theorem ArgRes.other {d : Bytes} {s s' : PState} {info curObj argType : Nat} {a : Option Nat × PRes} (hnl : ¬ Leaf argType)
    (hntl : argType ≠ argTypeTermList) (r : RetOK s s' a.1) (hstop : argType = argTypeTermArg → a.2 ≠ .ok) :
    ArgRes d s s' info curObj argType a :=
  have hs : ¬ isSimpleArg argType = true := fun e => hnl (Or.inl e)
  have hp : argType ≠ argTypePkgLen := fun e => hnl (Or.inr e)
  have hbd : argType ≠ argTypeByteData := fun e => hs (by rw [e]; decide)
  have hns : argType ≠ argTypeNameString := fun e => hs (by rw [e]; decide)
  ⟨r, fun e => absurd e hnl, fun e => absurd e hbd, fun e => absurd e hp, fun e => absurd e hs, fun e => absurd e hns,
   fun e => absurd e hntl, fun e => e.elim hstop (fun e => absurd e hntl), fun e => e.elim (fun e => absurd e hnl) (fun e => absurd e hntl),
   fun e => absurd e hntl, fun e => absurd e hs, fun e => absurd e hns, fun e => absurd e hbd, fun e => absurd e hp,
   fun e => absurd e hp⟩

theorem ArgRes.simpleSome {d : Bytes} {s s' : PState} {info curObj argType : Nat} {a : Option Nat × PRes}
    (r : ArgRes d s s' info curObj argType a) (hs : isSimpleArg argType = true) (hnf : a.2 ≠ .failed) : a.2 = .ok ∧ ∃ x, a.1 = some x :=
  have hok := (r.simpleRes hs).resolve_right hnf
  ⟨hok, r.simple hs hok⟩

theorem scope_leaf {j : Nat} (h : j < 3) : Leaf (argAt scopeInfo j) ∨ argAt scopeInfo j = argTypeTermList := by
  obtain ⟨_, r0, r1, r2⟩ := scope_row
  have : j = 0 ∨ j = 1 ∨ j = 2 := by omega
  rcases this with rfl | rfl | rfl
  · exact Or.inl (Or.inr r0)
  · exact Or.inl (Or.inl (by rw [r1]; decide))
  · exact Or.inr r2

theorem method_leaf {j : Nat} (h : j < 4) : Leaf (argAt methodInfoIdx j) ∨ argAt methodInfoIdx j = argTypeTermList :=
  method_arg_kinds (j := j) (by rw [method_row.1]; exact h)

/-- a step of the walk keeps the header of a `Scope`: name, handle and row of an object of such a kind are framed (`KFr`) -/
theorem ScopeHdr.grow {c n : Nat} {s s' : PState} (h : ScopeHdr s.tree c) (g : SGrow T n s s') (hc : live s.tree c = true)
    (ho : (slot s.tree c).opcode = opScope) : ScopeHdr s'.tree c :=
  have k : isK (slot s.tree c).opcode = true := by rw [ho]; exact isK_scope
  ⟨by rw [(g.kfr.nameKK c hc k).1]; exact h.1, by rw [g.oldP c hc]; exact h.2.1, by rw [g.kfr.infoKK c hc k]; exact h.2.2⟩

theorem MethodHdr.grow {c n : Nat} {s s' : PState} (h : MethodHdr s.tree c) (g : SGrow T n s s') (hc : live s.tree c = true)
    (ho : (slot s.tree c).opcode = opMethod) : MethodHdr s'.tree c :=
  ⟨by rw [g.oldP c hc]; exact h.1, by rw [g.kfr.infoKK c hc (by rw [ho]; exact isK_method)]; exact h.2⟩

section
variable {d : Bytes} {s : PState} {info c j : Nat} (sd : ArgsInv jf d s info c j)
include sd

theorem ArgsInv.cur (hlt : j < argCnt info) : Both jf d (exOf s c) s := by
  have := sd.both; rwa [if_pos hlt] at this

theorem ArgsInv.done (hje : j = argCnt info) : Both jf d none s := by
  have := sd.both; rwa [if_neg (by omega)] at this

theorem ArgsInv.scopeLt (hlt : j < argCnt info) (hq : (slot s.tree c).opcode = opScope) : j < 3 := by
  rw [(sd.scope hq).1, scope_row.1] at hlt; exact hlt

theorem ArgsInv.methodLt (hlt : j < argCnt info) (hq : (slot s.tree c).opcode = opMethod) : j < 4 := by
  rw [(sd.method hq).1, methodIdx_row.1] at hlt; exact hlt

/-- the rows of `Scope` and `Method` hold leaf arguments and, last, the block -/
theorem ArgsInv.leaf (hlt : j < argCnt info) (hne : exOf s c ≠ none) : Leaf (argAt info j) ∨ argAt info j = argTypeTermList := by
  by_cases hq : (slot s.tree c).opcode = opScope
  · rw [(sd.scope hq).1]; exact scope_leaf (sd.scopeLt hlt hq)
  · by_cases hqm : (slot s.tree c).opcode = opMethod
    · rw [(sd.method hqm).1]; exact method_leaf (sd.methodLt hlt hqm)
    · exact absurd (exOf_neg hq hqm) hne
end

/-- a new attached object without arguments, before its first argument -/
theorem ArgsInv.new {d : Bytes} {s : PState} {n : Nat} (hb : Both jf d (exOf s n) s) (hpar : ParSB s n)
    (hcN : (slot s.tree n).opcode ≠ opIntNamePathOrMethodCall) (hfi : Fi s.tree n = INV) (hla : La s.tree n = INV)
    (hinfo : (slot s.tree n).infoIndex = pOpcodeTableIndex (slot s.tree n).opcode true)
    (hname : (slot s.tree n).name.b0 = 0) (hp : C13.P s.tree n ≠ INV) : ArgsInv jf d s (slot s.tree n).infoIndex n 0 := by
  have hS : (slot s.tree n).opcode = opScope → (slot s.tree n).infoIndex = scopeInfo := fun hq => by rw [hinfo, hq]; rfl
  have hM : (slot s.tree n).opcode = opMethod → (slot s.tree n).infoIndex = methodInfoIdx := fun hq => by rw [hinfo, hq]; rfl
  refine ⟨hb.exAt fun hne => ?_, hpar, hcN, fun hq => ⟨hS hq, ⟨hname, hp, hS hq⟩, fun _ => ⟨hfi, hla⟩, fun e => by omega⟩,
    fun hq => ⟨hM hq, ⟨hp, hM hq⟩, fun _ => ⟨hfi, hla⟩, fun e => by omega, fun e => by omega⟩⟩
  by_cases hq : (slot s.tree n).opcode = opScope
  · rw [hS hq, scope_row.1]; decide
  · by_cases hqm : (slot s.tree n).opcode = opMethod
    · rw [hM hqm, methodIdx_row.1]; decide
    · exact absurd (exOf_neg hq hqm) hne

/-- the root is a parentless scope block -/
def RootSB (s : PState) : Prop := C13.P s.tree 0 = INV ∧ (slot s.tree 0).opcode = opIntScopeBlock

theorem RootSB.grow {c : Nat} {s s' : PState} (h : RootSB s) (g : SGrow T c s s') (hr : live s.tree 0 = true) : RootSB s' :=
  ⟨by rw [g.oldP 0 hr]; exact h.1, (g.kfr.bK 0 hr).2 h.2⟩

theorem RootSB.ofTree {s s' : PState} (h : RootSB s) (ht : s'.tree = s.tree) : RootSB s' := by
  unfold RootSB; rw [ht]; exact h

/-- the root carries the table row of a scope block -/
def RootI (s : PState) : Prop := (slot s.tree 0).infoIndex = pOpcodeTableIndex opIntScopeBlock true

theorem RootI.grow {c : Nat} {s s' : PState} (h : RootI s) (hr : RootSB s) (g : SGrow T c s s') (hl : live s.tree 0 = true) :
    RootI s' := by
  unfold RootI
  rw [g.kfr.infoKK 0 hl (by rw [hr.2]; exact isK_block)]; exact h

theorem RootI.ofTree {s s' : PState} (h : RootI s) (ht : s'.tree = s.tree) : RootI s' := by
  unfold RootI; rw [ht]; exact h

theorem KP.ofTree {d : Bytes} {s s' : PState} (h : KP d s) (hf : FP d s') (ht : s'.tree = s.tree) (hab : s'.allBlocks = s.allBlocks)
    (hst : ∀ x ∈ s'.scopeStack.toList, x ∈ s.scopeStack.toList) : KP d s' := by
  refine ⟨hf, by rw [hab]; exact h.sk, ?_, ?_⟩
  · intro x hx; rw [ht]; exact h.ns x (hst x hx)
  · intro x hx; rw [ht] at hx ⊢; exact h.fn x hx

/-! Entry and exit of the invariants: the start state of the first pass has them when the pool does, and where the root is
intact and nothing is excepted they are `MIJ`, what the tree passes start from. -/

theorem KP.init {d : Bytes} {s : PState} (ht : TreeG s.tree) (handle : Nat) (hroot : RootSB s) (hfn : FN s) :
    KP d (initState d handle s) :=
  ⟨initState_fp ht handle, rfl, fun x hx => by rw [show x = 0 by simpa [initState] using hx]; exact hroot.2, hfn⟩

/-- no `Scope` of an earlier table carries the handle of this one -/
theorem Both.init {d : Bytes} {s : PState} (handle : Nat)
    (hh : ∀ x, live s.tree x = true → (slot s.tree x).opcode = opScope → (slot s.tree x).tableHandle ≠ handle)
    (hmth : jf → MInv s ∧ CSA s) : Both jf d none (initState d handle s) :=
  ⟨fun x hl ho hth _ => absurd hth (hh x hl ho), fun hb m hl ho _ => (hmth hb).1.mths m hl ho, fun hb => (hmth hb).2⟩

theorem Both.mij {d : Bytes} {s : PState} (h : Both jf d none s) (hf : FP d s) (hr : RootSB s) (hi : jf → RootI s) :
    MIJ jf d s :=
  ⟨⟨hf.tp, hr.1, hr.2, fun x ⟨hl, ho, hth, hfi⟩ => ((h.dir x hl ho hth (by intro e; cases e)).resolve_left hfi).shape⟩,
   fun hb => ⟨fun m hl ho => h.mth hb m hl ho (by intro e; cases e), (h.cs hb).callShape, hi hb⟩⟩

end Firefly.AmlParser.F
