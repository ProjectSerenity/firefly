import Firefly.Proof.AmlRows
import Firefly.Proof.AmlLex
import Firefly.Proof.AmlTot
/-!
Shared base of the total-correctness / panic-freedom proofs about the AML object parser: the run lemmas of the
parser-monad primitives (`bind_ex`, `lex_ex`, `updObj_ex`, …), the payload-only relation `PayOnly`, the fuel needs
`needT … needNext`, and the split of `ParseAML` into `firstPass >>= afterFirstPass`.  The steps of the first pass are in
`Proof/AmlFirstPassG.lean` (any well-formed pool), its walk in `Proof/AmlSkipWalk.lean`.
-/
namespace Firefly.AmlParser
open Firefly.AmlLex Firefly.AmlTree Firefly.C13
open Firefly.Gen.C12

structure PKE {α : Type} (x : LexM α) : Prop where
  run : ∀ r a r', x r = .ok (a, r') → r'.pkgEnd = r.pkgEnd

theorem PKE.pure {α : Type} {a : α} : PKE (pure a : LexM α) := ⟨fun r a' r' e => by cases e; rfl⟩
theorem PKE.bind {α β : Type} {x : LexM α} {f : α → LexM β} (hx : PKE x) (hf : ∀ a, PKE (f a)) : PKE (x >>= f) := by
  constructor
  intro r b r' e
  obtain ⟨a, r1, e1, e2⟩ := bind_ok e
  rw [(hf a).run r1 b r' e2, hx.run r a r1 e1]
theorem PKE.ite {α : Type} {c : Prop} [Decidable c] {x y : LexM α} (hx : PKE x) (hy : PKE y) :
    PKE (if c then x else y) := by
  split
  · exact hx
  · exact hy

theorem pke_readByte (d : Bytes) : PKE (readByte d) := by
  constructor; intro r a r' e; unfold readByte at e
  split at e
  · cases e; rfl
  · split at e
    · cases e; rfl
    · cases e
theorem pke_unreadByte : PKE unreadByte := by
  constructor; intro r a r' e; unfold unreadByte at e
  split at e <;> (cases e; rfl)
theorem pke_offset : PKE offset := ⟨fun r a r' e => by cases e; rfl⟩
theorem pke_eof : PKE eof := ⟨fun r a r' e => by cases e; rfl⟩
theorem pke_setOffset (d : Bytes) (o : Nat) : PKE (setOffset d o) := ⟨fun r a r' e => by cases e; rfl⟩

theorem pke_checkOpcode (d : Bytes) (o n : Nat) : PKE (checkOpcode d o n) :=
  .ite (.bind pke_offset fun _ => .bind (pke_setOffset d _) fun _ => .pure) .pure
theorem pke_nextOpcode (d : Bytes) : PKE (nextOpcode d) :=
  .bind (pke_readByte d) fun b => match b with
    | none => .pure
    | some _ => .ite (.bind (pke_readByte d) fun b2 => match b2 with
      | none => .bind pke_unreadByte fun _ => .pure
      | some _ => pke_checkOpcode ..) (pke_checkOpcode ..)

theorem bind_ex {α β : Type} {x : P α} {f : α → P β} {s s1 : PState} {a : α} {Q : β → PState → Prop}
    (e : x s = .ok (a, s1)) (h : ∃ b s2, f a s1 = .ok (b, s2) ∧ Q b s2) :
    ∃ b s2, (x >>= f) s = .ok (b, s2) ∧ Q b s2 :=
  let ⟨b, s2, e2, hq⟩ := h
  ⟨b, s2, (bind_run e).trans e2, hq⟩

theorem pure_ex {α : Type} {a : α} {s : PState} {Q : α → PState → Prop} (h : Q a s) :
    ∃ b s2, (pure a : P α) s = .ok (b, s2) ∧ Q b s2 := ⟨a, s, rfl, h⟩

theorem lex_ex {α : Type} {d : Bytes} {x : LexM α} {R : Reader → α → Reader → Prop} (hx : LexRel d x R)
    {s : PState} (hs : Inv d s.r) :
    ∃ a r', lex x s = .ok (a, { s with r := r' }) ∧ Inv d r' ∧ R s.r a r' := by
  obtain ⟨a, r', e, hi, hR⟩ := hx s.r hs
  refine ⟨a, r', ?_, hi, hR⟩
  unfold lex
  simp only [e, bind, Except.bind, pure, Except.pure]

theorem lex_eq {α : Type} {x : LexM α} {s : PState} {a : α} {r' : Reader} (e : x s.r = .ok (a, r')) :
    lex x s = .ok (a, { s with r := r' }) := by
  unfold lex
  simp only [e, bind, Except.bind, pure, Except.pure]

theorem updObj_ex {s : PState} {i : Nat} (f : Obj → Obj) (hi : i < s.tree.pool.size) :
    updObj i f s = .ok ((), { s with tree := setAt s.tree i f }) := by
  unfold updObj tree
  simp only [upd_eq f hi, bind, Except.bind, pure, Except.pure]

theorem getObj_ex {s : PState} {i : Nat} (hi : i < s.tree.pool.size) : getObj i s = .ok (slot s.tree i, s) := by
  unfold getObj
  simp only [obj_eq hi, bind, Except.bind, pure, Except.pure]

theorem tree_ex {s : PState} {f : ObjectTree → Res ObjectTree} {t' : ObjectTree} (e : f s.tree = .ok t') :
    tree f s = .ok ((), { s with tree := t' }) := by
  unfold tree
  simp only [e, bind, Except.bind, pure, Except.pure]

theorem u64Value_ex {s : PState} {c v : Nat} (hc : c < s.tree.pool.size) (hv : (slot s.tree c).value = .u64 v) :
    u64Value c s = .ok (v, s) := by
  unfold u64Value
  rw [bind_run (getObj_ex hc), hv]
  rfl

theorem bytesValue_ex {d : Bytes} {s : PState} {c off len : Nat} (hc : c < s.tree.pool.size)
    (hv : (slot s.tree c).value = .bytes off len) : bytesValue d c s = .ok (sliceBytes d off len, s) := by
  unfold bytesValue
  rw [bind_run (getObj_ex hc), hv]
  rfl

/-- the opcodes whose objects carry an invariant of their own (`Method`: flags argument, `Scope`: shape of the
directive): no payload step turns an object into one of them or out of one of them -/
def isK (op : Nat) : Bool := op == opMethod || op == opScope || op == opIntScopeBlock || op == opIntNamePathOrMethodCall

/-- what a step may do to the fields of one object that the invariants of the `isK` kinds read (`PayOnly` says it of its
object in the fields `opc`, `nmk`, `vik`; `G.KFr` of every object) -/
structure KStep (o o' : Obj) : Prop where
  opc : o'.opcode = o.opcode ∨ (isK o.opcode = false ∧ isK o'.opcode = false)
  nmk : isK o.opcode = true → o'.name = o.name ∧ o'.tableHandle = o.tableHandle
  vik : isK o.opcode = true → o'.infoIndex = o.infoIndex

theorem KStep.refl (o : Obj) : KStep o o := ⟨Or.inl rfl, fun _ => ⟨rfl, rfl⟩, fun _ => rfl⟩

theorem KStep.ofNotK {o o' : Obj} (h : isK o.opcode = false) (h' : isK o'.opcode = false) : KStep o o' :=
  ⟨Or.inr ⟨h, h'⟩, fun hq => (by rw [h] at hq; cases hq), fun hq => (by rw [h] at hq; cases hq)⟩

theorem KStep.isKeq {o o' : Obj} (h : KStep o o') : isK o'.opcode = isK o.opcode := by
  rcases h.opc with e | ⟨e1, e2⟩
  · rw [e]
  · rw [e1, e2]

theorem KStep.trans {a b c : Obj} (h1 : KStep a b) (h2 : KStep b c) : KStep a c := by
  refine ⟨?_, fun hk => ?_, fun hk => ?_⟩
  · rcases h1.opc with e1 | ⟨a1, b1⟩
    · rcases h2.opc with e2 | ⟨a2, b2⟩
      · exact Or.inl (by rw [e2, e1])
      · exact Or.inr ⟨by rw [← e1]; exact a2, b2⟩
    · exact Or.inr ⟨a1, by rw [h2.isKeq]; exact b1⟩
  · have hk' : isK b.opcode = true := by rw [h1.isKeq]; exact hk
    exact ⟨by rw [(h2.nmk hk').1, (h1.nmk hk).1], by rw [(h2.nmk hk').2, (h1.nmk hk).2]⟩
  · rw [h2.vik (by rw [h1.isKeq]; exact hk), h1.vik hk]

theorem KStep.opK {o o' : Obj} {k : Nat} (h : KStep o o') (hk : isK k = true) : o'.opcode = k ↔ o.opcode = k := by
  rcases h.opc with e1 | ⟨e1, e2⟩
  · rw [e1]
  · exact ⟨fun hq => (by rw [hq, hk] at e2; cases e2), fun hq => (by rw [hq, hk] at e1; cases e1)⟩

/-- a step that changes only the reader (forward, same `pkgEnd`) and the payload of slot `obj` -/
structure PayOnly (obj : Nat) (s s' : PState) : Prop where
  links : SameLinks s.tree s'.tree
  others : ∀ x, x ≠ obj → slot s'.tree x = slot s.tree x
  scope : s'.scopeStack = s.scopeStack
  pkg : s'.pkgEndStack = s.pkgEndStack
  same : s'.allBlocks = s.allBlocks ∧ s'.tableHandle = s.tableHandle ∧ s'.streamEnd = s.streamEnd
  pkgEnd : s'.r.pkgEnd = s.r.pkgEnd
  off : s.r.offset ≤ s'.r.offset
  opc : (slot s'.tree obj).opcode = (slot s.tree obj).opcode ∨
    (isK (slot s.tree obj).opcode = false ∧ isK (slot s'.tree obj).opcode = false)
  nmk : isK (slot s.tree obj).opcode = true → (slot s'.tree obj).name = (slot s.tree obj).name ∧
    (slot s'.tree obj).tableHandle = (slot s.tree obj).tableHandle
  vik : isK (slot s.tree obj).opcode = true → (slot s'.tree obj).infoIndex = (slot s.tree obj).infoIndex

theorem isK_method : isK opMethod = true := by decide
theorem isK_scope : isK opScope = true := by decide
theorem isK_block : isK opIntScopeBlock = true := by decide
theorem isK_call : isK opIntNamePathOrMethodCall = true := by decide

theorem PayOnly.kstep {obj : Nat} {s s' : PState} (h : PayOnly obj s s') : KStep (slot s.tree obj) (slot s'.tree obj) :=
  ⟨h.opc, h.nmk, h.vik⟩

theorem PayOnly.mth {obj : Nat} {s s' : PState} (h : PayOnly obj s s') :
    (slot s'.tree obj).opcode = opMethod ↔ (slot s.tree obj).opcode = opMethod := h.kstep.opK isK_method

theorem PayOnly.scp {obj : Nat} {s s' : PState} (h : PayOnly obj s s') :
    (slot s'.tree obj).opcode = opScope ↔ (slot s.tree obj).opcode = opScope := h.kstep.opK isK_scope

theorem PayOnly.notK {obj : Nat} {s s' : PState} (h : PayOnly obj s s') (hk : isK (slot s.tree obj).opcode = false) :
    isK (slot s'.tree obj).opcode = false := by rw [h.kstep.isKeq]; exact hk

theorem PayOnly.nm {obj : Nat} {s s' : PState} (h : PayOnly obj s s') (ho : (slot s.tree obj).opcode = opMethod) :
    (slot s'.tree obj).name = (slot s.tree obj).name := (h.nmk (by rw [ho]; exact isK_method)).1

theorem SameLinks.refl (t : ObjectTree) : SameLinks t t :=
  ⟨rfl, rfl, fun _ => rfl, fun _ => rfl, fun _ => rfl, fun _ => rfl, fun _ => rfl, fun _ => rfl, fun _ => rfl⟩

theorem SameLinks.trans {a b c : ObjectTree} (h1 : SameLinks a b) (h2 : SameLinks b c) : SameLinks a c :=
  ⟨by rw [h2.size, h1.size], by rw [h2.head, h1.head], fun x => by rw [h2.p, h1.p], fun x => by rw [h2.pv, h1.pv],
   fun x => by rw [h2.nx, h1.nx], fun x => by rw [h2.fi, h1.fi], fun x => by rw [h2.la, h1.la],
   fun x => by rw [h2.live, h1.live], fun x => by rw [h2.index, h1.index]⟩

theorem PayOnly.refl (obj : Nat) (s : PState) : PayOnly obj s s :=
  ⟨SameLinks.refl _, fun _ _ => rfl, rfl, rfl, ⟨rfl, rfl, rfl⟩, rfl, Nat.le_refl _, Or.inl rfl, fun _ => ⟨rfl, rfl⟩, fun _ => rfl⟩

theorem PayOnly.trans {obj : Nat} {a b c : PState} (h1 : PayOnly obj a b) (h2 : PayOnly obj b c) : PayOnly obj a c :=
  have k := h1.kstep.trans h2.kstep
  ⟨h1.links.trans h2.links, fun x hx => by rw [h2.others x hx, h1.others x hx], by rw [h2.scope, h1.scope],
   by rw [h2.pkg, h1.pkg], ⟨by rw [h2.same.1, h1.same.1], by rw [h2.same.2.1, h1.same.2.1], by rw [h2.same.2.2, h1.same.2.2]⟩,
   by rw [h2.pkgEnd, h1.pkgEnd], Nat.le_trans h1.off h2.off, k.opc, k.nmk, k.vik⟩

theorem PayOnly.ofR (obj : Nat) (s : PState) (r' : Reader) (hp : r'.pkgEnd = s.r.pkgEnd) (ho : s.r.offset ≤ r'.offset) :
    PayOnly obj s { s with r := r' } :=
  ⟨SameLinks.refl _, fun _ _ => rfl, rfl, rfl, ⟨rfl, rfl, rfl⟩, hp, ho, Or.inl rfl, fun _ => ⟨rfl, rfl⟩, fun _ => rfl⟩

theorem PayOnly.ofSetAt (obj : Nat) (s : PState) (f : Obj → Obj) (hf : KeepsLinks f) (hl : KeepsLive s.tree obj f)
    (hk : KStep (slot s.tree obj) (f (slot s.tree obj))) : PayOnly obj s { s with tree := setAt s.tree obj f } := by
  have k : KStep (slot s.tree obj) (slot (setAt s.tree obj f) obj) := by
    rw [slot_setAt']
    split
    · exact hk
    · exact .refl _
  refine ⟨sameLinks_setAt s.tree obj f hf hl, fun x hx => ?_, rfl, rfl, ⟨rfl, rfl, rfl⟩, rfl, Nat.le_refl _, k.opc, k.nmk, k.vik⟩
  show slot (setAt s.tree obj f) x = slot s.tree x
  rw [slot_setAt', if_neg fun hc => hx hc.1.symm]

/-- progress of a decoder: success consumed at least one byte -/
def Prog (s s' : PState) (res : PRes) : Prop := (res = .ok ∧ s.r.offset < s'.r.offset) ∨ res = .failed

/-- the opcodes the parser itself gives to objects it creates -/
def constOps : List Nat :=
  [0, opBytePrefix, opWordPrefix, opDwordPrefix, opQwordPrefix, opStringPrefix, opIntNamePath, opIntByteList,
    opIntScopeBlock, opIntConnection, opIntNamedField, opIntNamePathOrMethodCall, opIntResolvedNamePath,
    opIntMethodCall]

theorem infoOK_const {op : Nat} (h : op ∈ constOps) : InfoOK (pOpcodeTableIndex op true) :=
  List.all_eq_true.mp
    (by decide +kernel : constOps.all (fun op => (opFlags (pOpcodeTableIndex op true)).isSome) = true) op h

/-- the mark of a freed slot has no table row: an opcode that has one is not the mark -/
theorem ne_freed_of_infoOK {op : Nat} (h : InfoOK (pOpcodeTableIndex op true)) : op ≠ pOpIntFreedObject :=
  fun e => absurd (e ▸ h : (opFlags (pOpcodeTableIndex pOpIntFreedObject true)).isSome = true) (by decide +kernel)

def IsNum (argType : Nat) : Prop :=
  argType = argTypeByteData ∨ argType = argTypeWordData ∨ argType = argTypeDwordData ∨ argType = argTypeQwordData

theorem derefP_some_ex {s : PState} (i : Nat) : derefP (some i) s = .ok (i, s) := rfl

theorem reader_ex (s : PState) : reader s = .ok (s.r, s) := rfl

theorem optP_ex {α : Type} (a : α) (s : PState) : optP (some a) s = .ok (a, s) := rfl

theorem allBlocks_ex (s : PState) : allBlocks s = .ok (s.allBlocks, s) := rfl

/-- fuel `parseTarget` needs with `r` bytes left in the table -/
def needT (r : Nat) : Nat := 13 * r + 2

def needArg (r : Nat) : Nat := needT r + 1

def needArgs (r j : Nat) : Nat := needArg r + (8 - j)

def needOA (r : Nat) : Nat := needArgs r 0 + 1

def needNext (r : Nat) : Nat := needOA r + 1

/-- scope pushes the rest of row `info` from argument `j` may make beyond its pkgEnd pushes -/
def G (info j : Nat) : Nat := if 1 ≤ j ∧ tlFrom info j = true then 1 else 0

/-- `curObj` hangs in the tree, or its row has no `FieldList` -/
def Att (s : PState) (info curObj : Nat) : Prop := C13.P s.tree curObj ≠ INV ∨ noFL info = true

theorem needArgs_next {r r' j f : Nat} (h : needArgs r j ≤ f + 1) (hr : r' ≤ r) (hj : j < 8) : needArgs r' (j + 1) ≤ f := by
  unfold needArgs needArg needT at *; omega

theorem G_zero (info : Nat) : G info 0 = 0 := by
  unfold G; rw [if_neg (by omega)]

theorem needNext_mono {r r' : Nat} (h : r' ≤ r) : needNext r' ≤ needNext r := by
  unfold needNext needOA needArgs needArg needT; omega

/-- `p.init(…)`, `p.scopeEnter(0)` and `p.parseObjectList()`: what `ParseAML` does before the tree passes -/
def firstPass (d : Bytes) (fuel handle : Nat) : P PRes := do
  init d handle
  scopeEnter 0
  parseObjectList d fuel fuel

/-- what `ParseAML` does with the result of the first pass -/
def afterFirstPass (d : Bytes) (fuel : Nat) (r : PRes) : P Bool :=
  if r = .failed then pure false
  else do
    if (← connectNamedObjArgs d fuel 0) ≠ .ok then pure false
    else do
      modify fun s => { s with resolvePasses := 1 }
      if !(← resolveLoopPasses d fuel fuel) then pure false
      else if (← parseDeferredBlocks d fuel fuel 0) ≠ .ok then pure false
      else if (← resolveMethodCalls d fuel 0) ≠ .ok then pure false
      else if (← connectNonNamedObjArgs fuel 0) ≠ .ok then pure false
      else pure true

theorem parseAML_eq (d : Bytes) (fuel handle : Nat) :
    parseAML d fuel handle = firstPass d fuel handle >>= afterFirstPass d fuel := by
  unfold parseAML parseAMLBody firstPass afterFirstPass
  simp only [bind_assoc]

theorem parseAML_of_firstPass (d : Bytes) (fuel handle : Nat) (s : PState) :
    (∀ e, firstPass d fuel handle s = .error e → parseAML d fuel handle s = .error e) ∧
    (∀ s', firstPass d fuel handle s = .ok (.failed, s') → parseAML d fuel handle s = .ok (false, s')) := by
  rw [parseAML_eq]
  exact ⟨fun e he => bind_err he, fun s' he => bind_run he⟩

/-- `fuelFor` covers the fuel the first pass needs -/
theorem fuelFor_enough (d : Bytes) (t : ObjectTree) : 13 * d.size + 13 ≤ fuelFor d t := by
  unfold fuelFor; omega

end Firefly.AmlParser
