import Firefly.Proof.PmmAlloc
/-! Histories of `AllocFrame`/`FreeFrame` calls: the allocator refines "a set of free frames plus
the frames held by callers". -/
namespace Firefly.Pmm

inductive Op where
  | alloc
  | free (f : Nat)
deriving Repr, DecidableEq

inductive Out where
  | frame (f : Nat)
  | oom
  | freeRes (r : FreeRes)
deriving Repr, DecidableEq

def stepOp (bm : Bitmap) : Op → Bitmap × Out
  | .alloc => match alloc bm with
    | (bm', some f) => (bm', .frame f)
    | (bm', none) => (bm', .oom)
  | .free f => let (bm', r) := free bm f; (bm', .freeRes r)

theorem stepOp_alloc_some {bm bm' : Bitmap} {f : Nat} (h : alloc bm = (bm', some f)) :
    stepOp bm .alloc = (bm', .frame f) := by simp only [stepOp, h]

theorem stepOp_alloc_none {bm bm' : Bitmap} (h : alloc bm = (bm', none)) :
    stepOp bm .alloc = (bm', .oom) := by simp only [stepOp, h]

theorem stepOp_free (bm : Bitmap) (f : Nat) :
    stepOp bm (.free f) = ((free bm f).1, .freeRes (free bm f).2) := rfl

/-- the frames callers hold after an operation with the given result -/
def heldStep (H : List Nat) : Op → Out → List Nat
  | .alloc, .frame f => f :: H
  | .free f, .freeRes .ok => H.erase f
  | _, _ => H

theorem heldStep_eq (o : Op) (out : Out) :
    (∀ H, heldStep H o out = H) ∨ (∃ f, o = .alloc ∧ out = .frame f ∧ ∀ H, heldStep H o out = f :: H) ∨
    (∃ f, o = .free f ∧ out = .freeRes .ok ∧ ∀ H, heldStep H o out = H.erase f) := by
  cases o with
  | alloc =>
    cases out with
    | frame f => exact .inr (.inl ⟨f, rfl, rfl, fun _ => rfl⟩)
    | oom | freeRes _ => exact .inl fun _ => rfl
  | free f =>
    cases out with
    | frame _ | oom => exact .inl fun _ => rfl
    | freeRes r =>
      cases r with
      | ok => exact .inr (.inr ⟨f, rfl, rfl, fun _ => rfl⟩)
      | notManaged | doubleFree | panic => exact .inl fun _ => rfl

/-- run a history: final state, final held list, and per-operation results together with the held
list *before* the operation -/
def runOps : Bitmap → List Nat → List Op → Bitmap × List Nat × List (Op × Out × List Nat)
  | bm, H, [] => (bm, H, [])
  | bm, H, op :: rest =>
    let (bm', out) := stepOp bm op
    let (bm'', H'', tr) := runOps bm' (heldStep H op out) rest
    (bm'', H'', (op, out, H) :: tr)

/-- Caller contract of `FreeFrame`: callers free frames they hold; anything else they pass is a
frame that is free or unmanaged (and is rejected). Freeing a frame that is reserved but was
never handed out (kernel image, early allocations) is outside the contract. -/
def Contract : Bitmap → List Nat → List Op → Prop
  | _, _, [] => True
  | bm, H, op :: rest =>
    (match op with
      | .free f => f ∈ H ∨ isFree bm f ∨ poolForFrame bm.pools f = none
      | .alloc => True) ∧
    Contract (stepOp bm op).1 (heldStep H op (stepOp bm op).2) rest

/-- relation between the concrete state, the held list and the initial free set `U` -/
structure Sim (U : Nat → Prop) (bm : Bitmap) (H : List Nat) : Prop where
  inv : Inv bm
  nodup : H.Nodup
  split : ∀ f, U f ↔ (isFree bm f ∨ f ∈ H)
  disj : ∀ f, f ∈ H → ¬ isFree bm f
  heldManaged : ∀ f, f ∈ H → managed (ranges bm.pools) f

theorem Sim.free_iff {U : Nat → Prop} {bm : Bitmap} {H : List Nat} (hs : Sim U bm H) (f : Nat) :
    isFree bm f ↔ U f ∧ f ∉ H :=
  ⟨fun hf => ⟨(hs.split f).2 (Or.inl hf), fun hH => hs.disj f hH hf⟩,
   fun ⟨hu, hn⟩ => ((hs.split f).1 hu).resolve_right hn⟩

theorem Sim.alloc {U : Nat → Prop} {bm bm' : Bitmap} {H : List Nat} {f : Nat} (hs : Sim U bm H)
    (h1 : isFree bm f) (hI : Inv bm') (hr : ranges bm'.pools = ranges bm.pools)
    (h6 : ∀ g, isFree bm' g ↔ (isFree bm g ∧ g ≠ f)) : Sim U bm' (f :: H) ∧ U f ∧ f ∉ H := by
  have hfH : f ∉ H := fun hm => hs.disj f hm h1
  refine ⟨⟨hI, List.nodup_cons.2 ⟨hfH, hs.nodup⟩, fun g => ?_, fun g hg => ?_, fun g hg => ?_⟩,
    (hs.split f).2 (Or.inl h1), hfH⟩
  · rw [hs.split g, h6 g, List.mem_cons]
    by_cases e : g = f
    · simp [e, h1]
    · simp [e]
  · rw [h6 g]
    rcases List.mem_cons.1 hg with rfl | hg
    · exact fun h => h.2 rfl
    · exact fun h => hs.disj g hg h.1
  · rw [hr]
    rcases List.mem_cons.1 hg with rfl | hg
    · exact managed_of_isFree h1
    · exact hs.heldManaged g hg

theorem Sim.free {U : Nat → Prop} {bm bm' : Bitmap} {H : List Nat} {f : Nat} (hs : Sim U bm H)
    (hH : f ∈ H) (hI : Inv bm') (hr : ranges bm'.pools = ranges bm.pools)
    (h6 : ∀ g, isFree bm' g ↔ (isFree bm g ∨ g = f)) : Sim U bm' (H.erase f) := by
  refine ⟨hI, hs.nodup.erase f, fun g => ?_, fun g hg => ?_, fun g hg => ?_⟩
  · rw [hs.split g, h6 g, hs.nodup.mem_erase_iff]
    by_cases e : g = f
    · simp [e, hH]
    · simp [e]
  · rw [hs.nodup.mem_erase_iff] at hg
    rw [h6 g]
    exact fun h => h.elim (hs.disj g hg.2) hg.1
  · rw [hr]; exact hs.heldManaged g (List.mem_of_mem_erase hg)

theorem sim_step {U : Nat → Prop} {bm : Bitmap} {H : List Nat} (hs : Sim U bm H) (op : Op)
    (hc : ∀ f, op = .free f → f ∈ H ∨ isFree bm f ∨ poolForFrame bm.pools f = none) :
    Sim U (stepOp bm op).1 (heldStep H op (stepOp bm op).2) ∧
    (stepOp bm op).1.total = bm.total ∧
    (stepOp bm op).1.reserved + H.length = bm.reserved + (heldStep H op (stepOp bm op).2).length ∧
    (∀ f, (stepOp bm op).2 = .frame f → U f ∧ f ∉ H) ∧
    ((stepOp bm op).2 = .oom → ∀ f, U f → f ∈ H) ∧
    (∀ f r, op = .free f → (stepOp bm op).2 = .freeRes r → (r = .ok ↔ f ∈ H) ∧ r ≠ .panic) := by
  cases op with
  | alloc =>
    rcases alloc_spec hs.inv with ⟨e, h2⟩ | ⟨bm', f, e, hf, hI', hr, ht, hres, h6⟩
    · rw [stepOp_alloc_none e]
      exact ⟨hs, rfl, rfl, nofun, fun _ f hf => ((hs.split f).1 hf).resolve_left (h2 f), nofun⟩
    · obtain ⟨h1, h2, h3⟩ := hs.alloc hf hI' hr h6
      rw [stepOp_alloc_some e]
      exact ⟨h1, ht, by simp only [heldStep, List.length_cons]; omega,
        fun g e => by cases e; exact ⟨h2, h3⟩, nofun, nofun⟩
  | free f =>
    rw [stepOp_free]
    rcases free_spec hs.inv f with ⟨hnm, e⟩ | ⟨hfr, e⟩ | ⟨hm, hnf, bm', e, hI', hr, ht, hres, h6⟩ <;> rw [e]
    · exact ⟨hs, rfl, rfl, nofun, nofun, fun g r eg er => by
        cases eg; cases er; exact ⟨⟨nofun, fun hH => absurd (hs.heldManaged f hH) hnm⟩, nofun⟩⟩
    · exact ⟨hs, rfl, rfl, nofun, nofun, fun g r eg er => by
        cases eg; cases er; exact ⟨⟨nofun, fun hH => absurd hfr (hs.disj f hH)⟩, nofun⟩⟩
    · have hfH : f ∈ H := by
        rcases hc f rfl with h | h | h
        · exact h
        · exact absurd h hnf
        · exact absurd hm (poolForFrame_eq_none_iff.1 h)
      have := List.length_pos_of_mem hfH
      exact ⟨hs.free hfH hI' hr h6, ht, by simp only [heldStep]; rw [List.length_erase_of_mem hfH]; omega,
        nofun, nofun, fun g r eg er => by cases eg; cases er; exact ⟨⟨fun _ => hfH, fun _ => rfl⟩, nofun⟩⟩

/-- what the property demands of a recorded history: every frame handed out lies in the initial
free set `U` and is not held by anyone at that moment; out-of-memory is reported only when every
frame of `U` is held; a free succeeds exactly for held frames and never crashes -/
def TraceOk (U : Nat → Prop) : List (Op × Out × List Nat) → Prop
  | [] => True
  | (op, out, H) :: tr =>
    (∀ f, out = .frame f → U f ∧ f ∉ H) ∧
    (out = .oom → ∀ f, U f → f ∈ H) ∧
    (∀ f r, op = .free f → out = .freeRes r → (r = .ok ↔ f ∈ H) ∧ r ≠ .panic) ∧
    TraceOk U tr

theorem TraceOk.congr {U V : Nat → Prop} (h : ∀ g, U g ↔ V g) :
    ∀ {tr : List (Op × Out × List Nat)}, TraceOk U tr → TraceOk V tr
  | [], _ => trivial
  | _ :: _, ⟨h1, h2, h3, h4⟩ =>
    ⟨fun f e => ⟨(h f).1 (h1 f e).1, (h1 f e).2⟩, fun e f hf => h2 e f ((h f).2 hf), h3, TraceOk.congr h h4⟩

theorem run_ok {U : Nat → Prop} (ops : List Op) {bm : Bitmap} {H : List Nat} (hs : Sim U bm H)
    (hc : Contract bm H ops) :
    TraceOk U (runOps bm H ops).2.2 ∧ Sim U (runOps bm H ops).1 (runOps bm H ops).2.1 := by
  induction ops generalizing bm H with
  | nil => exact ⟨trivial, hs⟩
  | cons op rest ih =>
    obtain ⟨hc1, hc2⟩ := hc
    obtain ⟨hs', _, _, h1, h2, h3⟩ := sim_step hs op (fun f e => by subst e; exact hc1)
    obtain ⟨ih1, ih2⟩ := ih hs' hc2
    unfold runOps
    exact ⟨⟨h1, h2, h3, ih1⟩, ih2⟩

theorem sim_init {bm : Bitmap} (hI : Inv bm) : Sim (isFree bm) bm [] :=
  ⟨hI, List.nodup_nil, fun f => by simp, fun f hf => by simp at hf, fun f hf => by simp at hf⟩

def freeList (bm : Bitmap) : List Nat :=
  bm.pools.flatMap fun p => ((List.range p.n).filter fun i => !bitAt p.words i).map (p.start + ·)

theorem mem_freeList {bm : Bitmap} (hI : Inv bm) (f : Nat) : f ∈ freeList bm ↔ isFree bm f := by
  simp only [freeList, isFree, List.mem_flatMap, List.mem_map, List.mem_filter, List.mem_range,
    freeAt_iff, Pool.n_eq, Bool.not_eq_true']
  constructor
  · rintro ⟨p, hp, i, ⟨hi, hb⟩, rfl⟩
    have := (hI.pools p hp).le
    exact ⟨p, hp, by omega, by rw [Nat.add_sub_cancel_left]; exact hb⟩
  · rintro ⟨p, hp, hin, hb⟩
    exact ⟨p, hp, f - p.start, ⟨by omega, hb⟩, by omega⟩

theorem length_freeList {bm : Bitmap} (hI : Inv bm) : (freeList bm).length = freeSum bm.pools := by
  unfold freeList freeSum
  rw [List.length_flatMap]
  congr 1
  apply List.map_congr_left
  intro p hp
  rw [List.length_map, ← List.countP_eq_length_filter]
  exact (hI.pools p hp).cnt.symm

theorem alloc_none_iff {bm : Bitmap} (hI : Inv bm) : (alloc bm).2 = none ↔ bm.reserved = bm.total := by
  have hadd := hI.acct_add
  rcases alloc_spec hI with ⟨e, hn⟩ | ⟨bm', f, e, _, hI', _, ht, hr, _⟩ <;> rw [e]
  · have hnil : freeList bm = [] := List.eq_nil_iff_forall_not_mem.2 fun g hg => hn g ((mem_freeList hI g).1 hg)
    have := length_freeList hI
    rw [hnil, List.length_nil] at this
    exact iff_of_true rfl (by omega)
  · have := hI'.le
    exact iff_of_false nofun (by omega)

def allocN : Bitmap → Nat → Bitmap × List (Option Nat)
  | bm, 0 => (bm, [])
  | bm, n+1 =>
    let (bm1, r) := alloc bm
    let (bm2, rs) := allocN bm1 n
    (bm2, r :: rs)

theorem drain_count {bm : Bitmap} (hI : Inv bm) (n : Nat) (hn : bm.total - bm.reserved = n) :
    (∀ r ∈ (allocN bm n).2, r ≠ none) ∧ (alloc (allocN bm n).1).2 = none ∧ Inv (allocN bm n).1 := by
  induction n generalizing bm with
  | zero => exact ⟨nofun, (alloc_none_iff hI).2 (by have := hI.le; omega), hI⟩
  | succ n ih =>
    rcases alloc_spec hI with ⟨e, _⟩ | ⟨bm', f, ha, _, hI', _, ht, hr, _⟩
    · have := (alloc_none_iff hI).1 (by rw [e]); omega
    · obtain ⟨ih1, ih2, ih3⟩ := ih hI' (by omega)
      simp only [allocN, ha]
      exact ⟨List.forall_mem_cons.2 ⟨nofun, ih1⟩, ih2, ih3⟩

end Firefly.Pmm
