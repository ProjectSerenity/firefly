import Firefly.Proof.AmlConstDecl
/-!
The rows of the opcode table that the C11 fragments use, each evaluated once by the kernel and read through
`rowSummary_spec`.
-/
namespace Firefly.AmlParser.F
open Firefly.AmlLex Firefly.Gen.C12

/-- named? executable? deferred? number of arguments, argument types -/
def rowSummary (op : Nat) : Option (Bool × Bool × Bool × Nat × List Nat) :=
  let i := pOpcodeTableIndex op true
  match opFlags i, opArgCount i with
  | some fl, some ac => some (hasFlag fl flagNamed, hasFlag fl flagExecutable, hasFlag fl flagDeferParsing, ac,
      (List.range ac).map (fun k => (opArg i k).getD 0))
  | _, _ => none

theorem rowSummary_spec {op : Nat} {nm ex df : Bool} {ac : Nat} {args : List Nat}
    (h : rowSummary op = some (nm, ex, df, ac, args)) :
    ∃ fl, opFlags (pOpcodeTableIndex op true) = some fl ∧ hasFlag fl flagNamed = nm ∧ hasFlag fl flagExecutable = ex ∧
      hasFlag fl flagDeferParsing = df ∧ opArgCount (pOpcodeTableIndex op true) = some ac ∧
      InfoOK (pOpcodeTableIndex op true) ∧ argCnt (pOpcodeTableIndex op true) = ac ∧
      ∀ k, k < ac → argAt (pOpcodeTableIndex op true) k = args.getD k 0 := by
  unfold rowSummary at h
  cases hf : opFlags (pOpcodeTableIndex op true) with
  | none => simp [hf] at h
  | some fl =>
    cases ha : opArgCount (pOpcodeTableIndex op true) with
    | none => simp [hf, ha] at h
    | some ac' =>
      simp only [hf, ha, Option.some.injEq, Prod.mk.injEq] at h
      obtain ⟨h1, h2, h3, h4, h5⟩ := h
      subst h4
      refine ⟨fl, rfl, h1, h2, h3, rfl, by unfold InfoOK; rw [hf]; rfl, by unfold argCnt; rw [ha]; rfl, ?_⟩
      intro k hk
      rw [← h5]
      unfold argAt
      simp [hk]

theorem rowSummary_info {op : Nat} {r : Bool × Bool × Bool × Nat × List Nat} (h : rowSummary op = some r) :
    InfoOK (pOpcodeTableIndex op true) := by
  obtain ⟨nm, ex, df, ac, args⟩ := r
  obtain ⟨_, _, _, _, _, _, hi, _⟩ := rowSummary_spec h
  exact hi

theorem row_8 : rowSummary 8 = some (true, false, false, 2, [9, 12]) := by decide +kernel
theorem row_502 : rowSummary 502 = some (true, false, false, 1, [1]) := by decide +kernel
theorem row_507 : rowSummary 507 = some (false, false, false, 0, []) := by decide +kernel
theorem row_0 : rowSummary 0 = some (false, false, false, 0, []) := by decide +kernel
theorem row_1 : rowSummary 1 = some (false, false, false, 0, []) := by decide +kernel
theorem row_255 : rowSummary 255 = some (false, false, false, 0, []) := by decide +kernel
theorem row_10 : rowSummary 10 = some (false, false, false, 1, [5]) := by decide +kernel
theorem row_11 : rowSummary 11 = some (false, false, false, 1, [6]) := by decide +kernel
theorem row_12 : rowSummary 12 = some (false, false, false, 1, [7]) := by decide +kernel
theorem row_14 : rowSummary 14 = some (false, false, false, 1, [8]) := by decide +kernel

theorem info_502 : InfoOK (pOpcodeTableIndex opIntScopeBlock true) := rowSummary_info row_502

theorem constOp_cases (w v : Nat) : constOp w v = 0 ∨ constOp w v = 1 ∨ constOp w v = 255 ∨ constOp w v = 10 ∨
    constOp w v = 11 ∨ constOp w v = 12 ∨ constOp w v = 14 := by
  unfold constOp
  repeat' split
  all_goals simp

theorem one_arg (a : Nat) (h1 : a ≠ argTypeTermArg) (h2 : a ≠ argTypeDataRefObj) :
    ∀ k, k < 1 → [a].getD k 0 ≠ argTypeTermArg ∧ [a].getD k 0 ≠ argTypeDataRefObj := by
  intro k hk
  have : k = 0 := by omega
  subst this
  exact ⟨h1, h2⟩

def PlainRow (op : Nat) : Prop :=
  ∃ fl ac, opFlags (pOpcodeTableIndex op true) = some fl ∧ hasFlag fl flagNamed = false ∧
    hasFlag fl flagExecutable = false ∧ hasFlag fl flagDeferParsing = false ∧
    opArgCount (pOpcodeTableIndex op true) = some ac ∧ InfoOK (pOpcodeTableIndex op true) ∧
    argCnt (pOpcodeTableIndex op true) = ac ∧
    ∀ k, k < ac → argAt (pOpcodeTableIndex op true) k ≠ argTypeTermArg ∧ argAt (pOpcodeTableIndex op true) k ≠ argTypeDataRefObj

theorem PlainRow.info {op : Nat} (r : PlainRow op) : InfoOK (pOpcodeTableIndex op true) := by
  obtain ⟨_, _, _, _, _, _, _, hi, _⟩ := r
  exact hi

theorem plain_of_row {op ac : Nat} {args : List Nat} (h : rowSummary op = some (false, false, false, ac, args))
    (hno : ∀ k, k < ac → args.getD k 0 ≠ argTypeTermArg ∧ args.getD k 0 ≠ argTypeDataRefObj) : PlainRow op := by
  obtain ⟨fl, a1, a2, a3, a4, a5, a6, a7, a8⟩ := rowSummary_spec h
  exact ⟨fl, ac, a1, a2, a3, a4, a5, a6, a7, fun k hk => by rw [a8 k hk]; exact hno k hk⟩

theorem const_row (w v : Nat) : PlainRow (constOp w v) := by
  rcases constOp_cases w v with e | e | e | e | e | e | e <;> rw [e]
  · exact plain_of_row row_0 (fun k hk => by omega)
  · exact plain_of_row row_1 (fun k hk => by omega)
  · exact plain_of_row row_255 (fun k hk => by omega)
  · exact plain_of_row row_10 (one_arg 5 (by decide) (by decide))
  · exact plain_of_row row_11 (one_arg 6 (by decide) (by decide))
  · exact plain_of_row row_12 (one_arg 7 (by decide) (by decide))
  · exact plain_of_row row_14 (one_arg 8 (by decide) (by decide))

theorem constOp_ne (w v : Nat) : constOp w v ≠ opScope ∧ constOp w v ≠ opIntNamePathOrMethodCall := by
  rcases constOp_cases w v with e | e | e | e | e | e | e <;> rw [e] <;> decide

end Firefly.AmlParser.F
