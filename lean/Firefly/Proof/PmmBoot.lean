import Firefly.Model.Pmm
import Firefly.Proof.ListLemmas
/-! Soundness of the boot-time allocator (`BootMemAllocator.AllocFrame`). -/
namespace Firefly.Pmm
open Firefly.Gen.Pmm

/-- regions the allocator considers at all -/
def Cand (r : Region) : Prop := r.typ = memAvailable ∧ pageSize ≤ r.len

instance (r : Region) : Decidable (Cand r) := by unfold Cand; infer_instance

/-- first frame number not touched by the region at all: round the end address up -/
def regionEndUp (r : Region) : Nat := (r.addr + r.len + (pageSize - 1)) / pageSize

/-- position of a candidate region relative to the kernel frames `[ks, ke]`: entirely before,
entirely after, or the region the image was loaded into -/
def GeoOk (ks ke : Nat) (r : Region) : Prop :=
  regionEndUp r ≤ ks ∨ ke < regionStart r ∨ (regionStart r ≤ ks ∧ ke < regionEndUp r)

/-- abstract sortedness: a later candidate region starts at or after the rounded-up end of an
earlier one -/
def Chain (m : List Region) : Prop :=
  m.Pairwise fun a c => Cand a → Cand c → regionEndUp a ≤ regionStart c

theorem regionStart_eq (r : Region) : regionStart r = (r.addr + 4095) / 4096 := rfl
theorem regionEndExcl_eq (r : Region) : regionEndExcl r = (r.addr + r.len) / 4096 := rfl
theorem regionEndUp_eq (r : Region) : regionEndUp r = (r.addr + r.len + 4095) / 4096 := rfl

theorem cand_iff (r : Region) : Cand r ↔ r.typ = memAvailable ∧ 4096 ≤ r.len := Iff.rfl

theorem frame_in_region_iff (r : Region) (f : Nat) :
    (regionStart r ≤ f ∧ f < regionEndExcl r) ↔ (r.addr ≤ f * 4096 ∧ (f + 1) * 4096 ≤ r.addr + r.len) := by
  rw [regionStart_eq, regionEndExcl_eq]; omega

theorem bootInit_kernel_iff {ksA keA : Nat} (h : ksA < keA) (f : Nat) :
    ((bootInit ksA keA).kStart ≤ f ∧ f ≤ (bootInit ksA keA).kEnd) ↔ (ksA / 4096 ≤ f ∧ f * 4096 < keA) := by
  show (ksA / 4096 ≤ f ∧ f ≤ (keA + 4095) / 4096 - 1) ↔ _
  omega

theorem cand_start_lt_endUp {r : Region} (h : Cand r) : regionStart r + 1 ≤ regionEndUp r := by
  rw [cand_iff] at h; rw [regionStart_eq, regionEndUp_eq]; omega

theorem cand_endExcl_le_endUp (r : Region) : regionEndExcl r ≤ regionEndUp r := by
  rw [regionEndExcl_eq, regionEndUp_eq]; omega

theorem cand_endExcl_pos {r : Region} (h : Cand r) : 1 ≤ regionEndExcl r := by
  rw [cand_iff] at h; rw [regionEndExcl_eq]; omega

theorem bootScan_cons (b : Boot) (r : Region) (rs : List Region) :
    bootScan b (r :: rs) =
      if ¬ Cand r ∨ regionEndExcl r - 1 ≤ b.last then bootScan b rs
      else if regionEndExcl r - 1 < bootNext b (regionStart r) (regionEndExcl r - 1) then
        bootScan { b with last := bootNext b (regionStart r) (regionEndExcl r - 1) } rs
      else ({ b with last := bootNext b (regionStart r) (regionEndExcl r - 1) },
            some (bootNext b (regionStart r) (regionEndExcl r - 1))) := by
  have hc : Cand r ↔ ¬ (r.typ ≠ memAvailable ∨ r.len < pageSize) := by
    unfold Cand; rw [not_or, Classical.not_not, Nat.not_lt]
  rw [bootScan]
  by_cases h1 : r.typ ≠ memAvailable ∨ r.len < pageSize
  · rw [if_pos h1, if_pos (Or.inl (fun h => hc.1 h h1))]
  · rw [if_neg h1]
    dsimp only
    by_cases h2 : regionEndExcl r - 1 ≤ b.last
    · rw [if_pos (show b.last ≥ regionEndExcl r - 1 from h2), if_pos (Or.inr h2)]
    · rw [if_neg (show ¬ b.last ≥ regionEndExcl r - 1 from h2), if_neg (not_or.2 ⟨not_not_intro (hc.2 h1), h2⟩)]

theorem bootScan_fst (b : Boot) (m : List Region) :
    (bootScan b m).1 = { b with last := (bootScan b m).1.last } := by
  induction m generalizing b with
  | nil => rfl
  | cons r rs ih =>
    rw [bootScan_cons]
    split
    · exact ih b
    · split
      · exact ih _
      · rfl

@[simp] theorem bootScan_kStart (b : Boot) (m : List Region) : (bootScan b m).1.kStart = b.kStart := by
  rw [bootScan_fst]

@[simp] theorem bootScan_kEnd (b : Boot) (m : List Region) : (bootScan b m).1.kEnd = b.kEnd := by
  rw [bootScan_fst]

@[simp] theorem bootScan_allocCount (b : Boot) (m : List Region) :
    (bootScan b m).1.allocCount = b.allocCount := by
  rw [bootScan_fst]

structure ScanOk (b : Boot) (m : List Region) (b' : Boot) (f : Nat) : Prop where
  inRegion : ∃ r ∈ m, Cand r ∧ regionStart r ≤ f ∧ f < regionEndExcl r
  notKernel : ¬ (b.kStart ≤ f ∧ f ≤ b.kEnd)
  above : b.allocCount ≠ 0 → b.last < f
  last : b'.last = f

theorem bootNext_facts (b : Boot) (s e eu : Nat) (h1 : s + 1 ≤ eu) (h2 : e + 1 ≤ eu)
    (hk : b.kStart ≤ b.kEnd)
    (hg : eu ≤ b.kStart ∨ b.kEnd < s ∨ (s ≤ b.kStart ∧ b.kEnd < eu))
    (hI : b.allocCount = 0 → b.last ≤ s)
    (hN : b.allocCount ≠ 0 → ¬ (b.kStart ≤ b.last ∧ b.last ≤ b.kEnd))
    (hns : b.last < e) :
    s ≤ bootNext b s e ∧ ¬ (b.kStart ≤ bootNext b s e ∧ bootNext b s e ≤ b.kEnd) ∧
    (b.allocCount ≠ 0 → b.last < bootNext b s e) ∧ bootNext b s e ≤ eu := by
  unfold bootNext
  split
  · split <;> omega
  · split <;> omega

/-- what the allocator needs of the memory map and the kernel frames `[ks, ke]`: the abstract
geometry that `SortedMap` and `KernelPlaced` (both below) provide, by `bootEnv_of_placed` -/
structure BootEnv (m : List Region) (ks ke : Nat) : Prop where
  geo : ∀ r ∈ m, Cand r → GeoOk ks ke r
  chain : Chain m
  le : ks ≤ ke

theorem BootEnv.tail {r : Region} {rs : List Region} {ks ke : Nat} (h : BootEnv (r :: rs) ks ke) :
    BootEnv rs ks ke :=
  ⟨fun r' hr' => h.geo r' (List.mem_cons_of_mem _ hr'), (List.pairwise_cons.1 h.chain).2, h.le⟩

/-- result of a scan: the frame found is good, or the cursor (which never moves backwards) has been
left at or past the last frame of every candidate region -/
def ScanPost (b : Boot) (m : List Region) (res : Boot × Option Nat) : Prop :=
  match res.2 with
  | some f => ScanOk b m res.1 f
  | none => b.last ≤ res.1.last ∧ ∀ r ∈ m, Cand r → regionEndExcl r - 1 ≤ res.1.last

theorem ScanPost.cons {b : Boot} {l : Nat} {r : Region} {rs : List Region} {res : Boot × Option Nat}
    (h : ScanPost { b with last := l } rs res) (hle : b.last ≤ l)
    (hr : Cand r → regionEndExcl r - 1 ≤ l) : ScanPost b (r :: rs) res := by
  obtain ⟨b', o⟩ := res
  cases o with
  | some f =>
    have h : ScanOk { b with last := l } rs b' f := h
    obtain ⟨r', hr', hc'⟩ := h.inRegion
    exact ⟨⟨r', List.mem_cons_of_mem _ hr', hc'⟩, h.notKernel,
      fun hac => Nat.lt_of_le_of_lt hle (h.above hac), h.last⟩
  | none =>
    have h : l ≤ b'.last ∧ ∀ r ∈ rs, Cand r → regionEndExcl r - 1 ≤ b'.last := h
    refine ⟨Nat.le_trans hle h.1, fun r' hr' hc' => ?_⟩
    rcases List.mem_cons.1 hr' with rfl | hr'
    · exact Nat.le_trans (hr hc') h.1
    · exact h.2 r' hr' hc'

/-- `hI`, `hN`: the cursor is either the reset state's (`allocCount = 0`, not past any remaining
region start) or a non-kernel frame -/
theorem bootScan_spec (m : List Region) (b : Boot) (hg : BootEnv m b.kStart b.kEnd)
    (hI : b.allocCount = 0 → ∀ r ∈ m, Cand r → b.last ≤ regionStart r)
    (hN : b.allocCount ≠ 0 → ¬ (b.kStart ≤ b.last ∧ b.last ≤ b.kEnd)) :
    ScanPost b m (bootScan b m) := by
  induction m generalizing b with
  | nil => exact ⟨Nat.le_refl _, nofun⟩
  | cons r rs ih =>
    have hI' := fun h0 r' hr' => hI h0 r' (List.mem_cons_of_mem _ hr')
    rw [bootScan_cons]
    split
    · next hskip =>
      exact ScanPost.cons (l := b.last) (ih b hg.tail hI' hN) (Nat.le_refl _)
        (fun hc => hskip.resolve_left (fun h => h hc))
    · next hskip =>
      rw [not_or, Classical.not_not] at hskip
      obtain ⟨hc, hlast⟩ := hskip
      have g1 := cand_start_lt_endUp hc
      have g2 := cand_endExcl_le_endUp r
      have g3 := cand_endExcl_pos hc
      obtain ⟨n1, n2, n3, n4⟩ := bootNext_facts b (regionStart r) (regionEndExcl r - 1) (regionEndUp r)
        g1 (by omega) hg.le (hg.geo r (by simp) hc) (fun h0 => hI h0 r (by simp) hc) hN (by omega)
      have hmono : b.last ≤ bootNext b (regionStart r) (regionEndExcl r - 1) := by
        by_cases hac : b.allocCount = 0
        · have := hI hac r (by simp) hc; omega
        · exact Nat.le_of_lt (n3 hac)
      split
      · next hover =>
        refine (ih { b with last := bootNext b (regionStart r) (regionEndExcl r - 1) } hg.tail
          (fun _ r' hr' hc' => ?_) (fun _ => n2)).cons hmono (fun _ => Nat.le_of_lt hover)
        have := (List.pairwise_cons.1 hg.chain).1 r' hr' hc hc'
        show bootNext b _ _ ≤ _
        omega
      · exact ⟨⟨r, by simp, hc, n1, by omega⟩, n2, n3, rfl⟩

theorem bootScan_all_skipped (m : List Region) (b : Boot)
    (h : ∀ r ∈ m, Cand r → regionEndExcl r - 1 ≤ b.last) : bootScan b m = (b, none) := by
  induction m with
  | nil => rfl
  | cons r rs ih =>
    rw [bootScan_cons, if_pos (Classical.or_iff_not_imp_left.2 fun hc => h r (by simp) (Classical.not_not.1 hc))]
    exact ih (fun r' hr' => h r' (List.mem_cons_of_mem _ hr'))

def SortedMap (m : List Region) : Prop := m.Pairwise fun a c => a.addr + a.len ≤ c.addr

/-- the memory map's regions do not overlap, listed in any order (what the bitmap allocator needs;
the early allocator's ascending-order claims need `SortedMap`) -/
def DisjointMap (m : List Region) : Prop :=
  m.Pairwise fun a c => a.addr + a.len ≤ c.addr ∨ c.addr + c.len ≤ a.addr

theorem SortedMap.disjoint {m : List Region} (h : SortedMap m) : DisjointMap m :=
  List.Pairwise.imp (fun h => Or.inl h) h

structure KernelPlaced (m : List Region) (ksA keA : Nat) : Prop where
  aligned : ksA % pageSize = 0
  nonempty : ksA < keA
  home : ∃ r ∈ m, r.typ = memAvailable ∧ r.addr ≤ ksA ∧ keA ≤ r.addr + r.len

theorem roundUp_le_of_aligned {x k : Nat} (h : x ≤ k) (hk : k % 4096 = 0) : (x + 4095) / 4096 ≤ k / 4096 := by
  omega

theorem lastFrame_lt {x y : Nat} (hy : 0 < y) (h : y ≤ x) : (y + 4095) / 4096 - 1 < (x + 4095) / 4096 := by
  omega

theorem bootInit_k_le {ksA keA : Nat} (h : ksA < keA) :
    (bootInit ksA keA).kStart ≤ (bootInit ksA keA).kEnd := by
  show ksA / 4096 ≤ (keA + 4095) / 4096 - 1
  omega

theorem bootEnv_of_placed {m : List Region} {ksA keA : Nat} (hs : SortedMap m)
    (hp : KernelPlaced m ksA keA) : BootEnv m (bootInit ksA keA).kStart (bootInit ksA keA).kEnd := by
  have hne := hp.nonempty
  refine ⟨fun r hr _ => ?_, hs.imp fun hac _ _ => Nat.div_le_div_right (Nat.add_le_add_right hac 4095),
    bootInit_k_le hne⟩
  obtain ⟨R, hR, _, hlo, hhi⟩ := hp.home
  have hal : ksA % 4096 = 0 := hp.aligned
  have hpos : 0 < keA := Nat.lt_of_le_of_lt (Nat.zero_le _) hne
  show regionEndUp r ≤ ksA / 4096 ∨ (keA + 4095) / 4096 - 1 < regionStart r ∨
    (regionStart r ≤ ksA / 4096 ∧ (keA + 4095) / 4096 - 1 < regionEndUp r)
  rcases pairwise_trichotomy hs hr hR with rfl | h | h
  · exact Or.inr (Or.inr ⟨roundUp_le_of_aligned hlo hal, lastFrame_lt hpos hhi⟩)
  · exact Or.inl (roundUp_le_of_aligned (Nat.le_trans h hlo) hal)
  · exact Or.inr (Or.inl (lastFrame_lt hpos (Nat.le_trans hhi h)))

/-- cursor states reachable from the reset state by successful allocations -/
def BootOk (b : Boot) : Prop :=
  (b.allocCount = 0 → b.last = 0) ∧ (b.allocCount ≠ 0 → ¬ (b.kStart ≤ b.last ∧ b.last ≤ b.kEnd))

theorem bootOk_init (ksA keA : Nat) : BootOk (bootInit ksA keA) := ⟨fun _ => rfl, fun h => absurd rfl h⟩

/-- the reset of `reserveEarlyAllocatorFrames` restores the state `BootMemAllocator.init` left -/
theorem reset_eq {b : Boot} {ksA keA : Nat} (h1 : b.kStart = (bootInit ksA keA).kStart)
    (h2 : b.kEnd = (bootInit ksA keA).kEnd) :
    ({ b with allocCount := 0, last := 0 } : Boot) = bootInit ksA keA := by
  rw [show ({ b with allocCount := 0, last := 0 } : Boot) = ⟨0, 0, b.kStart, b.kEnd⟩ from rfl, h1, h2]
  rfl

theorem bootScan_post {m : List Region} {b : Boot} (hg : BootEnv m b.kStart b.kEnd) (hb : BootOk b) :
    ScanPost b m (bootScan b m) :=
  bootScan_spec m b hg (fun h0 r _ _ => by rw [hb.1 h0]; exact Nat.zero_le _) hb.2

theorem bootAlloc_some {m : List Region} {b b' : Boot} {f : Nat} (h : bootAlloc m b = (b', some f)) :
    (bootScan b m).2 = some f ∧ b' = { (bootScan b m).1 with allocCount := (bootScan b m).1.allocCount + 1 } := by
  unfold bootAlloc at h
  split at h <;> cases h
  next heq => rw [heq]; exact ⟨rfl, rfl⟩

theorem bootAlloc_none_iff {m : List Region} {b b' : Boot} :
    bootAlloc m b = (b', none) ↔ bootScan b m = (b', none) := by
  unfold bootAlloc
  split
  · next heq => rw [heq]; constructor <;> nofun
  · next heq => rw [heq]

theorem bootAlloc_keeps {m : List Region} {b b' : Boot} {r : Option Nat} (h : bootAlloc m b = (b', r)) :
    b'.allocCount = b.allocCount + (if r = none then 0 else 1) ∧ b'.kStart = b.kStart ∧ b'.kEnd = b.kEnd := by
  cases r with
  | some f =>
    obtain ⟨-, rfl⟩ := bootAlloc_some h
    exact ⟨congrArg (· + 1) (bootScan_allocCount b m), bootScan_kStart b m, bootScan_kEnd b m⟩
  | none =>
    cases congrArg Prod.fst (bootAlloc_none_iff.1 h)
    exact ⟨bootScan_allocCount b m, bootScan_kStart b m, bootScan_kEnd b m⟩

theorem bootAlloc_sound {m : List Region} {b b' : Boot} {f : Nat} (hg : BootEnv m b.kStart b.kEnd)
    (hb : BootOk b) (h : bootAlloc m b = (b', some f)) : ScanOk b m b' f ∧ BootOk b' := by
  obtain ⟨-, hk1, hk2⟩ := bootAlloc_keeps h
  obtain ⟨hf, rfl⟩ := bootAlloc_some h
  have hpost := bootScan_post hg hb
  rw [ScanPost, hf] at hpost
  have hsound : ScanOk b m (bootScan b m).1 f := hpost
  refine ⟨⟨hsound.inRegion, hsound.notKernel, hsound.above, hsound.last⟩, fun h0 => by simp at h0, fun _ => ?_⟩
  rw [hk1, hk2]
  exact hsound.last ▸ hsound.notKernel

theorem bootAlloc_oom_final {m : List Region} {b b' : Boot} (hg : BootEnv m b.kStart b.kEnd)
    (hb : BootOk b) (h : bootAlloc m b = (b', none)) : bootAlloc m b' = (b', none) := by
  have hs := bootAlloc_none_iff.1 h
  have hpost := bootScan_post hg hb
  rw [hs] at hpost
  exact bootAlloc_none_iff.2 (bootScan_all_skipped m b' hpost.2)

def bootRun (m : List Region) : Nat → Boot → Option (Boot × List Nat)
  | 0, b => some (b, [])
  | n+1, b =>
    match bootAlloc m b with
    | (b1, some f) => (bootRun m n b1).map fun (b2, fs) => (b2, f :: fs)
    | (_, none) => none

theorem bootRun_zero {m : List Region} {b b' : Boot} {fs : List Nat} :
    bootRun m 0 b = some (b', fs) ↔ b' = b ∧ fs = [] := by
  rw [bootRun, Option.some.injEq, Prod.mk.injEq]
  exact ⟨fun h => ⟨h.1.symm, h.2.symm⟩, fun h => ⟨h.1.symm, h.2.symm⟩⟩

theorem bootRun_succ {m : List Region} {n : Nat} {b b' : Boot} {fs : List Nat} :
    bootRun m (n + 1) b = some (b', fs) ↔
      ∃ b1 f fs', bootAlloc m b = (b1, some f) ∧ bootRun m n b1 = some (b', fs') ∧ fs = f :: fs' := by
  rw [bootRun]
  split
  · next b1 f heq =>
    simp only [Option.map_eq_some_iff, Prod.mk.injEq, Prod.exists]
    constructor
    · rintro ⟨b2, fs', hr, rfl, rfl⟩; exact ⟨b1, f, fs', heq, hr, rfl⟩
    · rintro ⟨_, _, fs', e, hr, rfl⟩
      rw [heq] at e; cases e
      exact ⟨b', fs', hr, rfl, rfl⟩
  · next heq =>
    constructor
    · nofun
    · rintro ⟨_, _, _, e, _⟩; rw [heq] at e; cases e

theorem bootRun_keeps {m : List Region} {n : Nat} {b b' : Boot} {fs : List Nat}
    (h : bootRun m n b = some (b', fs)) :
    fs.length = n ∧ b'.allocCount = b.allocCount + n ∧ b'.kStart = b.kStart ∧ b'.kEnd = b.kEnd := by
  induction n generalizing b fs with
  | zero =>
    obtain ⟨rfl, rfl⟩ := bootRun_zero.1 h
    exact ⟨rfl, rfl, rfl, rfl⟩
  | succ n ih =>
    obtain ⟨b1, f, fs2, ha, hr, rfl⟩ := bootRun_succ.1 h
    obtain ⟨k3, k1, k2⟩ := bootAlloc_keeps ha
    obtain ⟨i1, i2, i3, i4⟩ := ih hr
    exact ⟨congrArg (· + 1) i1, by rw [i2, k3, if_neg nofun]; omega, i3.trans k1, i4.trans k2⟩

theorem bootRun_sound {m : List Region} {n : Nat} {b b' : Boot} {fs : List Nat}
    (hg : BootEnv m b.kStart b.kEnd) (hb : BootOk b) (h : bootRun m n b = some (b', fs)) :
    fs.Pairwise (· < ·) ∧ ∀ f ∈ fs, (b.allocCount ≠ 0 → b.last < f) ∧ ¬ (b.kStart ≤ f ∧ f ≤ b.kEnd) ∧
      ∃ r ∈ m, Cand r ∧ regionStart r ≤ f ∧ f < regionEndExcl r := by
  induction n generalizing b fs with
  | zero =>
    obtain ⟨rfl, rfl⟩ := bootRun_zero.1 h
    exact ⟨List.Pairwise.nil, nofun⟩
  | succ n ih =>
    obtain ⟨b1, f, fs2, ha, hr, rfl⟩ := bootRun_succ.1 h
    obtain ⟨ok, hb1⟩ := bootAlloc_sound hg hb ha
    obtain ⟨k3, k1, k2⟩ := bootAlloc_keeps ha
    rw [← k1, ← k2] at hg ⊢
    obtain ⟨i1, i2⟩ := ih hg hb1 hr
    have habove : ∀ g ∈ fs2, f < g := fun g hg => ok.last ▸ (i2 g hg).1 (by rw [k3, if_neg nofun]; omega)
    refine ⟨List.pairwise_cons.2 ⟨habove, i1⟩, fun g hg => ?_⟩
    rcases List.mem_cons.1 hg with rfl | hg
    · exact ⟨ok.above, k1 ▸ k2 ▸ ok.notKernel, ok.inRegion⟩
    · exact ⟨fun hac => Nat.lt_trans (ok.above hac) (habove g hg), (i2 g hg).2⟩

/-- a run keeps the kernel bounds, so resetting count and cursor gives back the state the run
started from: for every map and every kernel placement -/
theorem bootRun_replay {m : List Region} {ksA keA n : Nat} {b' : Boot} {fs : List Nat}
    (h : bootRun m n (bootInit ksA keA) = some (b', fs)) :
    bootRun m n { b' with allocCount := 0, last := 0 } = some (b', fs) := by
  rw [reset_eq (bootRun_keeps h).2.2.1 (bootRun_keeps h).2.2.2]; exact h

set_option linter.unusedVariables false in
theorem replay_exact (m : List Region) (ksA keA : Nat) (n : Nat) (b' : Boot) (fs : List Nat)
    (hchain : Chain m) (hk : ksA < keA)
    (hgeo : ∀ r ∈ m, Cand r → GeoOk (bootInit ksA keA).kStart (bootInit ksA keA).kEnd r)
    (h : bootRun m n (bootInit ksA keA) = some (b', fs)) :
    bootRun m n { b' with allocCount := 0, last := 0 } = some (b', fs) :=
  bootRun_replay h

end Firefly.Pmm
