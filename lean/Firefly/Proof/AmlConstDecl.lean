import Firefly.Proof.AmlDeclRt
import Firefly.Model.AmlProg
/-!
Declaration-level round trip (`C11`), the data object of a `Name` declaration: an integer constant written as a
definition-level object.
-/
namespace Firefly.AmlParser.F
open Firefly.AmlLex Firefly.AmlTree Firefly.C13 Firefly.AmlParser.G
open Firefly.Gen.C12 Firefly.AmlProg

theorem args_none {d : Bytes} (f : Nat) {s5 : PState} {x op : Nat} (hl : live s5.tree x = true)
    (hop : (slot s5.tree x).opcode = op) (hinf : (slot s5.tree x).infoIndex = pOpcodeTableIndex op true)
    (hI : InfoOK (pOpcodeTableIndex op true)) (hcnt : argCnt (pOpcodeTableIndex op true) = 0)
    (hnp : op ≠ opBytePrefix ∧ op ≠ opWordPrefix ∧ op ≠ opDwordPrefix ∧ op ≠ opQwordPrefix ∧ op ≠ opStringPrefix) :
    parseObjectArgs d (f + 2) x s5 = .ok (PRes.ok, s5) :=
  parseObjectArgs_row hl hop hinf hI hnp (parseArgs_end hI (by rw [hcnt]; exact Nat.zero_le _) s5)

theorem args_num {d : Bytes} (f : Nat) {s5 : PState} (h5 : FP d s5) {x op n : Nat} (hl : live s5.tree x = true)
    (hop : (slot s5.tree x).opcode = op)
    (hcase : (op = opBytePrefix ∧ n = 1) ∨ (op = opWordPrefix ∧ n = 2) ∨ (op = opDwordPrefix ∧ n = 4) ∨ (op = opQwordPrefix ∧ n = 8))
    {a : Nat} {r' : Reader} (hx : Runs d (parseNumConstant d n) s5.r (a, PRes.ok) r') :
    ∃ s6, parseObjectArgs d (f + 1) x s5 = .ok (PRes.ok, s6) ∧ FP d s6 ∧ PayOnly x s5 s6 ∧
      slot s6.tree x = { slot s5.tree x with value := .u64 a } ∧ s6.r = r' := by
  obtain ⟨s6, e, h6, hp6, hr6, hsl6⟩ := setVal_run Val.u64 h5 hl hx
  have e' : setNumValue d x n s5 = .ok (PRes.ok, s6) := e
  refine ⟨s6, ?_, h6, hp6, hsl6, hr6⟩
  rw [parseObjectArgs, bind_run (getObj_live hl), hop]
  rcases hcase with ⟨rfl, rfl⟩ | ⟨rfl, rfl⟩ | ⟨rfl, rfl⟩ | ⟨rfl, rfl⟩
  · rw [if_pos rfl]; exact bind_ex' e' rfl
  · rw [if_neg (by decide), if_pos rfl]; exact bind_ex' e' rfl
  · rw [if_neg (by decide), if_neg (by decide), if_pos rfl]; exact bind_ex' e' rfl
  · rw [if_neg (by decide), if_neg (by decide), if_neg (by decide), if_pos rfl]; exact bind_ex' e' rfl

/-- an integer object as the namespace reader (`intOf`) reads it: `ZeroOp` / `OneOp` / `OnesOp`, or a stored value -/
def IntObj (t : ObjectTree) (k n : Nat) : Prop :=
  ((slot t k).opcode = 0x00 ∧ n = 0) ∨ ((slot t k).opcode = 0x01 ∧ n = 1) ∨
  ((slot t k).opcode = 0xff ∧ n = 18446744073709551615) ∨
  ((slot t k).opcode ≠ 0x00 ∧ (slot t k).opcode ≠ 0x01 ∧ (slot t k).opcode ≠ 0xff ∧ (slot t k).value = .u64 n)

/-- the widths the encoder writes integers in (`0`: ZeroOp / OneOp / OnesOp) -/
def IntW (w : Nat) : Prop := w = 0 ∨ w = 1 ∨ w = 2 ∨ w = 4 ∨ w = 8

/-- the opcode byte of `encInt w v` -/
def constOp (w v : Nat) : Nat :=
  if w = 0 then (if v = 0 then 0x00 else if v = 1 then 0x01 else 0xff)
  else if w = 1 then 0x0a else if w = 2 then 0x0b else if w = 4 then 0x0c else 0x0e

theorem IntObj.of_pay {t t' : ObjectTree} {k n : Nat} (h : IntObj t k n) (hp : Pay (slot t' k) = Pay (slot t k)) : IntObj t' k n := by
  unfold IntObj at h ⊢
  rw [pay_opcode hp, pay_value hp]
  exact h

theorem intObj_of_enc {t : ObjectTree} {k w v : Nat} (hw : IntW w) (hop : (slot t k).opcode = constOp w v)
    (hv : w ≠ 0 → (slot t k).value = .u64 (v % 256 ^ w)) : IntObj t k (intVal w v) := by
  unfold IntObj
  rw [hop]
  rcases hw with rfl | hw
  · by_cases h0 : v = 0
    · simp [constOp, intVal, h0]
    · by_cases h1 : v = 1 <;> simp [constOp, intVal, h0, h1]
  · have hw0 : w ≠ 0 := by omega
    refine Or.inr (Or.inr (Or.inr ⟨?_, ?_, ?_, by rw [hv hw0]; simp [intVal, hw0]⟩)) <;>
      rcases hw with rfl | rfl | rfl | rfl <;> simp [constOp]

theorem encInt_pos (w v : Nat) : 1 ≤ (encInt w v).length := by
  unfold encInt
  repeat' split
  all_goals simp

theorem encInt_noarg (v : Nat) : ∃ b ∈ ([0x00, 0x01, 0xff] : List UInt8), encInt 0 v = [b] ∧ constOp 0 v = b.toNat := by
  by_cases h0 : v = 0
  · exact ⟨0x00, by simp, by simp [encInt, h0], by simp [constOp, h0]⟩
  · by_cases h1 : v = 1
    · exact ⟨0x01, by simp, by simp [encInt, h1], by simp [constOp, h1]⟩
    · exact ⟨0xff, by simp, by simp [encInt, h0, h1], by simp [constOp, h0, h1]⟩

theorem encInt_prefixed {w : Nat} (v : Nat) (hw : w = 1 ∨ w = 2 ∨ w = 4 ∨ w = 8) :
    ∃ b, (b, w) ∈ ([(0x0a, 1), (0x0b, 2), (0x0c, 4), (0x0e, 8)] : List (UInt8 × Nat)) ∧ encInt w v = b :: encConst v w ∧
      constOp w v = b.toNat := by
  rcases hw with rfl | rfl | rfl | rfl
  · exact ⟨0x0a, by simp, by simp [encInt], by simp [constOp]⟩
  · exact ⟨0x0b, by simp, by simp [encInt], by simp [constOp]⟩
  · exact ⟨0x0c, by simp, by simp [encInt], by simp [constOp]⟩
  · exact ⟨0x0e, by simp, by simp [encInt], by simp [constOp]⟩

/-- the table rows of the integer opcodes: those without arguments, those followed by the value -/
theorem const_rows :
    (∀ b ∈ ([0x00, 0x01, 0xff] : List UInt8), b.toNat ≠ extOpPrefix ∧ pOpcodeTableIndex b.toNat false ≠ badOpcode ∧
      InfoOK (pOpcodeTableIndex b.toNat true) ∧ b.toNat ≠ opNoop ∧
      argCnt (pOpcodeTableIndex b.toNat true) = 0 ∧ b.toNat ≠ opBytePrefix ∧ b.toNat ≠ opWordPrefix ∧ b.toNat ≠ opDwordPrefix ∧
      b.toNat ≠ opQwordPrefix ∧ b.toNat ≠ opStringPrefix) ∧
    (∀ p ∈ ([(0x0a, 1), (0x0b, 2), (0x0c, 4), (0x0e, 8)] : List (UInt8 × Nat)), p.1.toNat ≠ extOpPrefix ∧
      pOpcodeTableIndex p.1.toNat false ≠ badOpcode ∧ InfoOK (pOpcodeTableIndex p.1.toNat true) ∧
      p.1.toNat ≠ opNoop ∧
      ((p.1.toNat = opBytePrefix ∧ p.2 = 1) ∨ (p.1.toNat = opWordPrefix ∧ p.2 = 2) ∨ (p.1.toNat = opDwordPrefix ∧ p.2 = 4) ∨
        (p.1.toNat = opQwordPrefix ∧ p.2 = 8))) := by
  unfold InfoOK
  decide +kernel

theorem const_noarg {d : Bytes} (f : Nat) {s : PState} (h : FP d s) (hne : s.scopeStack.size ≠ 0)
    (hsz : s.tree.pool.size + 1 < INV) {b : UInt8} (hb : b ∈ ([0x00, 0x01, 0xff] : List UInt8)) (ha : At d s [b]) :
    ∃ s' k, parseNextObject d (f + 3) s = .ok (PRes.ok, s') ∧ Opened d s s' k b.toNat ⟨s.r.offset + [b].length, s.r.pkgEnd⟩ := by
  obtain ⟨r1, r2, r3, r5, q1, q2⟩ := const_rows.1 b hb
  obtain ⟨x, s5, o, hk⟩ := nextObject_open (f + 2) h hne hsz (h.runsAt (nextOpcode_one_reads r1 r2) ha) r3 r5
  exact ⟨s5, x, hk _ _ (args_none f o.lx o.opx o.infx r3 q1 q2), o⟩

theorem const_prefixed {d : Bytes} (f : Nat) {s : PState} (h : FP d s) (hne : s.scopeStack.size ≠ 0)
    (hsz : s.tree.pool.size + 1 < INV) {b : UInt8} {n : Nat}
    (hb : (b, n) ∈ ([(0x0a, 1), (0x0b, 2), (0x0c, 4), (0x0e, 8)] : List (UInt8 × Nat))) (v : Nat)
    (ha : At d s ([b] ++ encConst v n)) :
    ∃ s' k, parseNextObject d (f + 3) s = .ok (PRes.ok, s') ∧
      Opened d s s' k b.toNat ⟨s.r.offset + ([b] ++ encConst v n).length, s.r.pkgEnd⟩ ∧ (slot s'.tree k).value = .u64 (v % 256 ^ n) := by
  obtain ⟨r1, r2, r3, r5, hcase⟩ := const_rows.2 (b, n) hb
  obtain ⟨x, s5, o, hk⟩ := nextObject_open (f + 2) h hne hsz
    (h.runsAt (nextOpcode_one_reads r1 r2) ha.left) r3 r5
  obtain ⟨s6, e6, h6, hp6, hsl6, hr6⟩ := args_num (f + 1) o.fp o.lx o.opx hcase
    (o.fp.runsAt (parseNumConstant_reads v n) (ha.adv rfl o.r))
  exact ⟨s6, x, hk _ _ e6, o.thenPay h6 hp6 hsl6 (by rw [hr6, o.r, List.length_append, Nat.add_assoc]), by rw [hsl6]⟩

/-- **the first pass on an integer written at definition level** (the data object of `Name(X, 5)`): on the bytes of
`encInt w v`, `parseNextObject` creates ONE new object as the last child of the innermost scope block — `ZeroOp`/`OneOp`/
`OnesOp`, or a prefixed constant holding `v mod 256^w` — and stops right behind the encoding -/
theorem const_decl_first_pass {d : Bytes} (f : Nat) {s : PState} (h : FP d s) (hne : s.scopeStack.size ≠ 0)
    (hsz : s.tree.pool.size + 1 < INV) (w v : Nat) (hw : IntW w) (ha : At d s (encInt w v)) :
    ∃ s' k, parseNextObject d (f + 3) s = .ok (PRes.ok, s') ∧
      Opened d s s' k (constOp w v) ⟨s.r.offset + (encInt w v).length, s.r.pkgEnd⟩ ∧ IntObj s'.tree k (intVal w v) := by
  rcases hw with rfl | hw
  · obtain ⟨b, hb, he, hc⟩ := encInt_noarg v
    rw [he] at ha ⊢
    rw [hc]
    obtain ⟨s', k, e, o⟩ := const_noarg f h hne hsz hb ha
    exact ⟨s', k, e, o, intObj_of_enc (Or.inl rfl) (by rw [o.opx, hc]) (fun h0 => absurd rfl h0)⟩
  · obtain ⟨b, hb, he, hc⟩ := encInt_prefixed v hw
    rw [he] at ha ⊢
    rw [hc]
    obtain ⟨s', k, e, o, hv⟩ := const_prefixed f h hne hsz hb v ha
    exact ⟨s', k, e, o, intObj_of_enc (Or.inr hw) (by rw [o.opx, hc]) (fun _ => hv)⟩

end Firefly.AmlParser.F
