import Firefly.Model.Acpi
import Firefly.Spec.Acpi
import Firefly.Proof.Bits
/-!
Lemmas for C14 on `Model/Acpi.lean`.  The checksum loop is a byte sum modulo 256 (`validTable_iff`); the RSDP
scan finds the lowest valid slot of the 16-byte grid (`locateRSDT_found_iff`); the enumeration is a fold of
`register` over the addresses `visit` hands to `mapACPITable` (`foldl_stepEntry`), so that `tableMap[s]` ends
up as the last checksum-valid table with signature `s` (`lookup_tables`).
-/
namespace Firefly.Acpi
open Firefly.Gen.C14

theorem byteSum_zero (m : Mem) (a : Nat) : byteSum m a 0 = 0 := rfl

theorem map_rd_succ (m : Mem) (a n : Nat) :
    (List.range (n + 1)).map (fun i => rd m (a + i)) = rd m a :: (List.range n).map (fun i => rd m (a + 1 + i)) := by
  rw [List.range_succ_eq_map]
  simp [Function.comp_def, Nat.add_assoc, Nat.add_comm 1]

theorem byteSum_succ_left (m : Mem) (a n : Nat) : byteSum m a (n + 1) = rd m a + byteSum m (a + 1) n := by
  unfold byteSum
  rw [map_rd_succ, List.sum_cons]

theorem sumLoop_eq (m : Mem) (a n acc : Nat) (h : acc < 256) :
    sumLoop m a n acc = (acc + byteSum m a n) % 256 := by
  induction n generalizing a acc with
  | zero => rw [sumLoop, byteSum_zero]; exact (Nat.mod_eq_of_lt h).symm
  | succ n ih =>
    rw [sumLoop, ih (a + 1) _ (Nat.mod_lt _ (by decide)), byteSum_succ_left, Nat.mod_add_mod, Nat.add_assoc]

theorem validTable_iff (m : Mem) (a n : Nat) : validTable m a n = true ↔ byteSum m a n % 256 = 0 := by
  unfold validTable
  rw [sumLoop_eq m a n 0 (by decide)]
  simp

theorem rd_lt (m : Mem) (a : Nat) : rd m a < 256 := by
  unfold rd; exact (m (a % 2^64)).toNat_lt

theorem rdLE_lt (m : Mem) (a k : Nat) : rdLE m a k < 256 ^ k := by
  induction k generalizing a with
  | zero => simp [rdLE]
  | succ k ih =>
    have h1 := rd_lt m a
    have h2 := ih (a + 1)
    rw [rdLE, Nat.pow_succ]
    omega

theorem rdLE_four (m : Mem) (a : Nat) :
    rdLE m a 4 = rd m a + 256 * rd m (a + 1) + 65536 * rd m (a + 2) + 16777216 * rd m (a + 3) := by
  simp only [rdLE, Nat.add_assoc, Nat.reduceAdd]; omega

theorem rdLE_add (m : Mem) (a j k : Nat) : rdLE m a (j + k) = rdLE m a j + 256 ^ j * rdLE m (a + j) k := by
  induction j generalizing a with
  | zero => simp [rdLE]
  | succ j ih =>
    rw [Nat.add_right_comm, rdLE, rdLE, ih, Nat.pow_succ, Nat.add_assoc a 1 j, Nat.add_comm 1 j]
    rw [Nat.mul_add, Nat.add_assoc, Nat.mul_comm (256 ^ j) 256, Nat.mul_assoc]

theorem rdLE_eight (m : Mem) (a : Nat) :
    rdLE m a 8 = rd m a + 256 * rd m (a + 1) + 65536 * rd m (a + 2) + 16777216 * rd m (a + 3)
      + 4294967296 * rdLE m (a + 4) 4 := by
  rw [rdLE_add m a 4 4, rdLE_four]

theorem lenAt_lt (m : Mem) (a : Nat) : lenAt m a < 2 ^ 32 := rdLE_lt m (a + hdrLengthOff) 4

/-- the `uint32` subtraction does not wrap for a table at least as long as its header -/
theorem payloadLen_eq (m : Mem) (root : Nat) (h : 36 ≤ lenAt m root) : payloadLen m root = lenAt m root - 36 :=
  Bits.wrap_sub h (lenAt_lt m root)

theorem matchSig_iff (m : Mem) (a : Nat) (l : List Nat) :
    matchSig m a l = true ↔ (List.range l.length).map (fun i => rd m (a + i)) = l := by
  induction l generalizing a with
  | nil => simp [matchSig]
  | cons b bs ih => simp [matchSig, map_rd_succ, ih (a + 1)]

theorem slot_succ (a k : Nat) : a + 16 * (k + 1) = a + rsdpAlignment + 16 * k :=
  show _ = a + 16 + 16 * k by omega

theorem scan_missing_iff (m : Mem) (a n : Nat) :
    scan m a n = .missing ↔ ∀ k, k < n → checkSlot m (a + 16 * k) = none := by
  induction n generalizing a with
  | zero => simp [scan]
  | succ n ih =>
    rw [scan, Nat.forall_lt_succ_left]
    simp only [slot_succ, ← ih, Nat.mul_zero, Nat.add_zero]
    cases hc : checkSlot m a with
    | some r => simp
    | none => simp

theorem scan_found_iff (m : Mem) (a n root : Nat) (x : Bool) :
    scan m a n = .found root x ↔
      ∃ k, k < n ∧ checkSlot m (a + 16 * k) = some (root, x) ∧ ∀ j, j < k → checkSlot m (a + 16 * j) = none := by
  induction n generalizing a with
  | zero => simp [scan]
  | succ n ih =>
    rw [scan, Nat.exists_lt_succ_left]
    simp only [Nat.forall_lt_succ_left, slot_succ, Nat.mul_zero, Nat.add_zero, Nat.not_lt_zero, false_imp_iff, implies_true, and_true]
    cases hc : checkSlot m a with
    | some r => obtain ⟨r1, r2⟩ := r; simp [eq_comm]
    | none => simp [ih]

theorem lt_nslots_iff (low hi k : Nat) : k < nslots low hi ↔ low + 16 * k < hi := by
  unfold nslots
  rw [show rsdpAlignment = 16 from rfl]
  omega

/-- `tableMap[sig] = header` when the checksum is good, nothing otherwise -/
def register (m : Mem) (t : List (Nat × Nat)) (a : Nat) : List (Nat × Nat) :=
  if tableOK m a then insert t (sigAt m a) a else t

/-- the addresses handed to `mapACPITable` while processing the root-table entry `a` -/
def visit (m : Mem) (rootRev a : Nat) : List Nat :=
  if tableOK m a && sigAt m a == fadtSignature then [a, dsdtPtr m rootRev a] else [a]

/-- the two `identityMapFn` calls of one `mapACPITable` -/
def hdrMaps (m : Mem) (a : Nat) : List (Nat × Nat) :=
  [(a >>> pageShift, sizeofSDTHeader), (a >>> pageShift, lenAt m a)]

theorem stepEntry_eq (m : Mem) (rv : Nat) (st : St) (a : Nat) :
    stepEntry m rv st a =
      { tables := (visit m rv a).foldl (register m) st.tables,
        skipped := st.skipped ++ (visit m rv a).filter (fun b => !tableOK m b),
        maps := st.maps ++ (visit m rv a).flatMap (hdrMaps m) } := by
  unfold stepEntry mapACPITable visit register hdrMaps
  by_cases h1 : tableOK m a = true
  · by_cases h2 : (sigAt m a == fadtSignature) = true
    · by_cases h3 : tableOK m (dsdtPtr m rv a) = true <;> simp [h1, h2, h3]
    · simp [h1, h2]
  · simp [h1]

theorem foldl_stepEntry (m : Mem) (rv : Nat) (es : List Nat) (st : St) :
    es.foldl (stepEntry m rv) st =
      { tables := (es.flatMap (visit m rv)).foldl (register m) st.tables,
        skipped := st.skipped ++ (es.flatMap (visit m rv)).filter (fun b => !tableOK m b),
        maps := st.maps ++ (es.flatMap (visit m rv)).flatMap (hdrMaps m) } := by
  induction es generalizing st with
  | nil => simp
  | cons e es ih =>
    rw [List.foldl_cons, ih, stepEntry_eq]
    simp [List.foldl_append, List.filter_append, List.flatMap_append, List.append_assoc]

theorem lookup_filter_ne (t : List (Nat × Nat)) (s s' : Nat) (h : s' ≠ s) :
    (t.filter (fun p => p.1 != s)).lookup s' = t.lookup s' := by
  induction t with
  | nil => rfl
  | cons p t ih =>
    obtain ⟨k, v⟩ := p
    by_cases hk : k = s
    · subst hk
      have : (s' == k) = false := by simpa using h
      simp [List.lookup_cons, this, ih]
    · have hk' : (k != s) = true := by simpa using hk
      simp [hk', List.lookup_cons, ih]

theorem lookup_insert (t : List (Nat × Nat)) (s a s' : Nat) :
    (insert t s a).lookup s' = if s' = s then some a else t.lookup s' := by
  unfold insert
  by_cases h : s' = s
  · subst h; simp
  · have : (s' == s) = false := by simpa using h
    simp [List.lookup_cons, this, h, lookup_filter_ne t s s' h]

theorem lookup_register (m : Mem) (t : List (Nat × Nat)) (v s : Nat) :
    (register m t v).lookup s = if tableOK m v && sigAt m v == s then some v else t.lookup s := by
  unfold register
  by_cases h : tableOK m v = true
  · simp only [h, if_true, lookup_insert, Bool.true_and, beq_iff_eq, eq_comm (a := s)]
  · simp [h]

theorem lookup_foldl_register (m : Mem) (vs : List Nat) (t : List (Nat × Nat)) (s : Nat) :
    (vs.foldl (register m) t).lookup s =
      (vs.reverse.find? (fun a => tableOK m a && sigAt m a == s)).or (t.lookup s) := by
  induction vs generalizing t with
  | nil => rfl
  | cons v vs ih =>
    rw [List.foldl_cons, ih, lookup_register, List.reverse_cons, List.find?_append, Option.or_assoc]
    cases h : (tableOK m v && sigAt m v == s) <;> simp [h]

theorem insert_keys_nodup (t : List (Nat × Nat)) (s a : Nat) (h : (t.map (·.1)).Nodup) :
    ((insert t s a).map (·.1)).Nodup := by
  unfold insert
  rw [List.map_cons, List.nodup_cons]
  constructor
  · simp [List.mem_map, List.mem_filter]
  · exact List.Nodup.sublist (List.Sublist.map _ List.filter_sublist) h

theorem foldl_register_keys_nodup (m : Mem) (vs : List Nat) (t : List (Nat × Nat))
    (h : (t.map (·.1)).Nodup) : ((vs.foldl (register m) t).map (·.1)).Nodup := by
  induction vs generalizing t with
  | nil => simpa
  | cons v vs ih =>
    rw [List.foldl_cons]
    apply ih
    unfold register
    split
    · exact insert_keys_nodup t _ _ h
    · exact h

theorem tableOK_iff (m : Mem) (a : Nat) : tableOK m a = true ↔ SumsToZero m a (lenAt m a) := by
  unfold tableOK SumsToZero; exact validTable_iff m a _

theorem checkSlot_eq (m : Mem) (a : Nat) [Decidable (ValidRsdpAt m a)] :
    checkSlot m a = if ValidRsdpAt m a then some (rootOf m a) else none := by
  have hsig : matchSig m a rsdpSignature = true ↔
      (List.range 8).map (fun i => rd m (a + i)) = rsdPtrSignature := matchSig_iff m a rsdPtrSignature
  unfold checkSlot ValidRsdpAt rootOf SumsToZero
  simp only [rsdpRevisionOff, acpiRev1, rsdpChecksumLen, extRsdpChecksumLen, rsdpRSDTAddrOff, rsdpRSDTAddrSize,
    rsdpXSDTAddrOff, rsdpXSDTAddrSize, Bool.not_eq_true', Bool.eq_false_iff, ne_eq, hsig, beq_iff_eq, validTable_iff]
  by_cases h1 : (List.range 8).map (fun i => rd m (a + i)) = rsdPtrSignature
  · by_cases h2 : rd m (a + 15) = 0
    · by_cases h3 : byteSum m a 20 % 256 = 0 <;> simp [h1, h2, h3]
    · by_cases h3 : byteSum m a 36 % 256 = 0 <;> simp [h1, h2, h3]
  · simp [h1]

theorem checkSlot_eq_none_iff (m : Mem) (a : Nat) : checkSlot m a = none ↔ ¬ ValidRsdpAt m a := by
  rw [checkSlot_eq]; split <;> simp [*]

theorem checkSlot_eq_some_iff (m : Mem) (a : Nat) (r : Nat × Bool) :
    checkSlot m a = some r ↔ ValidRsdpAt m a ∧ r = rootOf m a := by
  rw [checkSlot_eq]; split <;> simp [*, eq_comm]

theorem locateRSDT_found_iff (m : Mem) (low hi root : Nat) (x : Bool) :
    locateRSDT m low hi = .found root x ↔
      ∃ k, low + 16 * k < hi ∧ ValidRsdpAt m (low + 16 * k) ∧
        (∀ j, j < k → ¬ ValidRsdpAt m (low + 16 * j)) ∧ (root, x) = rootOf m (low + 16 * k) := by
  unfold locateRSDT
  simp only [scan_found_iff, lt_nslots_iff, checkSlot_eq_some_iff, checkSlot_eq_none_iff]
  exact exists_congr fun k => ⟨fun ⟨h1, ⟨h2, h3⟩, h4⟩ => ⟨h1, h2, h4, h3⟩, fun ⟨h1, h2, h4, h3⟩ => ⟨h1, ⟨h2, h3⟩, h4⟩⟩

theorem mem_ite_pair {α : Type} {c : Prop} [Decidable c] {a e d : α} :
    a ∈ (if c then [e, d] else [e]) ↔ a = e ∨ c ∧ a = d := by
  split <;> simp [*]

theorem considered_eq (m : Mem) (root : Nat) (x : Bool) :
    considered m root x = (entries m root x).flatMap (visit m (rd m (root + hdrRevisionOff))) := rfl

theorem enumerateTables_ok (m : Mem) (root : Nat) (x : Bool) (h : tableOK m root = true) :
    enumerateTables m root x =
      (.ok, { tables := (considered m root x).foldl (register m) [],
              skipped := (considered m root x).filter (fun b => !tableOK m b),
              maps := hdrMaps m root ++ (considered m root x).flatMap (hdrMaps m) }) := by
  unfold enumerateTables mapACPITable
  simp only [h, Bool.not_true, Bool.false_eq_true, if_false]
  rw [foldl_stepEntry, considered_eq]
  simp [hdrMaps]

theorem lookup_tables (m : Mem) (root : Nat) (x : Bool) (h : tableOK m root = true) (s : Nat) :
    (enumerateTables m root x).2.tables.lookup s =
      (considered m root x).reverse.find? (fun a => tableOK m a && sigAt m a == s) := by
  rw [enumerateTables_ok m root x h]
  exact (lookup_foldl_register m _ [] s).trans (Option.or_none)

theorem lookup_tables_sound (m : Mem) (root : Nat) (x : Bool) (h : tableOK m root = true) {s a : Nat}
    (hf : (enumerateTables m root x).2.tables.lookup s = some a) :
    a ∈ considered m root x ∧ sigAt m a = s ∧ SumsToZero m a (lenAt m a) := by
  rw [lookup_tables m root x h] at hf
  have hp := List.find?_some hf
  simp only [Bool.and_eq_true, beq_iff_eq, tableOK_iff] at hp
  exact ⟨List.mem_reverse.1 (List.mem_of_find?_eq_some hf), hp.2, hp.1⟩

theorem lookup_tables_complete (m : Mem) (root : Nat) (x : Bool) (h : tableOK m root = true) {s a : Nat}
    (ha : a ∈ considered m root x) (hs : sigAt m a = s) (hok : SumsToZero m a (lenAt m a)) :
    ∃ b, (enumerateTables m root x).2.tables.lookup s = some b := by
  rw [lookup_tables m root x h, ← Option.isSome_iff_exists, List.find?_isSome]
  exact ⟨a, List.mem_reverse.2 ha, by simp [hs, (tableOK_iff m a).2 hok]⟩

theorem enumerateTables_bad (m : Mem) (root : Nat) (x : Bool) (h : tableOK m root = false) :
    enumerateTables m root x = (.checksumMismatch, { tables := [], skipped := [], maps := hdrMaps m root }) := by
  unfold enumerateTables mapACPITable
  simp [h, hdrMaps]

end Firefly.Acpi
