import Firefly.Proof.AmlFrames
/-!
One call level of the mutually recursive parser functions, read once for both modes: what the function does before and
after it calls the next one, stated for an arbitrary post `Q` with the callee's run as a hypothesis.  No invariant of
either walk occurs; a walk (`Proof/AmlStrict.lean`, `Proof/AmlSkipWalk.lean`) supplies its contract for the callee and
proves its post in each case from the facts listed.
-/
namespace Firefly.AmlParser.S
open Firefly.AmlLex Firefly.AmlTree Firefly.C13 Firefly.AmlParser Firefly.AmlParser.G Firefly.AmlParser.ST
open Firefly.Gen.C12

variable {T : Nat → Prop}

/-- `obj := newObject(op); obj.amlOffset = off`, then `k` -/
theorem newObjectAt_rs {d : Bytes} {β : Type} {g : Prop} {k : Nat → Unit → P β} {s : PState} (h : FP d s) (op off : Nat)
    (hsz : s.tree.pool.size < INV) (hinfo : InfoOK (pOpcodeTableIndex op true))
    {R : β → PState → Prop}
    (hk : ∀ n s', FP d s' → Fresh1 n s s' → (slot s'.tree n).opcode = op →
      (slot s'.tree n).infoIndex = pOpcodeTableIndex op true → Rs g (k n ()) s' R) :
    Rs g (newObject op >>= fun n => updObj n (fun o => { o with amlOffset := off }) >>= k n) s R := by
  obtain ⟨n, s1, s2, e1, _, e2, h2, f2, _, hop2, hinfo2, _⟩ := newObjectAt_step h op off hsz hinfo
  exact Rs.step e1 (Rs.step e2 (hk n s2 h2 f2 hop2 hinfo2))

theorem _root_.Firefly.AmlParser.G.RetOK.none {s s' : PState} : RetOK s s' none := fun _ h => nomatch h

theorem _root_.Firefly.AmlParser.G.Fresh1.retOK {n : Nat} {s s' : PState} (f : Fresh1 n s s') : RetOK s s' (some n) :=
  fun _ h => by cases h; exact ⟨f.nlive, f.liven, f.pn⟩

/-- what the callee did afterwards left the returned object detached -/
theorem _root_.Firefly.AmlParser.G.RetOK.grow {c : Nat} {a : Option Nat} {s s1 s2 : PState} (r : RetOK s s1 a) (g : SGrow T c s1 s2) :
    RetOK s s2 a :=
  fun x hx => have ⟨q1, q2, q3⟩ := r x hx; ⟨q1, g.oldLive _ q2, by rw [g.oldP _ q2]; exact q3⟩

/-- what `parseObjectArgs(n)` needs in either mode -/
structure ObjPre (d : Bytes) (s : PState) (n : Nat) : Prop where
  fp : FP d s
  lv : live s.tree n = true
  row : rowFacts (slot s.tree n).infoIndex = true
  att : Att s (slot s.tree n).infoIndex n
  bud : Bud d 14 s

/-- a new object `n` made for an opcode just read (the byte pays for it; `s1` is `1` object ahead of the reader state
`{ s with r := r' }`): `n` is ready for `parseObjectArgs` once it hangs somewhere or its row has no field list -/
theorem ObjPre.ofNew {d : Bytes} {s : PState} {r' : Reader} {n op k : Nat} {s1 : PState} (hb : Bud d k s)
    (h1 : FP d s1) (hlt : s.r.offset < r'.offset) (hi : r'.offset ≤ d.size) (g : SGrow T 1 { s with r := r' } s1)
    (hl : live s1.tree n = true) (hinfo : (slot s1.tree n).infoIndex = pOpcodeTableIndex op true)
    (hrow : rowFacts (pOpcodeTableIndex op true) = true)
    (hatt : C13.P s1.tree n ≠ INV ∨ noFL (pOpcodeTableIndex op true) = true) : ObjPre d s1 n :=
  ⟨h1, hl, by rw [hinfo]; exact hrow, hatt.imp id (fun q => by rw [hinfo]; exact q),
    (budS (hb.consume (s1 := { s with r := r' }) rfl hlt hi) g h1.inv.1 (by omega)).mono (by omega)⟩

theorem scopeCurrent_same {d : Bytes} {s s' : PState} (h' : FP d s') (hsc : s'.scopeStack = s.scopeStack)
    (hne : s.scopeStack.size ≠ 0) : scopeCurrent s' = .ok (some (topOf s), s') := by
  have := (scopeCurrent_top h' (by rw [hsc]; exact hne)).1
  rwa [show topOf s' = topOf s from by unfold topOf; rw [hsc]] at this

/-- a new object `n` (created from `s`, present in `s1`) was hung under `p` as its last argument, which gave `s2` -/
structure HungNew (T : Nat → Prop) (s s1 s2 : PState) (n p : Nat) : Prop where
  fresh : Fresh1 n s s1
  eq : s2 = { s1 with tree := s2.tree }
  spl : Spliced s1.tree s2.tree p n (La s1.tree p) INV
  sg : SGrow T 1 s s2

section
variable {s s1 s2 : PState} {n p : Nat} (k : HungNew T s s1 s2 n p)
include k
theorem HungNew.liven : live s2.tree n = true := by rw [k.spl.pay.live]; exact k.fresh.liven
theorem HungNew.par : C13.P s2.tree n = p := by rw [k.spl.p, if_pos rfl]
theorem HungNew.fin (hp : live s.tree p = true) : Fi s2.tree n = INV := by
  rw [k.spl.fi, if_neg (fun hq => k.fresh.ne hp hq.1.symm)]; exact k.fresh.fin
theorem HungNew.nx : Nx s2.tree n = INV := by rw [k.spl.nx, if_pos rfl]
theorem HungNew.la : La s2.tree p = n := k.spl.la_last
theorem HungNew.pay : Pay (slot s2.tree n) = Pay (slot s1.tree n) := k.spl.pay.pay n
theorem HungNew.scope : s2.scopeStack = s.scopeStack := by rw [k.eq]; exact k.fresh.scope
/-- `n` is the only new object -/
theorem HungNew.only (x : Nat) (h1 : live s.tree x = false) (h2 : live s2.tree x = true) : x = n :=
  Classical.byContradiction fun hx => by rw [k.spl.pay.live, k.fresh.livex x hx, h1] at h2; cases h2
theorem HungNew.eff : Eff T 1 0 s s2 :=
  ⟨k.sg, Stk.ofEq k.scope (by rw [k.eq]; exact k.fresh.pkg) k.sg.off⟩
end

theorem hang_step {d : Bytes} {s0 s : PState} {n p : Nat} (h0 : FP d s0) (h : FP d s) (f : Fresh1 n s0 s)
    (hp : live s0.tree p = true) (hT : T p) :
    ∃ s', tree (·.append p n) s = .ok ((), s') ∧ FP d s' ∧ HungNew T s0 s s' n p := by
  obtain ⟨s', e, h', hs', A, g⟩ := append_stepS h0.tree.wf h (SGrow.ofFresh1 f) hT hp f.nlive f.liven f.pn
  exact ⟨s', e, h', f, hs', A, g⟩

/-- `parseTarget()`: a name (a new name-path object), nothing (`Zero`, or no target opcode), or a new object for a target
opcode whose arguments `parseObjectArgs` reads -/
theorem parseTarget_rs {d : Bytes} (hd : d.size + 1024 ≤ 4294967296) {f : Nat} {g : Prop} {s : PState} (h : FP d s)
    (hb : Bud d 1 s) {Q : Option Nat × PRes → PState → Prop}
    (name : ∀ n s' res, FP d s' → Fresh1 n s s' → isK (slot s'.tree n).opcode = false → Q (some n, res) s')
    (none : ∀ r' res, FP d { s with r := r' } → s.r.offset < r'.offset → Q (none, res) { s with r := r' })
    (obj : ∀ r' n s1, FP d { s with r := r' } → s.r.offset < r'.offset → Fresh1 n { s with r := r' } s1 → ObjPre d s1 n →
      isTargetOp (slot s1.tree n).opcode = true →
      Rs g (parseObjectArgs d f n) s1 (fun res s' => Q (some n, res) s')) :
    Rs g (parseTarget d (f + 1)) s Q := by
  unfold parseTarget
  refine Rs.step (lex_offset_ex s) (Rs.lex (rel_nextOpcode d hd) h fun opr r2 h2 hR2 => ?_)
  rcases hR2 with ⟨hfail, _, hr2⟩ | ⟨hok, hbad, _, hlt, _⟩
  · -- a name: the reader is put back
    subst hr2
    rw [if_neg (by rw [hfail]; decide)]
    refine Rs.step (lex_setOffset_self h) ?_
    refine newObjectAt_rs h opIntNamePath _ hb.size_lt (infoOK_const (by decide)) ?_
    intro n s5 h5 f5 hop5 _
    obtain ⟨res, s6, e6, h6, hp6, _, _⟩ := setNameValue_tot hd h5 f5.liven
    exact Rs.step e6 (Rs.pure (name n s6 res h6 (f5.thenPay hp6) (hp6.notK (by rw [hop5]; decide))))
  · rw [if_pos hok]
    refine Rs.ite (fun _ => Rs.pure (none r2 _ h2 hlt)) fun _ => Rs.ite (fun htarget => ?_) fun _ => Rs.pure (none r2 _ h2 hlt)
    have htop := (isTargetOp_iff opr.1).1 htarget
    obtain ⟨hrow, hinfo, hnofl⟩ := op_facts hbad
    refine newObjectAt_rs h2 opr.1 _ ((hb.consume (s1 := { s with r := r2 }) rfl hlt h2.inv.1).mono (k' := 1) (by decide)).size_lt hinfo ?_
    intro n s4 h4 f4 hop4 hinfo4
    exact Rs.bind (obj r2 n s4 h2 hlt f4 (.ofNew hb h4 hlt h2.inv.1 (SGrow.ofFresh1 (T := fun _ => False) f4) f4.liven hinfo4 hrow (Or.inr (hnofl htop))) (by rw [hop4]; exact htop))
      id (fun res s5 q => Rs.pure q)

/-- `parseNextObject()`: a name, a `Noop`, or a new object for the opcode, hung under the innermost scope, whose arguments
`parseObjectArgs` reads -/
theorem parseNextObject_rs {d : Bytes} (hd : d.size + 1024 ≤ 4294967296) {f : Nat} {g : Prop} {s : PState} (h : FP d s)
    (hne : s.scopeStack.size ≠ 0) (hb : Bud d 0 s) {Q : PRes → PState → Prop}
    (name : Rs g (parseNamePathOrMethodCall d f) s Q)
    (noop : ∀ r', FP d { s with r := r' } → s.r.offset < r'.offset → Q .ok { s with r := r' })
    (obj : ∀ r' n s1 s2, FP d { s with r := r' } → s.r.offset < r'.offset → FP d s1 → HungNew (TTop s) { s with r := r' } s1 s2 n (topOf s) →
      ObjPre d s2 n → (slot s2.tree n).infoIndex = pOpcodeTableIndex (slot s2.tree n).opcode true →
      pOpcodeTableIndex (slot s2.tree n).opcode false ≠ badOpcode → (slot s1.tree n).name = (slot s.tree n).name →
      Rs g (parseObjectArgs d f n) s2 Q) :
    Rs g (parseNextObject d (f + 1)) s Q := by
  unfold parseNextObject
  refine Rs.step (lex_offset_ex s) (Rs.lex (rel_nextOpcode d hd) h fun opr r2 h2 hR2 => ?_)
  rcases hR2 with ⟨hfail, hop, hr2⟩ | ⟨hok, hbad, _, hlt, _⟩
  · subst hr2
    rw [if_neg (by rw [hop]; decide), if_pos hfail]
    exact name
  · refine Rs.ite (fun _ => Rs.pure (noop r2 h2 hlt)) fun _ => ?_
    rw [if_neg (by rw [hok]; decide)]
    obtain ⟨hrow, hinfo, _⟩ := op_facts hbad
    obtain ⟨n, s3, s4, e3, _, e4, h4, f4, _, hop4, hinfo4, _, hname, _⟩ := newObjectAt_step h2 opr.1 s.r.offset
      ((hb.consume (s1 := { s with r := r2 }) rfl hlt h2.inv.1).mono (k' := 1) (by decide)).size_lt hinfo
    refine Rs.step e3 (Rs.step e4 ?_)
    refine Rs.step (scopeCurrent_same h4 f4.scope hne) (Rs.step (derefP_some_ex _) ?_)
    obtain ⟨_, htopl, _⟩ := scopeCurrent_top h hne
    obtain ⟨s6, e6, h6, k⟩ := hang_step (T := TTop s) h2 h4 f4 htopl rfl
    have hop6 : (slot s6.tree n).opcode = opr.1 := by rw [pay_opcode k.pay]; exact hop4
    have hinfo6 : (slot s6.tree n).infoIndex = pOpcodeTableIndex opr.1 true := by rw [pay_info k.pay]; exact hinfo4
    exact Rs.step e6 (obj r2 n s4 s6 h2 hlt h4 k
      (.ofNew hb h6 hlt h2.inv.1 k.sg k.liven hinfo6 hrow (Or.inl (by rw [k.par]; exact live_ne_INV h.tree.wf.size_le htopl)))
      (by rw [hop6]; exact hinfo6) (by rw [hop6]; exact hbad) hname)

/-- `s2` is `s1` with the object `parseArg` returned (if any) appended to `curObj` -/
def ArgHung (curObj : Nat) (a : Option Nat) (s1 s2 : PState) : Prop :=
  match a with
  | none => s2 = s1
  | some x => s2 = { s1 with tree := s2.tree } ∧ Spliced s1.tree s2.tree curObj x (La s1.tree curObj) INV

theorem ArgHung.eq {curObj : Nat} {a : Option Nat} {s1 s2 : PState} (k : ArgHung curObj a s1 s2) : s2 = { s1 with tree := s2.tree } := by
  cases a with
  | none => cases k; rfl
  | some x => exact k.1

/-- what `parseArg(info, curObj, argType)` needs in either mode -/
structure ArgPre (d : Bytes) (s : PState) (info curObj argType : Nat) : Prop where
  fp : FP d s
  lv : live s.tree curObj = true
  ok : InfoOK info
  bud : Bud d 2 s
  fl : argType = argTypeFieldList → C13.P s.tree curObj ≠ INV ∧ live s.tree (La s.tree curObj) = true ∧
    ∃ v, (slot s.tree (La s.tree curObj)).value = .u64 v

/-- what `parseArgs(info, curObj)` from argument `j` needs in either mode -/
structure ArgsPre (d : Bytes) (s : PState) (info curObj j : Nat) : Prop where
  fp : FP d s
  lv : live s.tree curObj = true
  ok : InfoOK info
  row : rowFacts info = true
  le : j ≤ argCnt info
  bud : Bud d (2 * (7 - j)) s
  att : Att s info curObj
  prev : PrevOK s info curObj j

theorem ObjPre.args {d : Bytes} {s : PState} {n : Nat} (p : ObjPre d s n) : ArgsPre d s (slot s.tree n).infoIndex n 0 :=
  ⟨p.fp, p.lv, p.fp.tree.info n p.lv, p.row, Nat.zero_le _, p.bud, p.att, fun h0 => absurd h0 (by decide)⟩

/-- argument `j`: a checked row has a `FieldList` only behind a `ByteData`, under an attached object -/
theorem ArgsPre.arg {d : Bytes} {s : PState} {info curObj j : Nat} (p : ArgsPre d s info curObj j) (hlt : j < argCnt info) :
    ArgPre d s info curObj (argAt info j) := by
  have hcnt := rowFacts_cnt p.row
  have hj8 : j < 8 := by omega
  refine ⟨p.fp, p.lv, p.ok, p.bud.mono (by omega), fun hq => ?_⟩
  obtain ⟨q1, q2⟩ := rowFacts_fl p.row hj8 hq
  obtain ⟨q3, q4⟩ := p.prev q1 q2
  exact ⟨p.att.resolve_right (fun hno => noFL_at hno hj8 hq), q3, q4⟩

/-- the next argument: argument `j` used two of the objects budgeted for it, and what it returned (the value of a `ByteData`
for the `FieldList` behind it) is now the last argument of `curObj` -/
theorem ArgsPre.next {d : Bytes} {s s1 s2 : PState} {info curObj j : Nat} {a : Option Nat} (p : ArgsPre d s info curObj j)
    (hlt : j < argCnt info) (h2 : FP d s2) (g2 : SGrow (TCur s curObj) 2 s s2) (k : ArgHung curObj a s1 s2) (hr : RetOK s s1 a)
    (hbd : argAt info j = argTypeByteData → ∃ x v, a = some x ∧ (slot s1.tree x).value = .u64 v) :
    ArgsPre d s2 info curObj (j + 1) := by
  have := rowFacts_cnt p.row
  refine ⟨h2, g2.oldLive _ p.lv, p.ok, p.row, hlt, (budS p.bud g2 h2.inv.1 (by omega)).mono (by omega),
    by have := p.att; unfold Att at this ⊢; rw [g2.oldP _ p.lv]; exact this, fun _ hq => ?_⟩
  obtain ⟨x, v, hx, hv⟩ := hbd hq
  subst hx
  obtain ⟨_, q2, _⟩ := hr x rfl
  rw [k.2.la_last]
  exact ⟨by rw [k.2.pay.live]; exact q2, v, by rw [pay_value (k.2.pay.pay _)]; exact hv⟩

/-- the frame of argument `j` and the rest of the loop -/
theorem ArgsPre.comp {d : Bytes} {s s2 s3 : PState} {info curObj j : Nat} (p : ArgsPre d s info curObj j) (hlt : j < argCnt info)
    (g2 : SGrow (TCur s curObj) 2 s s2) (g3 : SGrow (TCur s2 curObj) (2 * (7 - (j + 1))) s2 s3) :
    SGrow (TCur s curObj) (2 * (7 - j)) s s3 := by
  have := rowFacts_cnt p.row
  have hT : TCur s2 curObj = TCur s curObj := by unfold TCur; rw [g2.oldP _ p.lv]
  rw [hT] at g3
  exact (show 2 + 2 * (7 - (j + 1)) = 2 * (7 - j) by omega) ▸ g2.trans g3

/-- `parseArgs(info, curObj)` from argument `j`: past the last argument, or `parseArg`, the `append` of what it returned,
and the rest of the loop if it reported `ok`.  `A` is the walk's contract of `parseArg`; `hA` reads off what the loop itself needs -/
theorem parseArgs_rs {d : Bytes} {f : Nat} {g : Prop} {s : PState} {info curObj j : Nat} (p : ArgsPre d s info curObj j)
    {A : Option Nat × PRes → PState → Prop} {Q : PRes → PState → Prop}
    (done : j = argCnt info → Q .ok s)
    (arg : j < argCnt info → ArgPre d s info curObj (argAt info j) → Rs g (parseArg d f info curObj (argAt info j)) s A)
    (hA : ∀ a s1, A a s1 → FP d s1 ∧ SGrow (TCur s curObj) 2 s s1 ∧ RetOK s s1 a.1 ∧
      (argAt info j = argTypeByteData → a.2 = .ok → ∃ x v, a.1 = some x ∧ (slot s1.tree x).value = .u64 v))
    (next : j < argCnt info → ∀ a1 a2 s1 s2, A (a1, a2) s1 → ArgHung curObj a1 s1 s2 → FP d s2 → SGrow (TCur s curObj) 2 s s2 →
      (a2 = .ok → ArgsPre d s2 info curObj (j + 1) → Rs g (parseArgs d f info curObj (j + 1)) s2 Q) ∧ (a2 ≠ .ok → Q a2 s2)) :
    Rs g (parseArgs d (f + 1) info curObj j) s Q := by
  unfold parseArgs
  rw [opArgCount_of_info p.ok]
  refine Rs.step (optP_ex _ s) (Rs.ite (fun hlt => ?_) fun hlt => Rs.pure (done (Nat.le_antisymm p.le (Nat.not_lt.1 hlt))))
  rw [opArg_of_info p.ok j]
  refine Rs.step (optP_ex _ s) (Rs.bind (arg hlt (p.arg hlt)) id ?_)
  intro ⟨a1, a2⟩ s1 pA
  obtain ⟨h1, g1, hret, hbd⟩ := hA _ _ pA
  have fin : ∀ s2, ArgHung curObj a1 s1 s2 → FP d s2 → SGrow (TCur s curObj) 2 s s2 →
      Rs g (if a2 = .ok then parseArgs d f info curObj (j + 1) else pure a2) s2 Q := fun s2 k h2 g2 =>
    have n := next hlt a1 a2 s1 s2 pA k h2 g2
    Rs.ite (fun hok => n.1 hok (p.next hlt h2 g2 k hret (fun hq => hbd hq hok))) fun hn => Rs.pure (n.2 hn)
  cases a1 with
  | none => exact fin s1 rfl h1 g1
  | some x =>
    obtain ⟨q1, q2, q3⟩ := hret x rfl
    obtain ⟨s2, e2, h2, hs2, A', g2⟩ := append_stepS p.fp.tree.wf h1 g1 (Or.inl rfl) p.lv q1 q2 q3
    exact Rs.step e2 (fin s2 ⟨hs2, A'⟩ h2 g2)

/-- `parseObjectArgs(curObj)`: a constant (only the payload of `curObj` changes; such an object is of no kind that the
invariants single out), or the arguments of its table row; `shortCircuit` is reported as `ok` -/
theorem parseObjectArgs_rs {d : Bytes} {f : Nat} {g : Prop} {s : PState} {curObj : Nat} (p : ObjPre d s curObj)
    {Q : PRes → PState → Prop}
    (const : ∀ res s', isK (slot s.tree curObj).opcode = false → FP d s' → PayOnly curObj s s' →
      Q (if res = .shortCircuit then .ok else res) s')
    (args : Rs g (parseArgs d f (slot s.tree curObj).infoIndex curObj 0) s
      (fun res s' => Q (if res = .shortCircuit then .ok else res) s')) :
    Rs g (parseObjectArgs d (f + 1) curObj) s Q := by
  have h := p.fp
  have hc := p.lv
  unfold parseObjectArgs
  refine Rs.step (getObj_live hc) ?_
  have num : ∀ n, isK (slot s.tree curObj).opcode = false →
      Rs g (setNumValue d curObj n >>= fun res => (pure (if res = PRes.shortCircuit then PRes.ok else res) : P PRes)) s Q :=
    fun n hk =>
      have ⟨_, _, e, h', hp, _, _⟩ := setNumValue_tot h hc n
      Rs.step e (Rs.pure (const _ _ hk h' hp))
  refine Rs.ite (fun h1 => num 1 (by rw [h1]; decide)) fun _ => Rs.ite (fun h2 => num 2 (by rw [h2]; decide)) fun _ =>
    Rs.ite (fun h4 => num 4 (by rw [h4]; decide)) fun _ => Rs.ite (fun h8 => num 8 (by rw [h8]; decide)) fun _ =>
    Rs.ite (fun hstr => ?_) fun _ => ?_
  · obtain ⟨_, _, e, h', hp, _, _⟩ := setStringValue_tot h hc
    exact Rs.step e (Rs.pure (const _ _ (by rw [hstr]; decide) h' hp))
  · obtain ⟨fl, hfl⟩ := opFlags_of_info (h.tree.info curObj hc)
    rw [hfl]
    exact Rs.step (optP_ex fl s) (Rs.bind args id fun res s' q => Rs.pure q)

end Firefly.AmlParser.S
