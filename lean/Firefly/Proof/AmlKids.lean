import Firefly.Proof.AmlFirstPassG
/-!
Child lists (`K t p` = `(C13.abs t).kids p` = what `ObjectTree.args` computes) through the steps of the parser:
creation of an object, payload updates, `append`; and `Grew`, what every step of the first pass keeps of the pool it found.
-/
namespace Firefly.AmlParser.F
open Firefly.AmlLex Firefly.AmlTree Firefly.C13 Firefly.AmlParser.G

theorem kids_sameLinks {t t' : ObjectTree} (w : WF t) (sl : SameLinks t t') {p : Nat} (hl : live t p = true) :
    K t' p = K t p :=
  kids_same w (wf_of_sameLinks w sl) (fun x h => by rw [sl.live]; exact h) hl (sl.fi p) (fun x _ _ => sl.nx x)

theorem fresh1_kids {n : Nat} {s s' : PState} (fr : Fresh1 n s s') (w : WF s.tree) (w' : WF s'.tree) :
    K s'.tree n = [] ∧ ∀ p, live s.tree p = true → K s'.tree p = K s.tree p := by
  exact ⟨(kids_nil_iff w' fr.liven).2 fr.fin, fun p hl => kids_fresh w w' fr.nlive fr.old fr.livex hl⟩

/-- the parts of the parser state a declaration in the first pass does not touch -/
structure SameRest (s s' : PState) : Prop where
  ab : s'.allBlocks = s.allBlocks
  th : s'.tableHandle = s.tableHandle
  sc : s'.scopeStack = s.scopeStack
  pk : s'.pkgEndStack = s.pkgEndStack
  se : s'.streamEnd = s.streamEnd

theorem SameRest.refl (s : PState) : SameRest s s := ⟨rfl, rfl, rfl, rfl, rfl⟩
theorem SameRest.trans {a b c : PState} (h1 : SameRest a b) (h2 : SameRest b c) : SameRest a c :=
  ⟨by rw [h2.ab, h1.ab], by rw [h2.th, h1.th], by rw [h2.sc, h1.sc], by rw [h2.pk, h1.pk], by rw [h2.se, h1.se]⟩
theorem fresh1_rest {n : Nat} {s s' : PState} (f : Fresh1 n s s') : SameRest s s' :=
  ⟨f.same.1, f.same.2.1, f.scope, f.pkg, f.same.2.2⟩
theorem SameRest.ofTree {s s1 : PState} (h : s1 = { s with tree := s1.tree }) : SameRest s s1 := by
  rw [h]; exact ⟨rfl, rfl, rfl, rfl, rfl⟩
theorem SameRest.ofR {s : PState} (r : Reader) : SameRest s { s with r := r } := ⟨rfl, rfl, rfl, rfl, rfl⟩
theorem payOnly_rest {n : Nat} {s s' : PState} (hp : PayOnly n s s') : SameRest s s' :=
  ⟨hp.same.1, hp.same.2.1, hp.scope, hp.pkg, hp.same.2.2⟩

theorem topOf_rest {s s' : PState} (h : SameRest s s') : S.topOf s' = S.topOf s := by unfold S.topOf; rw [h.sc]

theorem nodup_append_of_live {t : ObjectTree} {a b : List Nat} (ha : a.Nodup) (hb : b.Nodup) (la : ∀ y ∈ a, live t y = true)
    (lb : ∀ y ∈ b, live t y = false) : (a ++ b).Nodup :=
  List.nodup_append.2 ⟨ha, hb, fun x hx y hy e => by have := lb y hy; rw [← e, la x hx] at this; cases this⟩

def SameAt (t t' : ObjectTree) (y : Nat) : Prop :=
  live t' y = live t y ∧ Pay (slot t' y) = Pay (slot t y) ∧ C13.P t' y = C13.P t y ∧ K t' y = K t y

theorem SameAt.rfl' (t : ObjectTree) (y : Nat) : SameAt t t y := ⟨rfl, rfl, rfl, rfl⟩

theorem SameAt.trans {a b c : ObjectTree} {y : Nat} (h1 : SameAt a b y) (h2 : SameAt b c y) : SameAt a c y :=
  ⟨by rw [h2.1, h1.1], by rw [h2.2.1, h1.2.1], by rw [h2.2.2.1, h1.2.2.1], by rw [h2.2.2.2, h1.2.2.2]⟩

/-- `t'` is `t` plus new objects: every object of `t` is still there, under the same parent, with the same payload and the
same children, except that `top` got the new last children `add` -/
structure Grew (t t' : ObjectTree) (top : Nat) (add : List Nat) : Prop where
  lv : ∀ y, live t y = true → live t' y = true
  par : ∀ y, live t y = true → C13.P t' y = C13.P t y
  pay : ∀ y, live t y = true → Pay (slot t' y) = Pay (slot t y)
  kids : ∀ y, live t y = true → K t' y = if y = top then K t y ++ add else K t y

theorem Grew.refl (t : ObjectTree) (top : Nat) : Grew t t top [] :=
  ⟨fun _ h => h, fun _ _ => rfl, fun _ _ => rfl, fun y _ => by simp⟩

theorem Grew.trans {t t' t'' : ObjectTree} {top : Nat} {l l' : List Nat} (a : Grew t t' top l) (b : Grew t' t'' top l') :
    Grew t t'' top (l ++ l') :=
  ⟨fun y hy => b.lv y (a.lv y hy), fun y hy => by rw [b.par y (a.lv y hy), a.par y hy],
    fun y hy => by rw [b.pay y (a.lv y hy), a.pay y hy], fun y hy => by
      rw [b.kids y (a.lv y hy), a.kids y hy]
      by_cases h : y = top <;> simp [h]⟩

/-- children added below an object that is itself new do not show in the old pool -/
theorem Grew.inside {t t' t'' : ObjectTree} {top x : Nat} {l l' : List Nat} (a : Grew t t' top l) (b : Grew t' t'' x l')
    (hx : live t x = false) : Grew t t'' top l :=
  ⟨fun y hy => b.lv y (a.lv y hy), fun y hy => by rw [b.par y (a.lv y hy), a.par y hy],
    fun y hy => by rw [b.pay y (a.lv y hy), a.pay y hy], fun y hy => by
      have hyx : y ≠ x := fun e => by rw [e, hx] at hy; cases hy
      rw [b.kids y (a.lv y hy), if_neg hyx, a.kids y hy]⟩

theorem Grew.kids_top {t t' : ObjectTree} {top : Nat} {l : List Nat} (g : Grew t t' top l) (h : live t top = true) :
    K t' top = K t top ++ l := by rw [g.kids top h, if_pos rfl]

theorem Grew.kids_ne {t t' : ObjectTree} {top y : Nat} {l : List Nat} (g : Grew t t' top l) (hy : live t y = true) (hyt : y ≠ top) :
    K t' y = K t y := by rw [g.kids y hy, if_neg hyt]

theorem Grew.sameAt {t t' : ObjectTree} {top y : Nat} {l : List Nat} (g : Grew t t' top l) (hy : live t y = true) (hyt : y ≠ top) :
    SameAt t t' y := ⟨by rw [g.lv y hy, hy], g.pay y hy, g.par y hy, g.kids_ne hy hyt⟩

theorem Grew.not_live {t t' : ObjectTree} {top y : Nat} {l : List Nat} (g : Grew t t' top l) (hy : live t' y = false) :
    live t y = false := by
  cases hq : live t y with
  | false => rfl
  | true => rw [g.lv y hq] at hy; cases hy

theorem Grew.thenPay {t : ObjectTree} {s1 s2 : PState} {top n : Nat} {l : List Nat} (g : Grew t s1.tree top l) (w1 : WF s1.tree)
    (hp : PayOnly n s1 s2) (hn : live t n = false) : Grew t s2.tree top l :=
  ⟨fun y hy => by rw [hp.links.live]; exact g.lv y hy, fun y hy => by rw [hp.links.p]; exact g.par y hy,
    fun y hy => by rw [hp.others y (fun e => by rw [e, hn] at hy; cases hy)]; exact g.pay y hy,
    fun y hy => by rw [kids_sameLinks w1 hp.links (g.lv y hy)]; exact g.kids y hy⟩

/-- `s2` is `s1` with `n`, its one object that is not in `s`, appended to `obj` -/
structure Attached (s s1 s2 : PState) (obj n : Nat) : Prop where
  rest : SameRest s1 s2
  r : s2.r = s1.r
  size : s2.tree.pool.size = s1.tree.pool.size
  grew : Grew s.tree s2.tree obj [n]
  ln : live s2.tree n = true
  kn : K s2.tree n = []
  pn : C13.P s2.tree n = obj
  payn : Pay (slot s2.tree n) = Pay (slot s1.tree n)

/-- **a new object is appended to an old one**: `n` was created since `s` (in `s0`, whose pool `s1` still has) -/
theorem append_fresh {d : Bytes} {s s0 s1 : PState} {obj n : Nat} (w : WF s.tree) (fr : Fresh1 n s s0) (h1 : FP d s1)
    (ht : s1.tree = s0.tree) (ho : live s.tree obj = true) :
    ∃ s2, tree (·.append obj n) s1 = .ok ((), s2) ∧ FP d s2 ∧ Attached s s1 s2 obj n := by
  have hl1 : ∀ y, live s.tree y = true → live s1.tree y = true := fun y hy => by rw [ht, fr.livex y (fr.ne hy)]; exact hy
  have hs1 : ∀ y, live s.tree y = true → slot s1.tree y = slot s.tree y := fun y hy => by rw [ht, fr.old y (fr.ne hy)]
  obtain ⟨hk0n, hk0⟩ := fresh1_kids fr w (ht ▸ h1.tree.wf)
  obtain ⟨s2, e2, h2, hs2, A⟩ :=
    append_step h1 w (fun y hy => ⟨hl1 y hy, by show (slot s1.tree y).parentIndex = _; rw [hs1 y hy]; rfl⟩) ho fr.nlive
      (by rw [ht]; exact fr.liven) (by rw [ht]; exact fr.pn)
  have hsz2 := A.pay.size
  have sp2 := A.pay
  have hl2 := A.pay.live
  have hP2 := A.p
  have hK2 : ∀ p, live s1.tree p = true → K s2.tree p = if p = obj then K s1.tree obj ++ [n] else K s1.tree p :=
    A.kids_last h1.tree.wf h2.tree.wf
  have hn1 : live s1.tree n = true := by rw [ht]; exact fr.liven
  have hon : obj ≠ n := fr.ne ho
  refine ⟨s2, e2, h2, SameRest.ofTree hs2, by rw [hs2], hsz2, ⟨?_, ?_, ?_, ?_⟩, by rw [hl2]; exact hn1, ?_, by rw [hP2, if_pos rfl],
    sp2.pay n⟩
  · intro y hy; rw [hl2]; exact hl1 y hy
  · intro y hy
    rw [hP2, if_neg (fr.ne hy)]
    show (slot s1.tree y).parentIndex = _
    rw [hs1 y hy]; rfl
  · intro y hy; rw [sp2.pay y, hs1 y hy]
  · intro y hy
    rw [hK2 y (hl1 y hy), ht, hk0 y hy, hk0 obj ho]
    by_cases h : y = obj <;> simp [h]
  · rw [hK2 n hn1, if_neg (fun e => hon e.symm), ht]; exact hk0n

end Firefly.AmlParser.F
