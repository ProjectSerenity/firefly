import Firefly.Proof.VmmWindow
/-! The kernel's `walk` along a path of tables that are present, run symbolically, and the three operations that are
that walk with a callback: `Translate` (`translate_eq_hw`: the kernel's walk agrees with the hardware's), `Map` and `Unmap`, with the
algebra of page-table entries (`mkEntry`, `setFrame`, flags) they need. Everything here is at word level, under `Window` and `Path`. -/

namespace Firefly.Vmm
open Firefly.Gen.C04

/-- table address `walk` holds when it enters level `L` -/
def tableVA (va : W) : Nat → W
  | 0 => pdtVA
  | L + 1 => E va L <<< levelBits L

theorem tableVA_add (va : W) (L : Nat) : tableVA va L + (idxW va L <<< pointerShift) = E va L := by
  cases L <;> rfl

theorem walkFrom_step {σ : Type} (fn : Walker σ) (va : W) (L : Nat) (rest : List Nat) (a : σ) (st : St) (loc : Loc)
    (h : ptePtr st (E va L) = some loc) :
    walkFrom fn va (L :: rest) (tableVA va L) a st =
      match fn L (E va L) loc a st with
      | .error e => .error e
      | .ok ((false, a), st) => .ok (a, st)
      | .ok ((true, a), st) => walkFrom fn va rest (tableVA va (L + 1)) a st := by
  simp only [walkFrom]
  rw [show (tableVA va L + ((va >>> levelShift L) &&& (((1 : W) <<< levelBits L) - 1)) <<< pointerShift) = E va L
    from tableVA_add va L, h]
  rfl

theorem walkFrom_fault {σ : Type} (fn : Walker σ) (va : W) (L : Nat) (rest : List Nat) (a : σ) (st : St)
    (h : ptePtr st (E va L) = none) :
    walkFrom fn va (L :: rest) (tableVA va L) a st = .error .fault := by
  simp only [walkFrom]
  rw [show (tableVA va L + ((va >>> levelShift L) &&& (((1 : W) <<< levelBits L) - 1)) <<< pointerShift) = E va L
    from tableVA_add va L, h]

theorem walkFrom_at {σ : Type} {st : St} {R va : W} (hw : Window st R) (fn : Walker σ) {L : Nat} {T : W} (hL : L ≤ 3)
    (hc : Chain st.mem R va L T) (hb : st.mem.backed (frameN T) = true) (a : σ) :
    walkFrom fn va (lv L) (tableVA va L) a st =
      match fn L (E va L) (frameN T, kidx va L) a st with
      | .error e => .error e
      | .ok ((false, a), st) => .ok (a, st)
      | .ok ((true, a), st) => walkFrom fn va (lv (L + 1)) (tableVA va (L + 1)) a st := by
  rw [lv_cons L hL, walkFrom_step fn va L _ a st _ (ptePtr_E hw va L T hL hc hb)]

/-- **Skipping the present prefix.** A callback that lets `walk` pass present, non-huge upper-level
entries without touching the state (`P` is what it keeps true of its accumulator) reaches level `L`
of the path with the tables entered through the recursive window. -/
theorem walkFrom_chain {σ : Type} {st : St} {R va : W} (hw : Window st R) (fn : Walker σ) (P : σ → Prop)
    (hfn : ∀ L ea loc a, L < 3 → P a → st.rdLoc loc &&& 1#64 ≠ 0#64 → st.rdLoc loc &&& 128#64 = 0#64 →
      ∃ a', P a' ∧ fn L ea loc a st = .ok ((true, a'), st)) :
    ∀ (L : Nat) (T : W), L ≤ 3 → Chain st.mem R va L T → ∀ a, P a →
      ∃ a', P a' ∧ walk fn va a st = walkFrom fn va (lv L) (tableVA va L) a' st := by
  intro L
  induction L with
  | zero => intro T _ _ a ha; exact ⟨a, ha, rfl⟩
  | succ L ih =>
    intro T hL ⟨T0, hc, l⟩ a ha
    obtain ⟨a1, ha1, h1⟩ := ih T0 (by omega) hc a ha
    obtain ⟨a2, ha2, h2⟩ := hfn L (E va L) (frameN T0, kidx va L) a1 (by omega) ha1 l.present l.nohuge
    refine ⟨a2, ha2, ?_⟩
    rw [h1, walkFrom_at hw fn (by omega) hc l.backed, h2]

theorem walkFrom_chain_const {σ : Type} {st : St} {R va : W} (hw : Window st R) (fn : Walker σ) (a : σ)
    (hfn : ∀ L ea loc, L < 3 → st.rdLoc loc &&& 1#64 ≠ 0#64 → st.rdLoc loc &&& 128#64 = 0#64 →
      fn L ea loc a st = .ok ((true, a), st))
    (L : Nat) (T : W) (hL : L ≤ 3) (hc : Chain st.mem R va L T) :
    walk fn va a st = walkFrom fn va (lv L) (tableVA va L) a st := by
  obtain ⟨_, rfl, h⟩ := walkFrom_chain hw fn (· = a)
    (fun L ea loc a' hL ha hp hh => ⟨a, rfl, ha ▸ hfn L ea loc hL hp hh⟩) L T hL hc a rfl
  exact h

/-- **Where the walk ends.**  A callback that passes present upper-level entries untouched (`hfn`) is run on
the level-`L` entry of the path, and the walk ends there with the callback's answer if the callback says
stop or `L` is the leaf level. -/
theorem walk_reach {σ : Type} {st : St} {R va : W} (hw : Window st R) (fn : Walker σ) (a : σ)
    (hfn : ∀ L ea loc, L < 3 → st.rdLoc loc &&& 1#64 ≠ 0#64 → st.rdLoc loc &&& 128#64 = 0#64 →
      fn L ea loc a st = .ok ((true, a), st))
    {L : Nat} {T : W} (hL : L ≤ 3) (hc : Chain st.mem R va L T) (hb : st.mem.backed (frameN T) = true)
    {b : Bool} {r : σ} {st' : St} (hcb : fn L (E va L) (frameN T, kidx va L) a st = .ok ((b, r), st'))
    (hend : b = false ∨ L = 3) : walk fn va a st = .ok (r, st') := by
  rw [walkFrom_chain_const hw fn a hfn L T hL hc, walkFrom_at hw fn hL hc hb, hcb]
  rcases hend with rfl | rfl
  · rfl
  · cases b <;> rfl

theorem and_one_cases (e : W) : e &&& 1#64 = 0#64 ∨ e &&& 1#64 = 1#64 := by
  rw [show (1#64 : W) = BitVec.twoPow 64 0 from rfl, BitVec.and_twoPow]; split <;> simp

theorem hasFlags_bit (e : W) {i : Nat} (hi : i < 64) :
    hasFlags e (BitVec.twoPow 64 i) = true ↔ e &&& BitVec.twoPow 64 i ≠ 0#64 := by
  have hne := Firefly.Bits.twoPow_ne_zero hi
  rw [hasFlags, BitVec.and_twoPow]
  split <;> simp [hne, hne.symm]

theorem hasFlags_present (e : W) : hasFlags e fPresent = true ↔ e &&& 1#64 ≠ 0#64 := hasFlags_bit e (i := 0) (by decide)
theorem hasFlags_huge (e : W) : hasFlags e fHuge = true ↔ e &&& 128#64 ≠ 0#64 := hasFlags_bit e (i := 7) (by decide)

theorem hasFlags_present_false {e : W} (h : e &&& 1#64 = 0#64) : hasFlags e fPresent = false := by
  cases hf : hasFlags e fPresent
  · rfl
  · exact absurd h ((hasFlags_present _).1 hf)

theorem hasFlags_huge_false {e : W} (h : e &&& 128#64 = 0#64) : hasFlags e fHuge = false := by
  cases hf : hasFlags e fHuge
  · rfl
  · exact absurd h ((hasFlags_huge _).1 hf)

/-- every table reached on the path of `va` is RAM and no upper-level entry has the huge-page bit -/
def Sane (m : Mem) (R va : W) : Prop :=
  ∀ L T, L ≤ 3 → Chain m R va L T →
    m.backed (frameN T) = true ∧ (L < 3 → m.rd (frameN T) (kidx va L) &&& 128#64 = 0#64)

theorem resolve {m : Mem} {R va : W} (hs : Sane m R va) :
    (∃ L T, L ≤ 3 ∧ Chain m R va L T ∧ m.rd (frameN T) (kidx va L) &&& 1#64 = 0#64) ∨
    (∃ T, Chain m R va 3 T ∧ m.rd (frameN T) (kidx va 3) &&& 1#64 ≠ 0#64) := by
  refine Chain.down (P := fun _ _ => _) (fun T hc => ?_) (fun L T hL hc ih => ?_) (Nat.zero_le 3) (show Chain m R va 0 R from rfl)
  · by_cases hp : m.rd (frameN T) (kidx va 3) &&& 1#64 = 0#64
    · exact Or.inl ⟨3, T, by omega, hc, hp⟩
    · exact Or.inr ⟨T, hc, hp⟩
  · by_cases hp : m.rd (frameN T) (kidx va L) &&& 1#64 = 0#64
    · exact Or.inl ⟨L, T, by omega, hc, hp⟩
    · obtain ⟨hb, hh⟩ := hs L T (by omega) hc
      exact ih _ ⟨hb, hp, hh hL, rfl⟩

theorem resolve_upper {m : Mem} {R va : W} (hs : Sane m R va) :
    (∃ L T, L < 3 ∧ Chain m R va L T ∧ m.rd (frameN T) (kidx va L) &&& 1#64 = 0#64) ∨ (∃ T, Chain m R va 3 T) := by
  rcases resolve hs with ⟨L, T, hL, hc, hp⟩ | ⟨T, hc, _⟩
  · by_cases h : L < 3
    · exact Or.inl ⟨L, T, h, hc, hp⟩
    · obtain rfl : L = 3 := by omega
      exact Or.inr ⟨T, hc⟩
  · exact Or.inr ⟨T, hc⟩

theorem frameAddr_frameOf (e : W) : frameAddr (frameOf e) = e &&& hwMask := by
  apply BitVec.eq_of_toNat_eq
  have h := and_hwMask_toNat e
  have := e.isLt
  simp only [frameAddr, frameOf, physMask_eq, pageShift, Firefly.Bits.toNat_shl, Firefly.Bits.toNat_shr, h]
  omega

theorem pageOffset_eq (va : W) : pageOffset va = va &&& 0xfff#64 := by
  have : (((1 : W) <<< levelShift (pageLevels - 1)) - 1) = 0xfff#64 := by decide
  unfold pageOffset; rw [this]

theorem pteCb_present {L : Nat} {ea : W} {loc : Loc} {acc : Option Loc × Nat} {st : St}
    (h : st.rdLoc loc &&& 1#64 ≠ 0#64) : pteCb L ea loc acc st = .ok ((true, (some loc, acc.2)), st) := by
  simp [pteCb, (hasFlags_present (st.rdLoc loc)).2 h]

theorem pteCb_absent {L : Nat} {ea : W} {loc : Loc} {acc : Option Loc × Nat} {st : St}
    (h : st.rdLoc loc &&& 1#64 = 0#64) : pteCb L ea loc acc st = .ok ((false, (none, eInvalidMapping)), st) := by
  simp [pteCb, hasFlags_present_false h]

/-- `Translate` through the recursive window returns exactly what the hardware walk from `R` finds -/
theorem translate_eq_hw {st : St} {R : W} (hw : Window st R) (va : W) (hs : Sane st.mem R va) :
    translate st va =
      .ok ((match mmuWalk st.mem va [39, 30, 21, 12] R with
            | some pa => (0, pa)
            | none => (eInvalidMapping, 0)), st) := by
  have hwalk := walkFrom_chain hw pteCb (fun a => a.2 = 0) (va := va)
    (fun L ea loc a _ ha hp _ => ⟨(some loc, a.2), ha, pteCb_present hp⟩)
  unfold translate
  rcases resolve hs with ⟨L, T, hL, hc, hp⟩ | ⟨T, hc, hp⟩
  · obtain ⟨a, _, h⟩ := hwalk L T hL hc (none, 0) rfl
    rw [h, walkFrom_at hw _ hL hc (hs L T hL hc).1, pteCb_absent (by exact hp), mmuWalk_absent_at hL hc hp]
    rfl
  · have hb := (hs 3 T (by omega) hc).1
    obtain ⟨a, ha, h⟩ := hwalk 3 T (by omega) hc (none, 0) rfl
    rw [h, walkFrom_at hw _ (by omega) hc hb, pteCb_present (by exact hp), mmuWalk_leaf_at hc hb hp]
    simp only [Nat.reduceAdd, lv_four, walkFrom, ha, ne_eq, not_true_eq_false, if_false, St.rdLoc, frameAddr_frameOf, pageOffset_eq]

theorem mkEntry_eq (f fl : W) : mkEntry f fl = (f <<< 12) ||| fl := by
  simp [mkEntry, setFlags, setFrame, frameAddr, pageShift]

/-- flags that stay out of the frame field, frame numbers that fit it -/
def FlagsOK (fl : W) : Prop := fl &&& hwMask = 0#64
def FrameOK (f : W) : Prop := f.toNat < 2 ^ 40

theorem shl12_toNat {f : W} (hf : FrameOK f) : (f <<< 12).toNat = f.toNat * 4096 := by
  unfold FrameOK at hf
  rw [Firefly.Bits.toNat_shl, Nat.mod_eq_of_lt (by omega)]

theorem frameN_shl12 {f : W} (hf : FrameOK f) : frameN (f <<< 12) = f.toNat := by
  rw [frameN, Firefly.Bits.toNat_shr, shl12_toNat hf, Nat.mul_div_cancel _ (by decide)]

theorem shl12_and_hwMask {f : W} (hf : FrameOK f) : (f <<< 12) &&& hwMask = f <<< 12 := by
  apply BitVec.eq_of_toNat_eq
  have h := shl12_toNat hf
  unfold FrameOK at hf
  rw [and_hwMask_toNat, h, Nat.mod_eq_of_lt (by omega), Nat.mul_div_cancel _ (by decide)]

theorem shl12_inj {a b : W} (ha : FrameOK a) (hb : FrameOK b) (h : a <<< 12 = b <<< 12) : a = b := by
  apply BitVec.eq_of_toNat_eq
  have := congrArg BitVec.toNat h
  rw [shl12_toNat ha, shl12_toNat hb] at this
  exact Nat.eq_of_mul_eq_mul_right (by decide) this

theorem mkEntry_frame {f fl : W} (hf : FrameOK f) (hfl : FlagsOK fl) : mkEntry f fl &&& hwMask = f <<< 12 := by
  rw [mkEntry_eq, BitVec.and_or_distrib_right, shl12_and_hwMask hf, hfl]; simp

theorem shl12_and_low {f : W} (k : W) (hk : k.toNat < 4096) : (f <<< 12) &&& k = 0#64 := by
  rw [← Firefly.Bits.lowmask_and (k := 12) hk, ← BitVec.and_assoc, Firefly.Bits.shl_and_lowmask, BitVec.zero_and]

theorem mkEntry_low {f fl : W} (k : W) (hk : k.toNat < 4096) : mkEntry f fl &&& k = fl &&& k := by
  rw [mkEntry_eq, BitVec.and_or_distrib_right, shl12_and_low k hk]; simp

theorem pageOf_toNat (x : W) : (pageOf x).toNat = x.toNat / 4096 := by
  unfold pageOf
  rw [show pageSizeW - 1 = 4096#64 - 1 by decide, show pageShift = 12 from rfl, Firefly.Bits.toNat_shr,
    Firefly.Bits.toNat_and_mask12, Nat.mul_div_cancel _ (by decide)]

theorem pageAddr_low (p : W) : pageAddr p &&& 0xfff#64 = 0#64 := shl12_and_low _ (by decide)

theorem tempVA_page : pageAddr (pageOf tempVA) = tempVA := by decide

theorem flagsOK_prw : FlagsOK (fPresent ||| fRW) := by unfold FlagsOK; decide

theorem mkEntry_prw_present (f : W) : mkEntry f (fPresent ||| fRW) &&& 1#64 ≠ 0#64 := by
  rw [mkEntry_low 1#64 (by decide)]; decide

theorem Link.of_mkEntry {m : Mem} {T f : W} {i : Nat} (hb : m.backed (frameN T) = true) (hf : FrameOK f)
    (h : m.rd (frameN T) i = mkEntry f (fPresent ||| fRW)) : Link m T i (f <<< 12) := by
  refine ⟨hb, ?_, ?_, ?_⟩ <;> rw [h]
  · exact mkEntry_prw_present f
  · rw [mkEntry_low 128#64 (by decide)]; decide
  · exact mkEntry_frame hf flagsOK_prw

theorem clearFlags_present_low (e : W) : clearFlags e fPresent &&& 1#64 = 0#64 := by
  rw [clearFlags, show fPresent = 1#64 by decide, BitVec.and_assoc, show ~~~1#64 &&& 1#64 = 0#64 by decide, BitVec.and_zero]

theorem mapCb_present {page frame flags ea : W} {L : Nat} (hL : L < 3) {loc : Loc} {err : Nat} {st : St}
    (hp : st.rdLoc loc &&& 1#64 ≠ 0#64) (hh : st.rdLoc loc &&& 128#64 = 0#64) :
    mapCb page frame flags L ea loc err st = .ok ((true, err), st) := by
  have h1 : ¬ L = pageLevels - 1 := by simp [pageLevels]; omega
  simp [mapCb, h1, hasFlags_huge_false hh, (hasFlags_present _).2 hp]

theorem mapCb_leaf {page frame flags ea : W} {loc : Loc} {err : Nat} {st : St} :
    mapCb page frame flags 3 ea loc err st =
      .ok ((true, err), (st.wrLoc loc (mkEntry frame flags)).flush (pageAddr page)) := by
  simp [mapCb, pageLevels]

theorem unmapCb_present {page ea : W} {L : Nat} (hL : L < 3) {loc : Loc} {err : Nat} {st : St}
    (hp : st.rdLoc loc &&& 1#64 ≠ 0#64) (hh : st.rdLoc loc &&& 128#64 = 0#64) :
    unmapCb page L ea loc err st = .ok ((true, err), st) := by
  have h1 : ¬ L = pageLevels - 1 := by simp [pageLevels]; omega
  simp [unmapCb, h1, hasFlags_huge_false hh, (hasFlags_present _).2 hp]

theorem unmapCb_absent {page ea : W} {L : Nat} (hL : L < 3) {loc : Loc} {err : Nat} {st : St}
    (hp : st.rdLoc loc &&& 1#64 = 0#64) :
    unmapCb page L ea loc err st = .ok ((false, eInvalidMapping), st) := by
  have h1 : ¬ L = pageLevels - 1 := by simp [pageLevels]; omega
  simp [unmapCb, h1, hasFlags_present_false hp]

theorem unmapCb_leaf {page ea : W} {loc : Loc} {err : Nat} {st : St} :
    unmapCb page 3 ea loc err st =
      .ok ((true, err), (st.wrLoc loc (clearFlags (st.rdLoc loc) fPresent)).flush (pageAddr page)) := by
  simp [unmapCb, pageLevels]

theorem mapOp_unguarded {st : St} {page frame flags : W}
    (hg : (st.protect && frame == st.zeroFrame && (flags &&& fRW) != 0) = false) :
    mapOp st page frame flags = walk (mapCb page frame flags) (pageAddr page) 0 st := by
  unfold mapOp; rw [hg]; rfl

/-- `Map` on a page whose three upper levels exist: exactly one word of memory changes (the leaf
entry becomes `frame<<12 | flags`), the page's address is flushed, nothing is allocated. -/
theorem mapOp_present {st : St} {R T1 T2 T3 : W} (page frame flags : W) (hw : Window st R)
    (p : Path st.mem R (pageAddr page) T1 T2 T3)
    (hg : (st.protect && frame == st.zeroFrame && (flags &&& fRW) != 0) = false) :
    mapOp st page frame flags =
      .ok (0, (st.wrLoc (frameN T3, kidx (pageAddr page) 3) (mkEntry frame flags)).flush (pageAddr page)) := by
  rw [mapOp_unguarded hg]
  exact walk_reach hw _ 0 (fun _ _ _ hL hp hh => mapCb_present hL hp hh) (by omega) p.chain3 p.b3 mapCb_leaf (Or.inr rfl)

/-- `Unmap` on a page whose three upper levels exist clears the present bit of the leaf entry -/
theorem unmapOp_present {st : St} {R T1 T2 T3 : W} (page : W) (hw : Window st R)
    (p : Path st.mem R (pageAddr page) T1 T2 T3) :
    unmapOp st page =
      .ok (0, (st.wrLoc (frameN T3, kidx (pageAddr page) 3)
        (clearFlags (st.mem.rd (frameN T3) (kidx (pageAddr page) 3)) fPresent)).flush (pageAddr page)) :=
  walk_reach hw _ 0 (fun _ _ _ hL hp hh => unmapCb_present hL hp hh) (by omega) p.chain3 p.b3 unmapCb_leaf (Or.inr rfl)

/-- `Map` called on each (page, frame) of a list in order, stopping at the first error -/
def seqMap (flags : W) : List (W × W) → St → R Nat
  | [], st => .ok (0, st)
  | (p, f) :: rest, st =>
    match mapOp st p f flags with
    | .error e => .error e
    | .ok (err, st) => if err ≠ 0 then .ok (err, st) else seqMap flags rest st

/-- `n` consecutive pages from `page` paired with `n` consecutive frames from `frame` -/
def run (page frame : W) : Nat → List (W × W)
  | 0 => []
  | n + 1 => (page, frame) :: run (page + 1) (frame + 1) n

theorem mapLoop_eq_seqMap (flags : W) (n : Nat) (page frame : W) (st : St) :
    mapLoop flags n page frame st = seqMap flags (run page frame n) st := by
  induction n generalizing page frame st with
  | zero => rfl
  | succ n ih =>
    simp only [mapLoop, run, seqMap]
    cases mapOp st page frame flags with
    | error e => rfl
    | ok r => obtain ⟨err, st'⟩ := r; simp only [ih]

theorem run_get (page frame : W) (n i : Nat) (hi : i < n) :
    (run page frame n)[i]? = some (page + BitVec.ofNat 64 i, frame + BitVec.ofNat 64 i) := by
  induction n generalizing page frame i with
  | zero => omega
  | succ n ih =>
    cases i with
    | zero => simp [run]
    | succ i =>
      simp only [run, List.getElem?_cons_succ]
      rw [ih _ _ i (by omega)]
      have : ∀ x : W, x + 1 + BitVec.ofNat 64 i = x + BitVec.ofNat 64 (i + 1) := by
        intro x; apply BitVec.eq_of_toNat_eq; simp [BitVec.toNat_add, BitVec.toNat_ofNat]; omega
      rw [this, this]

theorem run_length (page frame : W) (n : Nat) : (run page frame n).length = n := by
  induction n generalizing page frame with
  | zero => rfl
  | succ n ih => simp [run, ih]

theorem roundUp_pages (size : W) (h : roundWraps size = false) :
    (roundUp size >>> pageShift).toNat = (size.toNat + 4095) / 4096 := by
  have hp : pageSizeW = 4096#64 := rfl
  rw [roundWraps, decide_eq_false_iff_not, hp] at h
  rw [show pageShift = 12 from rfl, Firefly.Bits.toNat_shr, roundUp, hp, Firefly.Bits.toNat_roundUp12 size h]
  exact Nat.mul_div_cancel _ (by decide)

theorem setFrame_and_low (e f k : W) (hk : k.toNat < 4096) : setFrame e f &&& k = e &&& k := by
  -- `k` lies in the low twelve bits, which the frame field leaves alone
  have hM : ~~~physMask &&& k = k := by
    rw [← Firefly.Bits.lowmask_and (k := 12) hk, ← BitVec.and_assoc,
      show ~~~physMask &&& BitVec.ofNat 64 (2 ^ 12 - 1) = BitVec.ofNat 64 (2 ^ 12 - 1) by decide]
  unfold setFrame frameAddr
  rw [BitVec.and_or_distrib_right, BitVec.and_assoc, hM]
  have : pageShift = 12 := rfl
  rw [this, shl12_and_low k hk]; simp

theorem setFrame_frame (e : W) {f : W} (hf : FrameOK f) : setFrame e f &&& hwMask = f <<< 12 := by
  have h0 : ~~~physMask &&& hwMask = 0#64 := by decide
  unfold setFrame frameAddr
  rw [BitVec.and_or_distrib_right, BitVec.and_assoc, h0]
  have : pageShift = 12 := rfl
  rw [this, shl12_and_hwMask hf]; simp

theorem Link.of_setFrame {m : Mem} {T e f : W} {i : Nat} (hb : m.backed (frameN T) = true) (hf : FrameOK f)
    (h : m.rd (frameN T) i = Vmm.setFrame e f) (hp : e &&& 1#64 ≠ 0#64) (hh : e &&& 128#64 = 0#64) : Link m T i (f <<< 12) := by
  refine ⟨hb, ?_, ?_, ?_⟩ <;> rw [h]
  · rw [setFrame_and_low _ _ _ (by decide)]; exact hp
  · rw [setFrame_and_low _ _ _ (by decide)]; exact hh
  · exact setFrame_frame e hf

theorem setFrame_restore {e p a : W} (hp : FrameOK p) (he : e &&& hwMask = a <<< 12) :
    setFrame (setFrame e p) a = e := by
  have hp' := shl12_and_hwMask hp
  unfold setFrame frameAddr
  have : pageShift = 12 := rfl
  rw [this, physMask_eq, ← he, ← hp']
  ext i hi
  simp only [BitVec.getElem_and, BitVec.getElem_or, BitVec.getElem_not]
  cases e[i] <;> cases hwMask[i] <;> cases (p <<< 12)[i] <;> rfl

theorem physLoc_last {st : St} {A : W} (hA : FrameOK A) (hb : st.mem.backed A.toNat = true) :
    physLoc st (frameAddr A + lastEntryOff) = some (A.toNat, 511) := by
  have h := physLoc_table (st := st) (T := A <<< 12) (off := lastEntryOff) (i := 511)
    (by rw [shl12_toNat hA]; exact Nat.mul_mod_left _ _) (by rw [frameN_shl12 hA]; exact hb) (by decide) (by omega)
  rwa [frameN_shl12 hA] at h

end Firefly.Vmm
