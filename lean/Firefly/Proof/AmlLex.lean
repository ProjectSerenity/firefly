import Firefly.Model.AmlLex
import Firefly.Proof.Bits
/-! Lemmas about the AML stream reader and lexical decoders (`Model/AmlLex.lean`).  One Hoare rule per reader
primitive (`wp_*`: from `r` the action returns normally with a result and reader satisfying `post`) and one
specification per decoder, proved with these rules; `Safe` (returns normally, stays inside the table) and the
relational form `LexRel` are read off from them.  The name and opcode decoders compute offsets in `uint32`: their
specifications have the form `Inv d r' ∧ (d.size + 1024 ≤ 2^32 → …)`, so that `Safe`, which needs no bound on the table,
is read off from the same walk.  The exact runs on encoded input are in `Proof/AmlReads.lean`. -/
namespace Firefly.AmlLex
open Firefly.AmlTree (Res Err)

theorem u32_id {n : Nat} (h : n < 4294967296) : u32 n = n := Nat.mod_eq_of_lt h

/-- `uint32(a - b)` as the model writes it does not wrap when `b ≤ a` -/
theorem u32_sub {a b : Nat} (hb : b ≤ a) (ha : a < 4294967296) : u32 (a + 4294967296 - b) = a - b :=
  Bits.wrap_sub hb ha

/-- the reader window lies inside the table -/
def Inv (d : Bytes) (r : Reader) : Prop := r.offset ≤ d.size ∧ r.pkgEnd ≤ d.size

theorem inv_init (d : Bytes) (off : Nat) : Inv d (Reader.init d off) := by
  refine ⟨?_, Nat.le_refl _⟩
  show (if off > d.size then d.size else off) ≤ d.size
  split <;> omega

structure Safe (d : Bytes) (x : LexM α) : Prop where
  run : ∀ r, Inv d r → ∃ a r', x r = .ok (a, r') ∧ Inv d r'

def wp (x : LexM α) (post : α → Reader → Prop) (r : Reader) : Prop :=
  ∃ a r', x r = .ok (a, r') ∧ post a r'

theorem wp_pure {post : α → Reader → Prop} {a : α} {r : Reader} (h : post a r) : wp (pure a : LexM α) post r :=
  ⟨a, r, rfl, h⟩

/-- `>>=` of a state monad over `Res`, for any state type: the run lemmas of the parser monad use this and the next two as
well as those of the reader -/
theorem bind_run {σ α β : Type} {x : StateT σ Res α} {f : α → StateT σ Res β} {s s1 : σ} {a : α} (e : x s = .ok (a, s1)) :
    (x >>= f) s = f a s1 := by
  show (StateT.bind x f) s = _
  simp only [StateT.bind, e]
  rfl

theorem bind_err {σ α β : Type} {x : StateT σ Res α} {f : α → StateT σ Res β} {s : σ} {err : Err} (e : x s = .error err) :
    (x >>= f) s = .error err := by
  show (StateT.bind x f) s = _
  simp only [StateT.bind, e]
  rfl

theorem bind_ok {σ α β : Type} {x : StateT σ Res α} {f : α → StateT σ Res β} {s s' : σ} {b : β}
    (e : (x >>= f) s = .ok (b, s')) : ∃ a s1, x s = .ok (a, s1) ∧ f a s1 = .ok (b, s') := by
  have e' : (StateT.bind x f) s = .ok (b, s') := e
  simp only [StateT.bind] at e'
  cases hx : x s with
  | error err => rw [hx] at e'; cases e'
  | ok as => obtain ⟨a, s1⟩ := as; rw [hx] at e'; exact ⟨a, s1, rfl, e'⟩

theorem wp_bind {x : LexM α} {f : α → LexM β} {post : β → Reader → Prop} {r : Reader}
    (h : wp x (fun a r' => wp (f a) post r') r) : wp (x >>= f) post r :=
  let ⟨_, _, e1, b, r2, e2, hp⟩ := h
  ⟨b, r2, (bind_run e1).trans e2, hp⟩

theorem wp_mono {x : LexM α} {p q : α → Reader → Prop} {r : Reader} (h : wp x p r)
    (hpq : ∀ a r', p a r' → q a r') : wp x q r := by
  obtain ⟨a, r', e, hp⟩ := h
  exact ⟨a, r', e, hpq _ _ hp⟩

theorem wp_ite {c : Prop} [Decidable c] {x y : LexM α} {post : α → Reader → Prop} {r : Reader}
    (hx : c → wp x post r) (hy : ¬ c → wp y post r) : wp (if c then x else y) post r := by
  split
  · exact hx ‹_›
  · exact hy ‹_›

def LexRel {α : Type} (d : Bytes) (x : LexM α) (R : Reader → α → Reader → Prop) : Prop :=
  ∀ r, Inv d r → ∃ a r', x r = .ok (a, r') ∧ Inv d r' ∧ R r a r'

/-- what the parser has to know of a decoder it calls, whether the run is one `LexRel` promises or the one `Reads` computes -/
structure Runs {α : Type} (d : Bytes) (x : LexM α) (r : Reader) (a : α) (r' : Reader) : Prop where
  run : x r = .ok (a, r')
  inv : Inv d r'
  pkgEnd : r'.pkgEnd = r.pkgEnd
  fwd : r.offset ≤ r'.offset

theorem LexRel.safe {α : Type} {d : Bytes} {x : LexM α} {R : Reader → α → Reader → Prop} (h : LexRel d x R) :
    Safe d x :=
  ⟨fun r hr => let ⟨a, r', e, hi, _⟩ := h r hr; ⟨a, r', e, hi⟩⟩

theorem Safe.pure {d : Bytes} {a : α} : Safe d (pure a : LexM α) := ⟨fun _ h => wp_pure h⟩

theorem Safe.bind {d : Bytes} {x : LexM α} {f : α → LexM β} (hx : Safe d x) (hf : ∀ a, Safe d (f a)) :
    Safe d (x >>= f) :=
  ⟨fun r h => wp_bind (wp_mono (hx.run r h) fun a _ h1 => (hf a).run _ h1)⟩

theorem Safe.map {d : Bytes} {x : LexM α} (g : α → β) (hx : Safe d x) : Safe d (g <$> x) := by
  constructor
  intro r h
  obtain ⟨a, r1, e1, h1⟩ := hx.run r h
  refine ⟨g a, r1, ?_, h1⟩
  show (StateT.map g x) r = _
  simp only [StateT.map, e1]
  rfl

theorem Safe.ite {d : Bytes} {c : Prop} [Decidable c] {x y : LexM α} (hx : Safe d x) (hy : Safe d y) :
    Safe d (if c then x else y) := by
  split
  · exact hx
  · exact hy

theorem Reader.eof_iff {r : Reader} : r.eof = true ↔ r.pkgEnd ≤ r.offset := decide_eq_true_iff

theorem Reader.not_eof {r : Reader} (h : r.offset < r.pkgEnd) : r.eof = false := decide_eq_false (Nat.not_le.2 h)

theorem Inv.succ {d : Bytes} {r : Reader} (h : Inv d r) (hlt : r.offset < r.pkgEnd) :
    Inv d { r with offset := r.offset + 1 } :=
  ⟨by show r.offset + 1 ≤ d.size; have := h.2; omega, h.2⟩

theorem Inv.setOffset {d : Bytes} {r : Reader} (h : Inv d r) (off : Nat) :
    Inv d { r with offset := if off > d.size then d.size else off } :=
  ⟨by show (if off > d.size then d.size else off) ≤ d.size; split <;> omega, h.2⟩

/-- `SetOffset(r0.offset)` from a reader of the same package puts `r0` back -/
theorem Reader.back {d : Bytes} {r0 r : Reader} (h0 : Inv d r0) (hp : r.pkgEnd = r0.pkgEnd) :
    ({ r with offset := if r0.offset > d.size then d.size else r0.offset } : Reader) = r0 := by
  rw [if_neg (Nat.not_lt.2 h0.1)]
  cases r0; cases r; simp at hp ⊢; exact hp

section
variable {d : Bytes} {r : Reader}

/-- `readByte` and `peekByte` are one function up to what a successful read does to the reader (`g`) -/
theorem wp_read {g : Reader → Reader} {post : Option UInt8 → Reader → Prop} (h : Inv d r)
    (hn : r.pkgEnd ≤ r.offset → post none r) (hs : ∀ b, r.offset < r.pkgEnd → d[r.offset]? = some b → post (some b) (g r)) :
    wp (fun r => if r.eof then pure (none, r) else match d[r.offset]? with
      | some b => pure (some b, g r)
      | none => throw AmlTree.Err.panic : LexM (Option UInt8)) post r := by
  unfold wp
  dsimp only
  split
  · rename_i he
    exact ⟨_, _, rfl, hn (Reader.eof_iff.mp he)⟩
  · rename_i he
    have hlt : r.offset < r.pkgEnd := Nat.lt_of_not_le (mt Reader.eof_iff.mpr he)
    have hb := Array.getElem?_eq_getElem (Nat.lt_of_lt_of_le hlt h.2)
    rw [hb]
    exact ⟨_, _, rfl, hs _ hlt hb⟩

theorem wp_readByte {post : Option UInt8 → Reader → Prop} (h : Inv d r)
    (hn : r.pkgEnd ≤ r.offset → post none r)
    (hs : ∀ b, r.offset < r.pkgEnd → d[r.offset]? = some b → post (some b) { r with offset := r.offset + 1 }) :
    wp (readByte d) post r := wp_read h hn hs

theorem wp_peekByte {post : Option UInt8 → Reader → Prop} (h : Inv d r)
    (hn : r.pkgEnd ≤ r.offset → post none r)
    (hs : ∀ b, r.offset < r.pkgEnd → d[r.offset]? = some b → post (some b) r) :
    wp (peekByte d) post r := wp_read (g := id) h hn hs

theorem read_some {g : Reader → Reader} {r' : Reader} {b : UInt8}
    (h : (if r.eof then pure (none, r) else match d[r.offset]? with
      | some b => pure (some b, g r)
      | none => throw AmlTree.Err.panic : AmlTree.Res (Option UInt8 × Reader)) = .ok (some b, r')) :
    r.offset < r.pkgEnd ∧ d[r.offset]? = some b ∧ r' = g r := by
  split at h
  · cases h
  · rename_i he
    split at h
    · rename_i b' hb
      cases h
      exact ⟨Nat.lt_of_not_le (mt Reader.eof_iff.mpr he), hb, rfl⟩
    · cases h

theorem read_at {g : Reader → Reader} {b : UInt8} (hlt : r.offset < r.pkgEnd) (hb : d[r.offset]? = some b) :
    (if r.eof then pure (none, r) else match d[r.offset]? with
      | some b => pure (some b, g r)
      | none => throw AmlTree.Err.panic : AmlTree.Res (Option UInt8 × Reader)) = .ok (some b, g r) := by
  rw [Reader.not_eof hlt, hb]
  rfl

theorem readByte_at {b : UInt8} (hlt : r.offset < r.pkgEnd) (hb : d[r.offset]? = some b) :
    readByte d r = .ok (some b, { r with offset := r.offset + 1 }) := read_at (g := fun r => { r with offset := r.offset + 1 }) hlt hb

theorem wp_offset {post : Nat → Reader → Prop} (h : post r.offset r) : wp offset post r := ⟨_, _, rfl, h⟩
theorem wp_pkgEnd {post : Nat → Reader → Prop} (h : post r.pkgEnd r) : wp pkgEnd post r := ⟨_, _, rfl, h⟩
theorem wp_eof {post : Bool → Reader → Prop} {r : Reader} (h : post r.eof r) : wp eof post r := ⟨_, _, rfl, h⟩

theorem wp_dataPtr {post : Option Nat → Reader → Prop} (h : Inv d r)
    (hn : r.pkgEnd ≤ r.offset → post none r) (hs : r.offset < r.pkgEnd → post (some r.offset) r) :
    wp (dataPtr d) post r := by
  unfold wp dataPtr
  split
  · rename_i he
    exact ⟨_, _, rfl, hn (Reader.eof_iff.mp he)⟩
  · rename_i he
    have hlt : r.offset < r.pkgEnd := Nat.lt_of_not_le (mt Reader.eof_iff.mpr he)
    rw [if_pos (Nat.lt_of_lt_of_le hlt h.2)]
    exact ⟨_, _, rfl, hs hlt⟩

theorem wp_setOffset {post : Unit → Reader → Prop} (off : Nat)
    (h : post () { r with offset := if off > d.size then d.size else off }) : wp (setOffset d off) post r :=
  ⟨_, _, rfl, h⟩

theorem wp_unreadByte {post : Bool → Reader → Prop}
    (h0 : r.offset = 0 → post false r) (h1 : r.offset ≠ 0 → post true { r with offset := r.offset - 1 }) :
    wp unreadByte post r := by
  unfold wp unreadByte
  split
  · rename_i he; exact ⟨_, _, rfl, h0 he⟩
  · rename_i he; exact ⟨_, _, rfl, h1 he⟩

theorem wp_setPkgEnd {post : Bool → Reader → Prop} (e : Nat)
    (h0 : e > d.size → post false r) (h1 : e ≤ d.size → post true { r with pkgEnd := e }) :
    wp (setPkgEnd d e) post r := by
  unfold wp setPkgEnd
  split
  · rename_i he; exact ⟨_, _, rfl, h0 he⟩
  · rename_i he; exact ⟨_, _, rfl, h1 (by omega)⟩

end

theorem rel_readByte (d : Bytes) : LexRel d (readByte d) (fun r a r' =>
    (a = none ∧ r' = r ∧ r.pkgEnd ≤ r.offset) ∨
    (∃ b, a = some b ∧ r' = { r with offset := r.offset + 1 } ∧ r.offset < r.pkgEnd)) :=
  fun _ hr => wp_readByte hr (fun h => ⟨hr, .inl ⟨rfl, rfl, h⟩⟩)
    fun b hlt _ => ⟨hr.succ hlt, .inr ⟨b, rfl, rfl, hlt⟩⟩

theorem rel_unreadByte (d : Bytes) : LexRel d unreadByte (fun r _ r' =>
    r'.pkgEnd = r.pkgEnd ∧ r'.offset = r.offset - 1) :=
  fun r hr => wp_unreadByte (fun h0 => ⟨hr, rfl, by omega⟩)
    fun _ => ⟨⟨by show r.offset - 1 ≤ d.size; have := hr.1; omega, hr.2⟩, rfl, rfl⟩

theorem rel_setOffset (d : Bytes) (off : Nat) : LexRel d (setOffset d off) (fun r _ r' =>
    r'.pkgEnd = r.pkgEnd ∧ r'.offset = (if off > d.size then d.size else off)) :=
  fun _ hr => wp_setOffset off ⟨hr.setOffset off, rfl, rfl⟩

theorem rel_setPkgEnd (d : Bytes) (e : Nat) : LexRel d (setPkgEnd d e) (fun r a r' =>
    r'.offset = r.offset ∧ ((a = true ∧ r'.pkgEnd = e ∧ e ≤ d.size) ∨ (a = false ∧ r' = r ∧ e > d.size))) :=
  fun _ hr => wp_setPkgEnd e (fun h => ⟨hr, rfl, .inr ⟨rfl, rfl, h⟩⟩)
    fun h => ⟨⟨hr.1, h⟩, rfl, .inl ⟨rfl, rfl, h⟩⟩

theorem safe_offset (d : Bytes) : Safe d offset := ⟨fun _ h => wp_offset h⟩
theorem safe_pkgEnd (d : Bytes) : Safe d pkgEnd := ⟨fun _ h => wp_pkgEnd h⟩
theorem safe_eof (d : Bytes) : Safe d eof := ⟨fun _ h => wp_eof h⟩
theorem safe_readByte (d : Bytes) : Safe d (readByte d) := (rel_readByte d).safe
theorem safe_peekByte (d : Bytes) : Safe d (peekByte d) := ⟨fun _ h => wp_peekByte h (fun _ => h) fun _ _ _ => h⟩
theorem safe_unreadByte (d : Bytes) : Safe d unreadByte := (rel_unreadByte d).safe
theorem safe_dataPtr (d : Bytes) : Safe d (dataPtr d) := ⟨fun _ h => wp_dataPtr h (fun _ => h) fun _ => h⟩
theorem safe_setOffset (d : Bytes) (off : Nat) : Safe d (setOffset d off) := (rel_setOffset d off).safe
theorem safe_setPkgEnd (d : Bytes) (e : Nat) : Safe d (setPkgEnd d e) := (rel_setPkgEnd d e).safe

/-- what `parsePkgLength` does to the reader: nothing on failure, 1–4 bytes forward on success -/
def PkgRel (r : Reader) (a : Nat × PRes) (r' : Reader) : Prop :=
  (a.2 = .failed ∧ r' = r) ∨
  (a.2 = .ok ∧ r'.pkgEnd = r.pkgEnd ∧ r.offset < r'.offset ∧ r'.offset ≤ r.offset + 4 ∧ r'.offset ≤ r.pkgEnd)

def PkgRelV (r : Reader) (a : Nat × PRes) (r' : Reader) : Prop := PkgRel r a r' ∧ a.1 < 268435456

theorem pkgval (l b1 b2 b3 : Nat) (h1 : b1 < 256) (h2 : b2 < 256) (h3 : b3 < 256) :
    b3 <<< 20 ||| b2 <<< 12 ||| b1 <<< 4 ||| (l &&& 0xf) < 268435456 := by
  have e : (268435456 : Nat) = 2 ^ 28 := by decide
  rw [e]
  have hl : l &&& 0xf < 2 ^ 28 := Nat.lt_of_le_of_lt Nat.and_le_right (by decide)
  have s1 : b1 <<< 4 < 2 ^ 28 := by rw [Nat.shiftLeft_eq]; omega
  have s2 : b2 <<< 12 < 2 ^ 28 := by rw [Nat.shiftLeft_eq]; omega
  have s3 : b3 <<< 20 < 2 ^ 28 := by rw [Nat.shiftLeft_eq]; omega
  exact Nat.or_lt_two_pow (Nat.or_lt_two_pow (Nat.or_lt_two_pow s3 s2) s1) hl

theorem pkgOk {d : Bytes} {r : Reader} (h : Inv d r) {o v : Nat} (h1 : r.offset < o) (h4 : o ≤ r.offset + 4)
    (hp : o ≤ r.pkgEnd) (hv : v < 268435456) :
    Inv d { r with offset := o } ∧ PkgRelV r (v, .ok) { r with offset := o } :=
  ⟨⟨Nat.le_trans hp h.2, h.2⟩, .inr ⟨rfl, rfl, h1, h4, hp⟩, hv⟩

/-- one more byte of a PkgLength: a failed read puts the reader back to where the PkgLength started (`r0`), a successful
one goes on with `k` -/
theorem pkgByte {d : Bytes} {r0 r : Reader} (h0 : Inv d r0) (hr : Inv d r) (hp : r.pkgEnd = r0.pkgEnd)
    {k : UInt8 → LexM (Nat × PRes)}
    (hk : ∀ b, r.offset < r.pkgEnd → wp (k b) (fun a r' => Inv d r' ∧ PkgRelV r0 a r') { r with offset := r.offset + 1 }) :
    wp (do match ← readByte d with
          | none => setOffset d r0.offset; pure (0, PRes.failed)
          | some b => k b) (fun a r' => Inv d r' ∧ PkgRelV r0 a r') r := by
  apply wp_bind
  refine wp_readByte hr (fun _ => ?_) fun b hlt _ => hk b hlt
  apply wp_bind
  apply wp_setOffset
  rw [Reader.back h0 hp]
  exact wp_pure ⟨h0, .inl ⟨rfl, rfl⟩, by decide⟩

theorem rel_parsePkgLengthV (d : Bytes) : LexRel d (parsePkgLength d) PkgRelV := by
  intro r hr
  unfold parsePkgLength
  apply wp_bind; apply wp_offset
  refine pkgByte hr hr rfl fun lead hlt => ?_
  have i1 := hr.succ hlt
  have hl := lead.toNat_lt
  dsimp only
  split
  · exact wp_pure (pkgOk hr (o := r.offset + 1) (by omega) (by omega) hlt (by omega))
  · refine pkgByte hr i1 rfl fun b1 (hlt1 : r.offset + 1 < r.pkgEnd) =>
      wp_pure (pkgOk hr (o := r.offset + 2) (by omega) (by omega) hlt1 ?_)
    simpa using pkgval lead.toNat b1.toNat 0 0 b1.toNat_lt (by decide) (by decide)
  · refine pkgByte hr i1 rfl fun b1 (hlt1 : r.offset + 1 < r.pkgEnd) =>
      pkgByte hr (i1.succ hlt1) rfl fun b2 (hlt2 : r.offset + 2 < r.pkgEnd) =>
      wp_pure (pkgOk hr (o := r.offset + 3) (by omega) (by omega) hlt2 ?_)
    simpa using pkgval lead.toNat b1.toNat b2.toNat 0 b1.toNat_lt b2.toNat_lt (by decide)
  · exact pkgByte hr i1 rfl fun b1 (hlt1 : r.offset + 1 < r.pkgEnd) =>
      pkgByte hr (i1.succ hlt1) rfl fun b2 (hlt2 : r.offset + 2 < r.pkgEnd) =>
      pkgByte hr ((i1.succ hlt1).succ hlt2) rfl fun b3 (hlt3 : r.offset + 3 < r.pkgEnd) =>
      wp_pure (pkgOk hr (o := r.offset + 4) (by omega) (by omega) hlt3
        (pkgval lead.toNat b1.toNat b2.toNat b3.toNat b1.toNat_lt b2.toNat_lt b3.toNat_lt))

theorem rel_parsePkgLength (d : Bytes) : LexRel d (parsePkgLength d) PkgRel :=
  fun r hr => wp_mono (rel_parsePkgLengthV d r hr) fun _ _ h => ⟨h.1, h.2.1⟩

theorem safe_parsePkgLength (d : Bytes) : Safe d (parsePkgLength d) := (rel_parsePkgLengthV d).safe

def NumRel (n : Nat) (r : Reader) (a : Nat × PRes) (r' : Reader) : Prop :=
  r'.pkgEnd = r.pkgEnd ∧ r.offset ≤ r'.offset ∧ r'.offset ≤ r.offset + n ∧
  ((a.2 = .ok ∧ r'.offset = r.offset + n) ∨ a.2 = .failed)

theorem rel_parseNumLoop (d : Bytes) (n c acc : Nat) (r : Reader) (hr : Inv d r) :
    wp (parseNumLoop d n c acc) (fun a r' => Inv d r' ∧ NumRel n r a r') r := by
  induction n generalizing c acc r with
  | zero => unfold parseNumLoop; exact wp_pure ⟨hr, rfl, Nat.le_refl _, Nat.le_refl _, Or.inl ⟨rfl, rfl⟩⟩
  | succ n ih =>
    unfold parseNumLoop
    apply wp_bind
    apply wp_readByte hr
    · intro _; exact wp_pure ⟨hr, rfl, Nat.le_refl _, by omega, Or.inr rfl⟩
    · intro b hlt _
      refine wp_mono (ih (c + 1) _ _ (hr.succ hlt)) ?_
      intro a r' ⟨hi, hp, (h1 : r.offset + 1 ≤ r'.offset), (h2 : r'.offset ≤ r.offset + 1 + n), h3⟩
      refine ⟨hi, hp, by omega, by omega, ?_⟩
      rcases h3 with ⟨ho, (he : r'.offset = r.offset + 1 + n)⟩ | hf
      · exact .inl ⟨ho, by omega⟩
      · exact .inr hf

theorem rel_parseNumConstant (d : Bytes) (n : Nat) : LexRel d (parseNumConstant d n) (NumRel n) :=
  fun r hr => rel_parseNumLoop d n 0 0 r hr

theorem safe_parseNumConstant (d : Bytes) (n : Nat) : Safe d (parseNumConstant d n) := (rel_parseNumConstant d n).safe

/-- a slice lies inside the table (a nil-data slice denotes no bytes) -/
def SliceIn (d : Bytes) (s : Slice) : Prop := ∀ off, s.data = some off → off + s.len ≤ d.size

/-- what `parseString` and `parseNameString` do: forward inside the package, by at least one byte on success -/
def NameRel (d : Bytes) (r : Reader) (a : Slice × PRes) (r' : Reader) : Prop :=
  r'.pkgEnd = r.pkgEnd ∧ r.offset ≤ r'.offset ∧ SliceIn d a.1 ∧
  ((a.2 = .ok ∧ r.offset < r'.offset) ∨ a.2 = .failed)

theorem rel_parseStringLoop (d : Bytes) (f len : Nat) (r : Reader) (hr : Inv d r) :
    wp (parseStringLoop d f len) (fun a r' => Inv d r' ∧ r'.pkgEnd = r.pkgEnd ∧ r.offset + a.1 ≤ r'.offset + len ∧
      ((a.2 = .ok ∧ r.offset < r'.offset) ∨ a.2 = .failed)) r := by
  induction f generalizing len r with
  | zero => unfold parseStringLoop; exact wp_pure ⟨hr, rfl, by simp, Or.inr rfl⟩
  | succ f ih =>
    unfold parseStringLoop
    apply wp_bind
    apply wp_readByte hr
    · intro _; exact wp_pure ⟨hr, rfl, by simp, Or.inr rfl⟩
    · intro b hlt _
      have i1 := hr.succ hlt
      have h1 : r.offset + len ≤ r.offset + 1 + len := by omega
      dsimp only
      refine wp_ite (fun _ => wp_pure ⟨i1, rfl, h1, .inl ⟨rfl, Nat.lt_succ_self _⟩⟩) fun _ =>
        wp_ite (fun _ => ?_) fun _ => wp_pure ⟨i1, rfl, h1, .inr rfl⟩
      refine wp_mono (ih (len + 1) _ i1) ?_
      intro a r' ⟨hi, hp, (h1 : r.offset + 1 + a.1 ≤ r'.offset + (len + 1)), h2⟩
      refine ⟨hi, hp, by omega, ?_⟩
      rcases h2 with ⟨ho, (hl : r.offset + 1 < r'.offset)⟩ | hf
      · exact .inl ⟨ho, by omega⟩
      · exact .inr hf

theorem rel_parseString (d : Bytes) : LexRel d (parseString d) (NameRel d) := by
  intro r hr
  unfold parseString
  apply wp_bind
  refine wp_dataPtr hr (fun _ => ?_) fun _ => ?_ <;> apply wp_bind <;>
    refine wp_mono (rel_parseStringLoop d _ 0 r hr) fun a r' ⟨hi, hp, h1, h2⟩ => wp_pure ⟨hi, hp, by omega, ?_, h2⟩
  · intro o ho; cases ho
  · intro o ho
    cases ho
    have := hi.1
    show r.offset + a.1 ≤ d.size
    omega

theorem parseString_slice (d : Bytes) (r : Reader) (h : Inv d r) :
    wp (parseString d) (fun a r' => Inv d r' ∧ SliceIn d a.1) r :=
  wp_mono (rel_parseString d r h) fun _ _ h => ⟨h.1, h.2.2.2.1⟩

theorem safe_parseString (d : Bytes) : Safe d (parseString d) := (rel_parseString d).safe

/-- at EOF the slice has no data, so it lies inside the table whatever `n` is -/
theorem parseByteListRaw_spec (d : Bytes) (n : Nat) (r : Reader) (h : Inv d r) :
    wp (parseByteListRaw d n) (fun sl r' => Inv d r' ∧ r'.pkgEnd = r.pkgEnd ∧
      r'.offset = (if u32 (r.offset + n) > d.size then d.size else u32 (r.offset + n)) ∧
      (r.pkgEnd ≤ r.offset ∨ r.offset + n ≤ r.pkgEnd → SliceIn d sl)) r := by
  unfold parseByteListRaw
  apply wp_bind
  refine wp_dataPtr h (fun _ => ?_) fun hlt => ?_ <;>
    (apply wp_bind; apply wp_offset; apply wp_bind; apply wp_setOffset
     refine wp_pure ⟨h.setOffset _, rfl, rfl, fun hfit o ho => ?_⟩)
  · cases ho
  · cases ho
    have := h.2
    show r.offset + n ≤ d.size
    omega

theorem parseByteListRaw_slice (d : Bytes) (n : Nat) (r : Reader) (h : Inv d r)
    (hfit : r.pkgEnd ≤ r.offset ∨ r.offset + n ≤ r.pkgEnd) :
    wp (parseByteListRaw d n) (fun sl r' => Inv d r' ∧ SliceIn d sl) r :=
  wp_mono (parseByteListRaw_spec d n r h) fun _ _ h => ⟨h.1, h.2.2.2 hfit⟩

theorem rel_parseByteListRaw (d : Bytes) (n : Nat) : LexRel d (parseByteListRaw d n) (fun r _ r' =>
    r'.pkgEnd = r.pkgEnd ∧ r'.offset = (if u32 (r.offset + n) > d.size then d.size else u32 (r.offset + n))) :=
  fun r hr => wp_mono (parseByteListRaw_spec d n r hr) fun _ _ h => ⟨h.1, h.2.1, h.2.2.1⟩

theorem safe_parseByteListRaw (d : Bytes) (n : Nat) : Safe d (parseByteListRaw d n) := (rel_parseByteListRaw d n).safe

/-- the length `parseArg` passes for a ByteList argument, `pkgEnd - Offset()` in `uint32`, fits -/
theorem byteListArg_fits (d : Bytes) (hd : d.size < 4294967296) (r : Reader) (h : Inv d r) :
    r.pkgEnd ≤ r.offset ∨ r.offset + u32 (r.pkgEnd + 4294967296 - r.offset) ≤ r.pkgEnd := by
  have := h.1
  have := h.2
  unfold u32
  omega

theorem skipNamePrefix_spec (d : Bytes) (f : Nat) (r : Reader) (h : Inv d r) :
    wp (skipNamePrefix d f) (fun b r' => Inv d r' ∧ r.offset ≤ r'.offset ∧ r'.pkgEnd = r.pkgEnd ∧
      (b = true → r'.offset < r'.pkgEnd) ∧ (r.offset < r'.offset → ∃ c, d[r.offset]? = some c ∧ c ≠ 0)) r := by
  induction f generalizing r with
  | zero => unfold skipNamePrefix; exact wp_pure ⟨h, Nat.le_refl _, rfl, by simp, fun hq => by omega⟩
  | succ f ih =>
    unfold skipNamePrefix
    apply wp_bind
    apply wp_peekByte h
    · intro _; exact wp_pure ⟨h, Nat.le_refl _, rfl, by simp, fun hq => by omega⟩
    · intro b hlt hb
      dsimp only
      refine wp_ite (fun _ => wp_pure ⟨h, Nat.le_refl _, rfl, fun _ => hlt, fun hq => by omega⟩) fun hpre => ?_
      apply wp_bind
      apply wp_readByte h
      · intro hc; omega
      · intro b' _ _
        refine wp_mono (ih _ (h.succ hlt)) ?_
        intro a r' ⟨hi, (hle : r.offset + 1 ≤ r'.offset), hpe, hbt, _⟩
        -- a prefix character is not zero
        exact ⟨hi, by omega, hpe, hbt, fun _ => ⟨b, hb, fun hz => hpre (by rw [hz]; decide)⟩⟩

theorem safe_skipNamePrefix (d : Bytes) (f : Nat) : Safe d (skipNamePrefix d f) :=
  ⟨fun r h => wp_mono (skipNamePrefix_spec d f r h) fun _ _ h => h.1⟩

/-- the three cases of `parseNamePath` that skip `k` bytes: `SetOffset(Offset() + k)` unless that leaves the package -/
def skipSegs (d : Bytes) (start k : Nat) : LexM (Option Nat) := do
  let endOffset := u32 ((← offset) + k)
  if endOffset > (← pkgEnd) then return none
  else
    setOffset d endOffset
    return some start

open Firefly.Gen.C12 in
theorem parseNamePath_eq (d : Bytes) (next start : Nat) : parseNamePath d next start =
    if next = 0x00 then return some (start + 1)
    else if next = 0x2e then skipSegs d start (amlNameLen * 2)
    else if next = 0x2f then do
      match ← readByte d with
      | none => return none
      | some segCount => if segCount = 0 then return none else skipSegs d start (amlNameLen * segCount.toNat)
    else if (next < 0x41 ∨ next > 0x5a) ∧ next ≠ 0x5f then return none
    else skipSegs d start (amlNameLen - 1) := rfl

theorem skipSegs_spec (d : Bytes) (start k : Nat) (hk : k ≤ 1020) (r : Reader) (h : Inv d r) :
    wp (skipSegs d start k) (fun a r' => Inv d r' ∧ (d.size + 1024 ≤ 4294967296 →
      r'.pkgEnd = r.pkgEnd ∧ r.offset ≤ r'.offset ∧ ∀ st, a = some st → st = start)) r := by
  apply wp_bind; apply wp_offset
  apply wp_bind; apply wp_pkgEnd
  refine wp_ite (fun _ => wp_pure ⟨h, fun _ => ⟨rfl, Nat.le_refl _, fun _ hst => by cases hst⟩⟩) fun hle => ?_
  apply wp_bind; apply wp_setOffset
  -- without the bound the offset may wrap, but `SetOffset` clamps it into the table all the same
  refine wp_pure ⟨h.setOffset _, fun hd => ?_⟩
  have hsz := h.1
  have hpe := h.2
  have hu : u32 (r.offset + k) = r.offset + k := u32_id (by omega)
  rw [hu] at hle ⊢
  have : (if r.offset + k > d.size then d.size else r.offset + k) = r.offset + k := by split <;> omega
  rw [this]
  exact ⟨rfl, by show r.offset ≤ r.offset + k; omega, fun _ hst => by cases hst; rfl⟩

theorem parseNamePath_post (d : Bytes) (next start : Nat) (r : Reader) (h : Inv d r) :
    wp (parseNamePath d next start) (fun a r' => Inv d r' ∧ (d.size + 1024 ≤ 4294967296 →
      r'.pkgEnd = r.pkgEnd ∧ r.offset ≤ r'.offset ∧ (∀ st, a = some st → st = start ∨ st = start + 1) ∧
      (next = 0 → a = some (start + 1) ∧ r' = r))) r := by
  rw [parseNamePath_eq]
  refine wp_ite (fun _ => wp_pure ⟨h, fun _ => ⟨rfl, Nat.le_refl _, fun _ e => by cases e; exact .inr rfl,
    fun _ => ⟨rfl, rfl⟩⟩⟩) fun hn => ?_
  have seg (k : Nat) (hk : k ≤ 1020) (r1 : Reader) (h1 : Inv d r1) (hp : r1.pkgEnd = r.pkgEnd)
      (ho : r.offset ≤ r1.offset) : wp (skipSegs d start k) (fun a r' => Inv d r' ∧ (d.size + 1024 ≤ 4294967296 →
        r'.pkgEnd = r.pkgEnd ∧ r.offset ≤ r'.offset ∧ (∀ st, a = some st → st = start ∨ st = start + 1) ∧
        (next = 0 → a = some (start + 1) ∧ r' = r))) r1 :=
    wp_mono (skipSegs_spec d start k hk r1 h1) fun _ _ ⟨hi, hs⟩ => ⟨hi, fun hd =>
      let ⟨hp', ho', hs'⟩ := hs hd
      ⟨hp'.trans hp, Nat.le_trans ho ho', fun st e => .inl (hs' st e), fun h0 => absurd h0 hn⟩⟩
  have none (r1 : Reader) (h1 : Inv d r1) (hp : r1.pkgEnd = r.pkgEnd) (ho : r.offset ≤ r1.offset) :
      Inv d r1 ∧ (d.size + 1024 ≤ 4294967296 → r1.pkgEnd = r.pkgEnd ∧ r.offset ≤ r1.offset ∧
      (∀ st, (none : Option Nat) = some st → st = start ∨ st = start + 1) ∧
      (next = 0 → (none : Option Nat) = some (start + 1) ∧ r1 = r)) :=
    ⟨h1, fun _ => ⟨hp, ho, (fun _ e => nomatch e), fun h0 => absurd h0 hn⟩⟩
  refine wp_ite (fun _ => seg _ (by decide) r h rfl (Nat.le_refl _)) fun _ => wp_ite (fun _ => ?_) fun _ =>
    wp_ite (fun _ => wp_pure (none r h rfl (Nat.le_refl _))) fun _ => seg _ (by decide) r h rfl (Nat.le_refl _)
  apply wp_bind
  apply wp_readByte h
  · intro _; exact wp_pure (none r h rfl (Nat.le_refl _))
  · intro b hlt _
    refine wp_ite (fun _ => wp_pure (none _ (h.succ hlt) rfl (Nat.le_succ _))) fun _ =>
      seg _ ?_ _ (h.succ hlt) rfl (Nat.le_succ _)
    have := b.toNat_lt
    simp only [Firefly.Gen.C12.amlNameLen]; omega

/-- a non-empty name starts with a byte other than zero: a prefix character, the dual / multi name prefix or a lead name
character -/
theorem parseNameString_spec (d : Bytes) (r : Reader) (h : Inv d r) :
    wp (parseNameString d) (fun a r' => Inv d r' ∧ (d.size + 1024 ≤ 4294967296 → NameRel d r a r' ∧
      (a.2 = .ok → a.1.data = some r.offset) ∧
      (a.2 = .ok → a.1.len ≠ 0 → ∃ c, d[r.offset]? = some c ∧ c ≠ 0))) r := by
  have nil (r' : Reader) (hi : Inv d r') (hpo : d.size + 1024 ≤ 4294967296 → r'.pkgEnd = r.pkgEnd ∧ r.offset ≤ r'.offset) :
      Inv d r' ∧ (d.size + 1024 ≤ 4294967296 → NameRel d r ({}, .failed) r' ∧
      (PRes.failed = .ok → ({} : Slice).data = some r.offset) ∧
      (PRes.failed = .ok → ({} : Slice).len ≠ 0 → ∃ c, d[r.offset]? = some c ∧ c ≠ 0)) :=
    ⟨hi, fun hd => ⟨⟨(hpo hd).1, (hpo hd).2, (fun _ e => nomatch e), .inr rfl⟩, (fun e => nomatch e), (fun e => nomatch e)⟩⟩
  unfold parseNameString
  apply wp_bind
  -- at EOF the data pointer is nil and the prefix loop fails; otherwise it points at the reader's offset
  refine wp_mono (wp_dataPtr h (post := fun data r' => r' = r ∧ (r.offset < r.pkgEnd → data = some r.offset) ∧
    ∀ o, data = some o → o = r.offset) (fun hge => ⟨rfl, fun _ => by omega, fun _ e => by cases e⟩)
    fun _ => ⟨rfl, fun _ => rfl, fun _ e => by cases e; rfl⟩) ?_
  intro data r' ⟨hr', hdata2, hdata⟩
  rw [hr']
  apply wp_bind; apply wp_offset
  apply wp_bind
  refine wp_mono (skipNamePrefix_spec d _ r h) ?_
  intro b r1 ⟨hi1, hle1, hpe1, hb1, hlead1⟩
  refine wp_ite (fun hbt => ?_) fun _ => wp_pure (nil _ hi1 fun _ => ⟨hpe1, hle1⟩)
  have hlt1 := hb1 hbt
  apply wp_bind
  apply wp_readByte hi1
  · intro hc; omega
  · intro b1 _ hd1
    -- the prefix characters, if any, lead; otherwise the byte `b1` that selects the path does, unless it is the NullName
    have lead : b1.toNat ≠ 0 ∨ r.offset < r1.offset → ∃ c, d[r.offset]? = some c ∧ c ≠ 0 := by
      intro hz
      by_cases hmv : r.offset < r1.offset
      · exact hlead1 hmv
      · have : r1.offset = r.offset := by omega
        rw [this] at hd1
        exact ⟨b1, hd1, fun hq => hz.elim (fun hz => hz (by rw [hq]; rfl)) hmv⟩
    apply wp_bind
    refine wp_mono (parseNamePath_post d _ r.offset _ (hi1.succ hlt1)) ?_
    intro a r3 ⟨hi3, h3⟩
    have hle3 (hd : d.size + 1024 ≤ 4294967296) : r1.offset + 1 ≤ r3.offset := (h3 hd).2.1
    split
    · exact wp_pure (nil _ hi3 fun hd => ⟨(h3 hd).1.trans hpe1, by have := hle3 hd; omega⟩)
    · rename_i st
      apply wp_bind; apply wp_offset
      refine wp_pure ⟨hi3, fun hd => ?_⟩
      obtain ⟨hpe3, _, hst, hnull⟩ := h3 hd
      have hle3 := hle3 hd
      refine ⟨⟨hpe3.trans hpe1, by omega, ?_, .inl ⟨rfl, by omega⟩⟩, fun _ => hdata2 (by omega), fun _ hlen => ?_⟩
      · intro o ho
        cases hdata o ho
        have h3 := hi3.1
        show r.offset + u32 (r3.offset + 4294967296 - st) ≤ d.size
        rcases hst st rfl with e | e <;> subst e <;> rw [u32_sub (by omega) (by omega)] <;> omega
      · by_cases hz : b1.toNat = 0
        · obtain ⟨ha, hr3⟩ := hnull hz
          cases ha; subst hr3
          refine lead (Or.inr (Decidable.byContradiction fun hmv => hlen ?_))
          have : r1.offset = r.offset := by omega
          show u32 (r1.offset + 1 + 4294967296 - (r.offset + 1)) = 0
          have h0 := h.1
          rw [this, u32_sub (Nat.le_refl _) (by omega)]; omega
        · exact lead (Or.inl hz)

theorem parseNameString_slice (d : Bytes) (hd : d.size + 1024 ≤ 4294967296) (r : Reader) (h : Inv d r) :
    wp (parseNameString d) (fun a r' => Inv d r' ∧ SliceIn d a.1 ∧ (a.2 = .ok → a.1.data = some r.offset)) r :=
  wp_mono (parseNameString_spec d r h) fun _ _ h => ⟨h.1, (h.2 hd).1.2.2.1, (h.2 hd).2.1⟩

theorem rel_parseNameString (d : Bytes) (hd : d.size + 1024 ≤ 4294967296) : LexRel d (parseNameString d) (NameRel d) :=
  fun r hr => wp_mono (parseNameString_spec d r hr) fun _ _ h => ⟨h.1, (h.2 hd).1⟩

theorem safe_parseNameString (d : Bytes) : Safe d (parseNameString d) :=
  ⟨fun r h => wp_mono (parseNameString_spec d r h) fun _ _ h => h.1⟩

open Firefly.Gen.C12 in
def OpRel (r : Reader) (a : Nat × PRes) (r' : Reader) : Prop :=
  (a.2 = .failed ∧ a.1 = 0xffff ∧ r' = r) ∨
  (a.2 = .ok ∧ pOpcodeTableIndex a.1 false ≠ badOpcode ∧ r'.pkgEnd = r.pkgEnd ∧
    r.offset < r'.offset ∧ r'.offset ≤ r.offset + 2)

theorem rel_checkOpcode (d : Bytes) (op n : Nat) (r0 r : Reader)
    (hr0 : Inv d r0) (hr : Inv d r) (hp : r.pkgEnd = r0.pkgEnd) (ho : r.offset = r0.offset + n) (hn : 1 ≤ n ∧ n ≤ 2) :
    wp (checkOpcode d op n) (fun a r' => Inv d r' ∧ (d.size + 1024 ≤ 4294967296 → OpRel r0 a r')) r := by
  unfold checkOpcode
  refine wp_ite (fun _ => ?_) fun hne => wp_pure ⟨hr, fun _ => .inr ⟨rfl, hne, hp, by omega, by omega⟩⟩
  apply wp_bind; apply wp_offset
  apply wp_bind; apply wp_setOffset
  refine wp_pure ⟨hr.setOffset _, fun hd => .inl ⟨rfl, rfl, ?_⟩⟩
  have h1 := hr0.1
  have hu : u32 (r.offset + 4294967296 - n) = r0.offset := by rw [u32_sub (by omega) (by omega)]; omega
  rw [hu]
  exact Reader.back hr0 hp

theorem nextOpcode_spec (d : Bytes) (r : Reader) (hr : Inv d r) :
    wp (nextOpcode d) (fun a r' => Inv d r' ∧ (d.size + 1024 ≤ 4294967296 → OpRel r a r')) r := by
  unfold nextOpcode
  apply wp_bind
  apply wp_readByte hr
  · intro _; exact wp_pure ⟨hr, fun _ => .inl ⟨rfl, rfl, rfl⟩⟩
  · intro b hlt _
    have i1 := hr.succ hlt
    dsimp only
    refine wp_ite (fun _ => ?_) fun _ =>
      rel_checkOpcode d _ 1 r _ hr i1 rfl rfl (by omega)
    apply wp_bind
    apply wp_readByte i1
    · intro _
      apply wp_bind
      apply wp_unreadByte
      · intro h0; exact absurd h0 (Nat.succ_ne_zero _)
      · intro _
        have hrr : ({ offset := r.offset + 1 - 1, pkgEnd := r.pkgEnd } : Reader) = r := by cases r; simp
        show wp (pure _) _ ({ offset := r.offset + 1 - 1, pkgEnd := r.pkgEnd } : Reader)
        rw [hrr]
        exact wp_pure ⟨hr, fun _ => .inl ⟨rfl, rfl, rfl⟩⟩
    · intro b2 hlt2 _
      exact rel_checkOpcode d _ 2 r _ hr (i1.succ hlt2) rfl rfl (by omega)

theorem rel_nextOpcode (d : Bytes) (hd : d.size + 1024 ≤ 4294967296) : LexRel d (nextOpcode d) OpRel :=
  fun r hr => wp_mono (nextOpcode_spec d r hr) fun _ _ h => ⟨h.1, h.2 hd⟩

theorem safe_nextOpcode (d : Bytes) : Safe d (nextOpcode d) :=
  ⟨fun r h => wp_mono (nextOpcode_spec d r h) fun _ _ h => h.1⟩

theorem peekNextOpcode_spec (d : Bytes) (r : Reader) (hr : Inv d r) :
    wp (peekNextOpcode d) (fun a r' => Inv d r' ∧ (d.size + 1024 ≤ 4294967296 →
      r' = r ∧ ∃ r2, nextOpcode d r = .ok (a, r2) ∧ Inv d r2 ∧ OpRel r a r2)) r := by
  obtain ⟨a, r2, e, hi, hR⟩ := nextOpcode_spec d r hr
  unfold peekNextOpcode
  apply wp_bind; apply wp_offset
  apply wp_bind
  refine ⟨a, r2, e, ?_⟩
  apply wp_bind; apply wp_setOffset
  refine wp_pure ⟨hi.setOffset _, fun hd => ⟨?_, r2, e, hi, hR hd⟩⟩
  have hpk : r2.pkgEnd = r.pkgEnd := by
    rcases hR hd with ⟨_, _, h⟩ | ⟨_, _, h, _⟩
    · rw [h]
    · exact h
  exact Reader.back hr hpk

theorem rel_peekNextOpcode (d : Bytes) (hd : d.size + 1024 ≤ 4294967296) : LexRel d (peekNextOpcode d) (fun r a r' =>
    r' = r ∧ ∃ r2, nextOpcode d r = .ok (a, r2) ∧ Inv d r2 ∧ OpRel r a r2) :=
  fun r hr => wp_mono (peekNextOpcode_spec d r hr) fun _ _ h => ⟨h.1, h.2 hd⟩

theorem safe_peekNextOpcode (d : Bytes) : Safe d (peekNextOpcode d) :=
  ⟨fun r h => wp_mono (peekNextOpcode_spec d r h) fun _ _ h => h.1⟩

theorem sliceBytes_head (d : Bytes) (off len : Nat) (b : UInt8) (h : (sliceBytes d off len)[0]? = some b) :
    len ≠ 0 ∧ d[off]? = some b := by
  unfold sliceBytes at h
  rw [Array.getElem?_toList] at h
  simp only [Array.getElem?_extract] at h
  split at h
  · rename_i hlt
    refine ⟨by omega, ?_⟩
    simpa using h
  · cases h

end Firefly.AmlLex
