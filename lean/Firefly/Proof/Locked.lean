import Firefly.Model.Locked
/-! Lemmas about `Model/Locked.lean`: soundness of the lock-discipline checker, and the invariant
behind linearizability of lock-protected objects. -/
namespace Firefly.Locked

theorem wb_trans {p q r : Ph} {a b : List Ev} (h1 : wb p a = some q) (h2 : wb q b = some r) :
    wb p (a ++ b) = some r := by
  induction a generalizing p with
  | nil => cases h1; exact h2
  | cons e es ih =>
    simp only [List.cons_append, wb] at h1 ⊢
    cases hp : p.ev e with
    | none => simp [hp] at h1
    | some p' => simp only [hp] at h1 ⊢; exact ih h1

theorem joinPh_some {a b r : Option Ph} {q : Ph} (h : joinPh a b = some r) (hq : a = some q ∨ b = some q) :
    r = some q := by
  rcases a with _ | a <;> rcases b with _ | b <;> simp only [joinPh] at h
  · exact hq.elim nofun nofun
  · cases h; exact hq.resolve_left nofun
  · cases h; exact hq.resolve_right nofun
  · split at h <;> cases h
    next e => exact hq.elim id fun hb => e ▸ hb

theorem Outs.join_some {a b o : Outs} (h : Outs.join a b = some o) :
    joinPh a.fall b.fall = some o.fall ∧ joinPh a.brk b.brk = some o.brk ∧ joinPh a.cont b.cont = some o.cont := by
  unfold Outs.join at h
  split at h
  · rename_i f k c h1 h2 h3
    injection h with h; subst h
    exact ⟨h1, h2, h3⟩
  · cases h

/-- the abstract result `o` allows the statement to end by `x` in phase `q` -/
def Outs.at (o : Outs) : Exit → Ph → Prop
  | .fall, q => o.fall = some q
  | .brk, q => o.brk = some q
  | .cont, q => o.cont = some q
  | .ret, q => q = .done

theorem Outs.at_join {a b o : Outs} {x : Exit} {q : Ph} (h : Outs.join a b = some o) (hab : a.at x q ∨ b.at x q) :
    o.at x q := by
  obtain ⟨h1, h2, h3⟩ := Outs.join_some h
  cases x with
  | fall => exact joinPh_some h1 hab
  | brk => exact joinPh_some h2 hab
  | cont => exact joinPh_some h3 hab
  | ret => exact hab.elim id id

theorem check_seq_inv {a b : Skel} {p : Ph} {o : Outs} (h : check (.seq a b) p = some o) :
    ∃ oa, check a p = some oa ∧
      ((oa.fall = none ∧ o = oa) ∨
       ∃ q ob, oa.fall = some q ∧ check b q = some ob ∧ Outs.join { oa with fall := none } ob = some o) := by
  simp only [check] at h
  split at h
  · cases h
  · rename_i oa ha
    refine ⟨oa, ha, ?_⟩
    split at h
    · rename_i hf
      injection h with h
      exact Or.inl ⟨hf, h.symm⟩
    · rename_i q hf
      split at h
      · cases h
      · rename_i ob hb
        exact Or.inr ⟨q, ob, hf, hb, h⟩

theorem check_ite_inv {c t e : Skel} {p : Ph} {o : Outs} (h : check (.ite c t e) p = some o) :
    simple c = true ∧ (∃ oc, check c p = some oc) ∧
      ∃ ot oe, check t p = some ot ∧ check e p = some oe ∧ Outs.join ot oe = some o := by
  simp only [check] at h
  split at h
  · cases h
  · rename_i hs
    split at h
    · cases h
    · rename_i oc hc
      split at h
      · rename_i ot oe ht he
        exact ⟨by simpa using hs, ⟨oc, hc⟩, ot, oe, ht, he, h⟩
      · cases h

theorem check_loop_inv {c b post : Skel} {p : Ph} {o : Outs} (h : check (.loop c b post) p = some o) :
    simple c = true ∧ simple post = true ∧ (∃ oc, check c p = some oc) ∧
      ∃ ob, check b p = some ob ∧
        ∃ back, joinPh ob.fall ob.cont = some back ∧
          (∀ r, back = some r → r = p ∧ ∃ op, check post r = some op) ∧
          ∃ ex, joinPh (some p) ob.brk = some ex ∧ o = { fall := ex } := by
  simp only [check] at h
  split at h
  · cases h
  · rename_i hs
    have hs' : simple c = true ∧ simple post = true := by simpa using hs
    split at h
    · cases h
    · rename_i oc hc
      split at h
      · cases h
      · rename_i ob hb
        refine ⟨hs'.1, hs'.2, ⟨oc, hc⟩, ob, hb, ?_⟩
        split at h
        · cases h
        · rename_i hj
          obtain ⟨ex, hx, rfl⟩ := Option.map_eq_some_iff.1 h
          exact ⟨none, hj, nofun, ex, hx, rfl⟩
        · rename_i r hj
          split at h
          · cases h
          · rename_i op hp
            split at h
            · rename_i hrp
              obtain ⟨ex, hx, rfl⟩ := Option.map_eq_some_iff.1 h
              exact ⟨some r, hj, fun r' hr' => by cases hr'; exact ⟨hrp, op, hp⟩, ex, hx, rfl⟩
            · cases h

/-- a condition / post statement leaves the phase unchanged -/
theorem check_simple {c : Skel} (hs : simple c = true) {p : Ph} {o : Outs} (h : check c p = some o) :
    o = { fall := some p } := by
  induction c generalizing p o with
  | touch =>
    simp only [check] at h
    cases p <;> simp [Ph.ev] at h
    exact h.symm
  | peek => simp only [check] at h; injection h with h; exact h.symm
  | skip => simp only [check] at h; injection h with h; exact h.symm
  | seq a b iha ihb =>
    simp only [simple, Bool.and_eq_true] at hs
    obtain ⟨oa, ha, hcase⟩ := check_seq_inv h
    have hoa := iha hs.1 ha
    rcases hcase with ⟨hf, _⟩ | ⟨q, ob, hf, hb, hj⟩
    · rw [hoa] at hf; cases hf
    · rw [hoa] at hf; simp at hf; subst hf
      have hob := ihb hs.2 hb
      subst hoa hob
      simp [Outs.join, joinPh] at hj
      exact hj.symm
  | acquire | release | ret | brk | cont => simp [simple] at hs
  | ite _ _ _ _ _ _ => simp [simple] at hs
  | loop _ _ _ _ _ _ => simp [simple] at hs

theorem cond_keeps {c : Skel} (hs : simple c = true) {p : Ph} {oc : Outs} (hc : check c p = some oc)
    {tc : List Ev} (h : ∃ q, wb p tc = some q ∧ oc.at .fall q) : wb p tc = some p := by
  obtain ⟨q, hw, hat⟩ := h
  rw [check_simple hs hc] at hat
  cases (Option.some.inj hat : p = q)
  exact hw

/-- **soundness of the abstract interpreter**: if `check s p = some o`, every trace of `s` started in
phase `p` obeys the discipline, and ends in a phase that `o` announces for that kind of exit -/
theorem check_sound {s : Skel} {tr : List Ev} {x : Exit} (hr : Runs s tr x) :
    ∀ (p : Ph) (o : Outs), check s p = some o → ∃ q, wb p tr = some q ∧ o.at x q := by
  induction hr with
  | acquire | release | touch =>
    intro p o h
    cases p <;> simp [check, Ph.ev] at h
    subst h; exact ⟨_, rfl, rfl⟩
  | peek | skip | brk | cont =>
    intro p o h
    simp only [check] at h; injection h with h; subst h
    refine ⟨p, ?_, rfl⟩
    cases p <;> rfl
  | ret =>
    intro p o h
    simp only [check] at h
    split at h
    · rename_i hp; exact ⟨p, rfl, hp⟩
    · cases h
  | seqFall _ _ iha ihb =>
    intro p o h
    obtain ⟨oa, ha, hcase⟩ := check_seq_inv h
    obtain ⟨q, hw, hat⟩ := iha p oa ha
    simp only [Outs.at] at hat
    rcases hcase with ⟨hf, _⟩ | ⟨q', ob, hf, hb, hj⟩
    · rw [hat] at hf; cases hf
    · rw [hat] at hf; injection hf with hf; subst hf
      obtain ⟨q2, hw2, hat2⟩ := ihb q ob hb
      exact ⟨q2, wb_trans hw hw2, Outs.at_join hj (.inr hat2)⟩
  | @seqExit a b ta x' _ hx iha =>
    intro p o h
    obtain ⟨oa, ha, hcase⟩ := check_seq_inv h
    obtain ⟨q, hw, hat⟩ := iha p oa ha
    rcases hcase with ⟨_, ho⟩ | ⟨q', ob, _, _, hj⟩
    · subst ho; exact ⟨q, hw, hat⟩
    · refine ⟨q, hw, Outs.at_join hj (.inl ?_)⟩
      cases x' with
      | fall => exact absurd rfl hx
      | brk | cont | ret => exact hat
  | iteThen _ _ ihc iht =>
    intro p o h
    obtain ⟨hs, ⟨oc, hc⟩, ot, oe, ht, he, hj⟩ := check_ite_inv h
    have hw := cond_keeps hs hc (ihc p oc hc)
    obtain ⟨q2, hw2, hat2⟩ := iht p ot ht
    exact ⟨q2, wb_trans hw hw2, Outs.at_join hj (.inl hat2)⟩
  | iteElse _ _ ihc ihe =>
    intro p o h
    obtain ⟨hs, ⟨oc, hc⟩, ot, oe, ht, he, hj⟩ := check_ite_inv h
    have hw := cond_keeps hs hc (ihc p oc hc)
    obtain ⟨q2, hw2, hat2⟩ := ihe p oe he
    exact ⟨q2, wb_trans hw hw2, Outs.at_join hj (.inr hat2)⟩
  | loopDone _ ihc =>
    intro p o h
    obtain ⟨hs, _, ⟨oc, hc⟩, ob, hb, back, _, _, ex, hex, ho⟩ := check_loop_inv h
    subst ho
    exact ⟨p, cond_keeps hs hc (ihc p oc hc), joinPh_some hex (.inl rfl)⟩
  | loopBrk _ _ ihc ihb =>
    intro p o h
    obtain ⟨hs, _, ⟨oc, hc⟩, ob, hb, back, _, _, ex, hex, ho⟩ := check_loop_inv h
    have hw := cond_keeps hs hc (ihc p oc hc)
    obtain ⟨q2, hw2, hat2⟩ := ihb p ob hb
    subst ho
    exact ⟨q2, wb_trans hw hw2, joinPh_some hex (.inr hat2)⟩
  | loopRet _ _ ihc ihb =>
    intro p o h
    obtain ⟨hs, _, ⟨oc, hc⟩, ob, hb, _⟩ := check_loop_inv h
    have hw := cond_keeps hs hc (ihc p oc hc)
    obtain ⟨q2, hw2, hat2⟩ := ihb p ob hb
    exact ⟨q2, wb_trans hw hw2, hat2⟩
  | loopIter _ _ hx _ _ ihc ihb ihp ihl =>
    intro p o h
    obtain ⟨hs, hsp, ⟨oc, hc⟩, ob, hb, back, hback, hr, _⟩ := check_loop_inv h
    have hw := cond_keeps hs hc (ihc p oc hc)
    obtain ⟨q2, hw2, hat2⟩ := ihb p ob hb
    have hq2 : back = some q2 := by
      rcases hx with rfl | rfl
      · exact joinPh_some hback (.inl hat2)
      · exact joinPh_some hback (.inr hat2)
    obtain ⟨hq2p, op, hop⟩ := hr q2 hq2
    subst hq2p
    have hw3 := cond_keeps hsp hop (ihp q2 op hop)
    obtain ⟨q4, hw4, hat4⟩ := ihl q2 o h
    exact ⟨q4, wb_trans (wb_trans (wb_trans hw hw2) hw3) hw4, hat4⟩

def lockEvents (tr : List Ev) : List Ev := tr.filter (· != Ev.pk)

theorem wb_done {tr : List Ev} {q : Ph} (h : wb .done tr = some q) : q = .done ∧ lockEvents tr = [] := by
  induction tr with
  | nil => cases h; exact ⟨rfl, rfl⟩
  | cons e es ih =>
    cases e <;> simp [wb, Ph.ev] at h
    exact ih h

theorem wb_held {tr : List Ev} (h : wb .held tr = some .done) :
    ∃ k, lockEvents tr = List.replicate k Ev.tch ++ [Ev.rel] := by
  induction tr with
  | nil => cases h
  | cons e es ih =>
    cases e <;> simp [wb, Ph.ev] at h
    · exact ⟨0, congrArg (Ev.rel :: ·) (wb_done h).2⟩
    · obtain ⟨k, hk⟩ := ih h
      exact ⟨k + 1, congrArg (Ev.tch :: ·) hk⟩
    · exact ih h

/-- a trace accepted from `pre` to `done` is one critical section: acquire, touches, release -/
theorem wb_pre {tr : List Ev} (h : wb .pre tr = some .done) :
    ∃ k, lockEvents tr = Ev.acq :: (List.replicate k Ev.tch ++ [Ev.rel]) := by
  induction tr with
  | nil => cases h
  | cons e es ih =>
    cases e <;> simp [wb, Ph.ev] at h
    · obtain ⟨k, hk⟩ := wb_held h
      exact ⟨k, congrArg (Ev.acq :: ·) hk⟩
    · exact ih h

theorem disciplined_wb {s : Skel} (h : disciplined s = true) {tr : List Ev} {x : Exit} (hr : Runs s tr x) :
    (x = .fall ∨ x = .ret) ∧ wb .pre tr = some .done := by
  unfold disciplined at h
  cases hc : check s .pre with
  | none => simp [hc] at h
  | some o =>
    simp only [hc, Bool.and_eq_true, Bool.or_eq_true, beq_iff_eq] at h
    obtain ⟨⟨hf, hb⟩, hcn⟩ := h
    obtain ⟨q, hw, hat⟩ := check_sound hr .pre o hc
    cases x with
    | fall =>
      rcases hf with hf | hf <;> rw [Outs.at, hf] at hat
      · cases hat
      · cases hat; exact ⟨.inl rfl, hw⟩
    | brk => rw [Outs.at, hb] at hat; cases hat
    | cont => rw [Outs.at, hcn] at hat; cases hat
    | ret => cases (hat : q = .done); exact ⟨.inr rfl, hw⟩

section Machine
variable {σ ρ O : Type}

theorem exec_append (a b : List (σ × ρ → σ × ρ)) (x : σ × ρ) : exec (a ++ b) x = exec b (exec a x) := by
  simp [exec, List.foldl_append]

theorem seqRun_append (S : Sys σ ρ O) (s0 : σ) (l : List (Nat × O)) (i : Nat) (o : O) :
    seqRun S s0 (l ++ [(i, o)]) =
      (((S.sem o).run (seqRun S s0 l).1).1,
       (seqRun S s0 l).2 ++ [(i, o, ((S.sem o).run (seqRun S s0 l).1).2)]) := by
  induction l generalizing s0 with
  | nil => simp [seqRun]
  | cons x xs ih =>
    obtain ⟨j, o'⟩ := x
    simp only [List.cons_append, seqRun, ih]

theorem histOf_append (j i : Nat) (o : O) (r : ρ) (tr : List (Nat × O × ρ)) :
    histOf j (tr ++ [(i, o, r)]) = histOf j tr ++ (if i = j then [(o, r)] else []) := by
  unfold histOf
  rw [List.filterMap_append]
  by_cases h : i = j <;> simp [h]

theorem upd_self {α : Type} (f : Nat → α) (i : Nat) (a : α) : upd f i a i = a := by simp [upd]
theorem upd_other {α : Type} (f : Nat → α) (i j : Nat) (a : α) (h : j ≠ i) : upd f i a j = f j := by simp [upd, h]

theorem upd_cur_hist (f : Nat → Thread σ ρ O) (i : Nat) (c : Option (O × List (σ × ρ → σ × ρ) × ρ)) (j : Nat) :
    (upd f i { f i with cur := c } j).hist = (f j).hist := by
  by_cases hj : j = i
  · rw [hj, upd_self]
  · rw [upd_other _ _ _ _ hj]

/-! A step of thread `i` is an acquire (enabled while the lock is free and the client has a next
operation) or a step of the holder inside its operation: a micro-step, or the release when none is left. -/

section Step
variable {S : Sys σ ρ O} {s s' : State σ ρ O} {i : Nat} {o : O} {loc : ρ}

theorem step_acquire (hcur : (s.threads i).cur = none) (hh : s.holder = none)
    (hc : S.client i (s.threads i).hist = some o) :
    step S s i = some { s with holder := some i, log := s.log ++ [(i, o)],
                               threads := upd s.threads i { (s.threads i) with cur := some (o, (S.sem o).steps, (S.sem o).init) } } := by
  simp only [step, hcur, hh, hc]

theorem step_micro {f : σ × ρ → σ × ρ} {fs : List (σ × ρ → σ × ρ)}
    (hcur : (s.threads i).cur = some (o, f :: fs, loc)) (hh : s.holder = some i) :
    step S s i = some { s with sh := (f (s.sh, loc)).1,
                               threads := upd s.threads i { (s.threads i) with cur := some (o, fs, (f (s.sh, loc)).2) } } := by
  simp only [step, hcur, hh, if_true]

theorem step_release (hcur : (s.threads i).cur = some (o, [], loc)) (hh : s.holder = some i) :
    step S s i = some { s with holder := none,
                               threads := upd s.threads i { hist := (s.threads i).hist ++ [(o, loc)], cur := none } } := by
  simp only [step, hcur, hh, if_true]

theorem step_cases (h : step S s i = some s') :
    ((s.threads i).cur = none ∧ s.holder = none ∧ ∃ o, S.client i (s.threads i).hist = some o) ∨
    (s.holder = some i ∧ ∃ o rem loc, (s.threads i).cur = some (o, rem, loc)) := by
  unfold step at h
  simp only at h
  split at h
  · split at h
    · exact .inl ⟨‹_›, ‹_›, _, ‹_›⟩
    · cases h
  all_goals
    split at h
    · exact .inr ⟨‹_›, _, _, _, ‹_›⟩
    · cases h

end Step

theorem lin_init (S : Sys σ ρ O) (s0 : σ) : Lin S s0 ({ sh := s0 } : State σ ρ O) :=
  ⟨fun _ => ⟨rfl, fun _ => ⟨rfl, rfl⟩⟩, nofun, fun pre _ _ h => by simpa using h.length_le⟩

theorem lin_step {S : Sys σ ρ O} {s0 : σ} {s s' : State σ ρ O} {i : Nat} (h : Lin S s0 s)
    (hs : step S s i = some s') : Lin S s0 s' := by
  rcases step_cases hs with ⟨hcur, hh, o, hc⟩ | ⟨hh, o, rem, loc, hcur⟩
  · -- acquire: the operation enters the log with none of its micro-steps done
    rw [step_acquire hcur hh hc] at hs
    cases hs
    obtain ⟨hsh, hall⟩ := h.idle hh
    refine ⟨nofun, fun i' hi' => ?_, fun pre i' o' hp => ?_⟩
    · cases hi'
      exact ⟨s.log, o, [], (S.sem o).steps, (S.sem o).init, rfl, by simp only [upd_self], rfl, by rw [hsh]; rfl,
        fun j hj => by simp only [upd_other _ _ _ _ hj]; exact (hall j).1,
        fun j => (upd_cur_hist ..).trans (hall j).2⟩
    · rcases List.prefix_concat_iff.1 hp with heq | hpre
      · obtain ⟨rfl, h2⟩ := List.append_inj' heq rfl
        cases h2
        rw [← (hall i).2]; exact hc
      · exact h.legal pre i' o' hpre
  · obtain ⟨pre, o1, done, rem1, loc1, hlog, hc1, hsteps, hex, hoth, hhist⟩ := h.busy i hh
    cases hcur.symm.trans hc1
    cases rem with
    | cons f fs =>
      -- micro-step: one more of the holder's steps is done
      rw [step_micro hcur hh] at hs
      cases hs
      refine ⟨(fun hn => nomatch hh.symm.trans hn), fun i' hi' => ?_, h.legal⟩
      cases hh.symm.trans hi'
      exact ⟨pre, o, done ++ [f], fs, (f (s.sh, loc)).2, hlog, by simp only [upd_self], by rw [hsteps, List.append_assoc]; rfl,
        by rw [exec_append, ← hex]; rfl, fun j hj => by simp only [upd_other _ _ _ _ hj]; exact hoth j hj,
        fun j => (upd_cur_hist ..).trans (hhist j)⟩
    | nil =>
      -- release: the holder's operation has run to its end on top of the sequential run of `pre`
      rw [step_release hcur hh] at hs
      cases hs
      rw [List.append_nil] at hsteps
      have hrun : (S.sem o).run (seqRun S s0 pre).1 = (s.sh, loc) := by rw [MicroOp.run, hsteps]; exact hex.symm
      refine ⟨fun _ => ⟨?_, fun j => ?_⟩, nofun, h.legal⟩
      · simp only [hlog, seqRun_append, hrun]
      · simp only [hlog, seqRun_append, hrun, histOf_append]
        by_cases hj : j = i
        · rw [hj, upd_self, if_pos rfl, ← hhist i]; exact ⟨rfl, rfl⟩
        · rw [upd_other _ _ _ _ hj, if_neg (Ne.symm hj), List.append_nil]; exact ⟨hoth j hj, hhist j⟩

theorem reachable_lin {S : Sys σ ρ O} {s0 : σ} {s : State σ ρ O} (hr : Reachable S s0 s) : Lin S s0 s := by
  induction hr with
  | init => exact lin_init S s0
  | step i _ hs ih => exact lin_step ih hs

theorem seqRun_prefix_induct {S : Sys σ ρ O} {s0 : σ} {J : σ → List (Nat × O × ρ) → Prop} (h0 : J s0 [])
    (hstep : ∀ s tr i o, J s tr → S.client i (histOf i tr) = some o →
      J ((S.sem o).run s).1 (tr ++ [(i, o, ((S.sem o).run s).2)]))
    (log : List (Nat × O))
    (hlegal : ∀ pre i o, pre ++ [(i, o)] <+: log → S.client i (histOf i (seqRun S s0 pre).2) = some o) :
    ∀ pre, pre <+: log → J (seqRun S s0 pre).1 (seqRun S s0 pre).2 := by
  intro pre hp
  rw [List.prefix_iff_eq_take.1 hp]
  generalize pre.length = n
  induction n with
  | zero => exact h0
  | succ n ih =>
    by_cases hn : n < log.length
    · have ht : log.take (n + 1) = log.take n ++ [log[n]] := by rw [List.take_add_one]; simp [hn]
      rw [ht, seqRun_append]
      exact hstep _ _ _ _ ih (hlegal _ _ _ (ht ▸ List.take_prefix _ _))
    · rw [List.take_of_length_le (by omega)]
      rwa [List.take_of_length_le (by omega)] at ih

/-- **Sequential invariants transfer.** Every reachable state of the concurrent machine is explained by
the sequential run of the operations that have completed (all logged ones, or all but the holder's), and
that run satisfies every property `J` of sequential runs (state and results so far) that every operation
issued by its client on the results so far preserves. -/
theorem reachable_seq {S : Sys σ ρ O} {s0 : σ} {J : σ → List (Nat × O × ρ) → Prop} (h0 : J s0 [])
    (hstep : ∀ s tr i o, J s tr → S.client i (histOf i tr) = some o →
      J ((S.sem o).run s).1 (tr ++ [(i, o, ((S.sem o).run s).2)]))
    {s : State σ ρ O} (hr : Reachable S s0 s) :
    ∃ pre, pre <+: s.log ∧ (∀ j, (s.threads j).hist = histOf j (seqRun S s0 pre).2) ∧
      (s.holder = none → s.sh = (seqRun S s0 pre).1) ∧ J (seqRun S s0 pre).1 (seqRun S s0 pre).2 := by
  have hl := reachable_lin hr
  have key := seqRun_prefix_induct h0 hstep s.log hl.legal
  cases hh : s.holder with
  | none =>
    obtain ⟨h1, h2⟩ := hl.idle hh
    exact ⟨s.log, List.prefix_refl _, fun j => (h2 j).2, fun _ => h1, key _ (List.prefix_refl _)⟩
  | some i =>
    obtain ⟨pre, o, done, rem, loc, hlog, _, _, _, _, hhist⟩ := hl.busy i hh
    have hp : pre <+: s.log := by rw [hlog]; exact List.prefix_append _ _
    exact ⟨pre, hp, hhist, nofun, key pre hp⟩

theorem holder_finishes (S : Sys σ ρ O) (i : Nat) (rem : List (σ × ρ → σ × ρ)) :
    ∀ (s : State σ ρ O) (o : O) (loc : ρ), s.holder = some i → (s.threads i).cur = some (o, rem, loc) →
      ∃ s', stepN S i (rem.length + 1) s = some s' ∧ s'.holder = none := by
  induction rem with
  | nil =>
    intro s o loc hh hc
    exact ⟨_, by rw [List.length_nil, stepN, step_release hc hh]; rfl, rfl⟩
  | cons f fs ih =>
    intro s o loc hh hc
    rw [List.length_cons, stepN, step_micro hc hh]
    exact ih _ o (f (s.sh, loc)).2 hh (by simp only [upd_self])

/-- deadlock freedom: some thread can step, or nobody holds the lock and every client is finished -/
theorem progress {S : Sys σ ρ O} {s0 : σ} {s : State σ ρ O} (h : Lin S s0 s) :
    (∃ i s', step S s i = some s') ∨ (s.holder = none ∧ ∀ i, S.client i (s.threads i).hist = none) := by
  cases hh : s.holder with
  | none =>
    by_cases hex : ∃ i o, S.client i (s.threads i).hist = some o
    · obtain ⟨i, o, hc⟩ := hex
      exact .inl ⟨i, _, step_acquire ((h.idle hh).2 i).1 hh hc⟩
    · exact .inr ⟨rfl, fun i => Option.eq_none_iff_forall_ne_some.2 fun o hc => hex ⟨i, o, hc⟩⟩
  | some i =>
    obtain ⟨_, o, _, rem, loc, _, hc, _⟩ := h.busy i hh
    cases rem with
    | nil => exact .inl ⟨i, _, step_release hc hh⟩
    | cons f fs => exact .inl ⟨i, _, step_micro hc hh⟩

theorem reachable_runSched {S : Sys σ ρ O} {s0 : σ} (sched : List Nat) :
    ∀ {s s' : State σ ρ O}, Reachable S s0 s → runSched S sched s = some s' → Reachable S s0 s' := by
  induction sched with
  | nil => intro s s' hr h; simp [runSched] at h; subst h; exact hr
  | cons i rest ih =>
    intro s s' hr h
    simp only [runSched] at h
    cases hs : step S s i with
    | none => simp [hs] at h
    | some s1 => simp only [hs] at h; exact ih (Reachable.step i hr hs) h

end Machine
end Firefly.Locked
