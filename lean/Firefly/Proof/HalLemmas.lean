import Firefly.Spec.C16
import Firefly.Proof.RingLemmas
import Firefly.Proof.PrefixLemmas
/-!
Lemmas for C16 on the bring-up model `Model/Hal.lean`.  Under the invariant `Inv` (sink, link and log agree)
a run of writes, through the prefix writer or not and however chunked, is one `writeTo` of what the sink
sees.  `Probed s s' ds` says what probing the drivers `ds` does to a state: one driver adds its line-prefixed
log and may complete the console/TTY pair (`probeOne_spec`, at `[d]`), steps compose (`Probed.cons`), so the
loop is `probeFold_spec`; `bringUp_spec` puts the log output before and after around it as `BroughtUp`.
-/
namespace Firefly.Hal
open Firefly.Ring Firefly.Prefix Firefly.C16.Spec

/-- the state without the log data (ring, ttyRecv, logged) -/
structure Ctl where
  activeConsole : Option Nat
  activeTTY : Option Nat
  activeDrivers : List Nat
  sink : Option Nat
  ttyAttached : Option Nat
  ttyState : Nat
  ttyAttachCalls : Nat
  ttySetStateCalls : Nat
  probes : List Nat
  inits : List Nat
  linkedAt : Option Nat

def Hal.ctl (s : Hal) : Ctl :=
  ⟨s.activeConsole, s.activeTTY, s.activeDrivers, s.sink, s.ttyAttached, s.ttyState, s.ttyAttachCalls,
    s.ttySetStateCalls, s.probes, s.inits, s.linkedAt⟩

theorem writeTo_ctl (st : Hal) (tgt : Option Nat) (bs : List UInt8) : (st.writeTo tgt bs).ctl = st.ctl := by
  cases tgt <;> rfl

theorem writeTo_logged (st : Hal) (tgt : Option Nat) (bs : List UInt8) :
    (st.writeTo tgt bs).logged = st.logged ++ bs := by
  cases tgt <;> simp [Hal.writeTo]

/-- the invariant tying the sink, the link and the log together (a conjunction and not a structure: it reads a few
fields of the state, and a state that differs in the others satisfies it by the same proof term) -/
def Inv (st : Hal) : Prop :=
  st.ring.WF ∧
  (st.sink = if st.activeConsole.isSome && st.activeTTY.isSome then st.activeTTY else none) ∧
  (st.sink = none → st.ttyRecv = [] ∧ st.linkedAt = none ∧ st.ring.contents = lastN cap st.logged ∧
      st.ttyAttached = none ∧ st.ttyState = stateInactive) ∧
  (∀ t, st.sink = some t → st.ttyAttached = st.activeConsole ∧ st.ttyState = stateActive ∧
      st.ring.contents = [] ∧
      ∃ n, st.linkedAt = some n ∧ n ≤ st.logged.length ∧
        st.ttyRecv = lastN cap (st.logged.take n) ++ st.logged.drop n) ∧
  -- the terminal is attached and activated exactly once, at the link (never re-attached: `VT.AttachTo` resets it)
  (st.ttyAttachCalls = (if st.sink.isSome then 1 else 0) ∧ st.ttySetStateCalls = (if st.sink.isSome then 1 else 0))

theorem Inv.sink {st : Hal} (h : Inv st) :
    st.sink = if st.activeConsole.isSome && st.activeTTY.isSome then st.activeTTY else none := h.2.1
theorem Inv.unlinked {st : Hal} (h : Inv st) (hs : st.sink = none) :
    st.ttyRecv = [] ∧ st.linkedAt = none ∧ st.ring.contents = lastN cap st.logged ∧
      st.ttyAttached = none ∧ st.ttyState = stateInactive := h.2.2.1 hs
theorem Inv.linked {st : Hal} (h : Inv st) {t : Nat} (hs : st.sink = some t) :
    st.ttyAttached = st.activeConsole ∧ st.ttyState = stateActive ∧ st.ring.contents = [] ∧
      ∃ n, st.linkedAt = some n ∧ n ≤ st.logged.length ∧
        st.ttyRecv = lastN cap (st.logged.take n) ++ st.logged.drop n := h.2.2.2.1 t hs
theorem Inv.once {st : Hal} (h : Inv st) :
    st.ttyAttachCalls = (if st.sink.isSome then 1 else 0) ∧ st.ttySetStateCalls = (if st.sink.isSome then 1 else 0) :=
  h.2.2.2.2

theorem writeTo_inv (st : Hal) (bs : List UInt8) (h : Inv st) : Inv (st.writeTo st.sink bs) := by
  obtain ⟨hwf, hsink, hnone, hsome, hcnt⟩ := h
  cases hs : st.sink with
  | none =>
    obtain ⟨h1, h2, h3, h4, h5⟩ := hnone hs
    refine ⟨write_wf _ _ hwf, hsink, fun _ => ⟨h1, h2, ?_, h4, h5⟩, fun t ht => absurd (hs ▸ ht) nofun, hcnt⟩
    show (st.ring.write bs).contents = lastN cap (st.logged ++ bs)
    rw [write_contents _ _ hwf, h3, lastN_lastN_append]
  | some t0 =>
    obtain ⟨h1, h2, h3, n, h4, h5, h6⟩ := hsome t0 hs
    refine ⟨hwf, hsink, fun hn => absurd (hs ▸ hn) nofun, fun t _ => ⟨h1, h2, h3, n, h4, ?_, ?_⟩, hcnt⟩
    · simp only [Hal.writeTo, List.length_append]; omega
    · show st.ttyRecv ++ bs = lastN cap ((st.logged ++ bs).take n) ++ (st.logged ++ bs).drop n
      rw [h6, List.take_append_of_le_length h5, List.drop_append_of_le_length h5, List.append_assoc]

theorem writeTo_nil (st : Hal) (tgt : Option Nat) : st.writeTo tgt [] = st := by
  cases tgt <;> simp [Hal.writeTo, Ring.write]

theorem writeTo_append (st : Hal) (tgt : Option Nat) (a b : List UInt8) :
    (st.writeTo tgt a).writeTo tgt b = st.writeTo tgt (a ++ b) := by
  cases tgt <;> simp [Hal.writeTo, write_append]

theorem foldl_writeTo (tgt : Option Nat) (cs : List (List UInt8)) (st : Hal) :
    cs.foldl (fun st c => st.writeTo tgt c) st = st.writeTo tgt cs.flatten :=
  foldl_flatten (fun st => writeTo_nil st tgt) (fun st => writeTo_append st tgt) cs st

theorem pwStream_spec (pw : PW) (ps : List (List UInt8)) :
    (pwStream pw ps).1 = prefixStream pw.pfx pw.atStart ps.flatten ∧
    (pwStream pw ps).2.atStart = lineState pw.atStart ps.flatten ∧
    (pwStream pw ps).2.pfx = pw.pfx := by
  induction ps generalizing pw with
  | nil => simp [pwStream, prefixStream, lineState]
  | cons p t ih =>
    obtain ⟨i1, i2, i3⟩ := ih (pw.write p).pw
    simp only [pwStream, List.flatten_cons]
    rw [i1, i2, i3, write_stream, write_atStart, write_pfx, prefixStream_append, lineState_append]
    exact ⟨rfl, rfl, rfl⟩

theorem pwWrites_eq (tgt : Option Nat) (s : Hal × PW) (ps : List (List UInt8)) :
    pwWrites tgt s ps = (s.1.writeTo tgt (pwStream s.2 ps).1, (pwStream s.2 ps).2) := by
  unfold pwWrites
  induction ps generalizing s with
  | nil => simp [pwStream, writeTo_nil]
  | cons p t ih => rw [List.foldl_cons, ih, pwWrite, foldl_writeTo, writeTo_append]; rfl

theorem bytewise_flatten (bs : List UInt8) : (bytewise bs).flatten = bs := by
  rw [bytewise, ← List.flatMap_def, List.flatMap_singleton']

/-- the state after a probed driver's `DriverInit` output and status line were written -/
def afterLogs (s : Hal × PW) (d : Driver) : Hal × PW :=
  pwWrites s.1.sink
    (pwWrites s.1.sink ({ s.1 with probes := s.1.probes ++ [d.id], inits := s.1.inits ++ [d.id] }, { s.2 with pfx := halPrefix d })
      d.initLog)
    (bytewise (tailOf d))

theorem probeOne_eq (s : Hal × PW) (d : Driver) :
    probeOne s d =
      if d.probeOk = false then ({ s.1 with probes := s.1.probes ++ [d.id] }, s.2)
      else match d.initErr with
        | some _ => afterLogs s d
        | none =>
          ({ (afterLogs s d).1.onDriverInit d with activeDrivers := ((afterLogs s d).1.onDriverInit d).activeDrivers ++ [d.id] },
            (afterLogs s d).2) := by
  unfold probeOne afterLogs
  split <;> rfl

theorem afterLogs_eq (s : Hal × PW) (d : Driver) :
    (afterLogs s d).1 =
      ({ s.1 with probes := s.1.probes ++ [d.id], inits := s.1.inits ++ [d.id] } : Hal).writeTo s.1.sink
        (prefixStream (halPrefix d) s.2.atStart (d.initLog.flatten ++ tailOf d)) ∧
    (afterLogs s d).2.atStart = true := by
  obtain ⟨q1, q2, q3⟩ := pwStream_spec { s.2 with pfx := halPrefix d } d.initLog
  obtain ⟨r1, r2, _⟩ := pwStream_spec (pwStream { s.2 with pfx := halPrefix d } d.initLog).2 (bytewise (tailOf d))
  unfold afterLogs
  rw [pwWrites_eq, pwWrites_eq, writeTo_append, r1, r2, q1, q2, q3, bytewise_flatten, ← prefixStream_append]
  refine ⟨rfl, ?_⟩
  unfold tailOf
  split <;> exact lineState_snoc_newline _ _

theorem afterLogs_spec (s : Hal × PW) (d : Driver) (hinv : Inv s.1) :
    let a := afterLogs s d
    Inv a.1 ∧ a.1.ctl = { s.1.ctl with probes := s.1.probes ++ [d.id], inits := s.1.inits ++ [d.id] } ∧
    a.1.logged = s.1.logged ++ prefixStream (halPrefix d) s.2.atStart (d.initLog.flatten ++ tailOf d) ∧
    a.2.atStart = true := by
  obtain ⟨e, hat⟩ := afterLogs_eq s d
  simp only [e, hat]
  exact ⟨writeTo_inv { s.1 with probes := s.1.probes ++ [d.id], inits := s.1.inits ++ [d.id] } _ hinv,
    writeTo_ctl _ _ _, writeTo_logged _ _ _, trivial⟩

theorem link_spec (st : Hal) (t c : Nat) (hwf : st.ring.WF) (hr : st.ttyRecv = [])
    (hc : st.ring.contents = lastN cap st.logged) (hcon : st.activeConsole = some c) (htty : st.activeTTY = some t)
    (hcnt : st.ttyAttachCalls = 0 ∧ st.ttySetStateCalls = 0) :
    Inv st.link ∧ st.link.activeConsole = st.activeConsole ∧ st.link.activeTTY = st.activeTTY ∧
    st.link.activeDrivers = st.activeDrivers ∧ st.link.probes = st.probes ∧ st.link.inits = st.inits ∧
    st.link.logged = st.logged ∧ st.link.sink = some t ∧ st.link.linkedAt = some st.logged.length := by
  obtain ⟨d1, d2, d3⟩ := drainAll_spec st.ring hwf
  unfold Hal.link
  rw [htty]
  simp only [Hal.setOutputSink]
  refine ⟨⟨d3, ?_, ?_, ?_, ?_⟩, trivial, trivial, trivial, trivial, trivial, trivial, trivial, trivial⟩
  rotate_left 3
  · simp [hcnt.1, hcnt.2]
  · simp [hcon]
  · intro h; simp at h
  · intro t' _
    refine ⟨rfl, rfl, d2, st.logged.length, rfl, Nat.le_refl _, ?_⟩
    -- (explicit rewriting: `simp` here leaves a `rfl` the kernel can only check by unfolding the drain loop)
    show st.ttyRecv ++ st.ring.drainAll.1 = lastN cap (st.logged.take st.logged.length) ++ st.logged.drop st.logged.length
    rw [hr, d1, hc, List.take_length, List.drop_length, List.nil_append, List.append_nil]

/-- how a console/TTY slot evolves: once taken it stays, otherwise the candidate takes it -/
def pick (cur : Option Nat) (o : Option Driver) : Option Nat :=
  match cur with
  | some c => some c
  | none => o.map (·.id)

theorem pick_none (cur : Option Nat) : pick cur none = cur := by cases cur <;> rfl

theorem pick_isSome (cur : Option Nat) (o : Option Driver) : (pick cur o).isSome = (cur.isSome || o.isSome) := by
  cases cur <;> cases o <;> rfl

theorem pick_pick (cur : Option Nat) (a b : Option Driver) : pick (pick cur a) b = pick cur (a.or b) := by
  cases cur <;> cases a <;> rfl

theorem inv_sink_ne_none (st : Hal) (h : Inv st) :
    (st.sink ≠ none) ↔ (st.activeConsole.isSome && st.activeTTY.isSome) = true := by
  rw [h.sink]
  cases hc : st.activeConsole <;> cases ht : st.activeTTY <;> simp

theorem onDriverInit_eq (st : Hal) (d : Driver) (hinv : Inv st) :
    st.onDriverInit d =
      if st.sink ≠ none then st
      else
        let st' : Hal := { st with
          activeConsole := pick st.activeConsole (if d.kind == .console then some d else none),
          activeTTY := pick st.activeTTY (if d.kind == .tty then some d else none) }
        if st'.activeConsole.isSome ∧ st'.activeTTY.isSome then st'.link else st' := by
  have hs := hinv.sink
  obtain ⟨c, t⟩ := st
  simp only at hs
  subst hs
  unfold Hal.onDriverInit
  rcases hk : d.kind with _ | _ | _ <;> cases c <;> cases t <;> simp [pick]

theorem onDriverInit_spec (st : Hal) (d : Driver) (hinv : Inv st) :
    let r := st.onDriverInit d
    Inv r ∧
    r.activeConsole = pick st.activeConsole (if d.kind == .console then some d else none) ∧
    r.activeTTY = pick st.activeTTY (if d.kind == .tty then some d else none) ∧
    r.activeDrivers = st.activeDrivers ∧ r.probes = st.probes ∧ r.inits = st.inits ∧ r.logged = st.logged ∧
    r.linkedAt = if st.sink = none ∧ r.sink ≠ none then some st.logged.length else st.linkedAt := by
  intro r
  have e : r = _ := onDriverInit_eq st d hinv
  by_cases hs : st.sink = none
  · rw [if_neg (fun h => h hs)] at e
    obtain ⟨hwf, hsink, hnone, _, hcnt⟩ := hinv
    obtain ⟨n1, n2, n3, n4, n5⟩ := hnone hs
    rw [hs] at hcnt
    generalize pick st.activeConsole (if d.kind == .console then some d else none) = c' at e ⊢
    generalize pick st.activeTTY (if d.kind == .tty then some d else none) = t' at e ⊢
    simp only at e
    by_cases hL : c'.isSome ∧ t'.isSome
    · obtain ⟨c, rfl⟩ := Option.isSome_iff_exists.1 hL.1
      obtain ⟨t, rfl⟩ := Option.isSome_iff_exists.1 hL.2
      obtain ⟨i, l1, l2, l3, l4, l5, l6, l7, l8⟩ :=
        link_spec { st with activeConsole := some c, activeTTY := some t } t c hwf n1 n3 rfl rfl hcnt
      rw [if_pos hL] at e
      rw [e]
      exact ⟨i, l1, l2, l3, l4, l5, l6, by rw [l7, l8, if_pos ⟨hs, nofun⟩]⟩
    · rw [if_neg hL] at e
      rw [e]
      refine ⟨⟨hwf, ?_, fun _ => ⟨n1, n2, n3, n4, n5⟩, fun t h => absurd (hs ▸ h) nofun, hs ▸ hcnt⟩,
        rfl, rfl, rfl, rfl, rfl, rfl, (if_neg fun h => h.2 hs).symm⟩
      show st.sink = if c'.isSome && t'.isSome then t' else none
      rw [hs, if_neg (by simpa using hL)]
  · -- already linked: both slots are taken
    rw [if_pos hs] at e
    obtain ⟨hc, ht⟩ := Bool.and_eq_true_iff.1 ((inv_sink_ne_none st hinv).1 hs)
    obtain ⟨c, hc⟩ := Option.isSome_iff_exists.1 hc
    obtain ⟨t, ht⟩ := Option.isSome_iff_exists.1 ht
    rw [e]
    exact ⟨hinv, by rw [hc]; rfl, by rw [ht]; rfl, rfl, rfl, rfl, rfl, (if_neg fun h => hs h.1).symm⟩

/-- probing the drivers `ds`, in this order, takes `s` to `s'` -/
structure Probed (s s' : Hal × PW) (ds : List Driver) : Prop where
  inv : Inv s'.1
  atStart : s'.2.atStart = true
  probes : s'.1.probes = s.1.probes ++ ds.map (·.id)
  inits : s'.1.inits = s.1.inits ++ (ds.filter (·.probeOk)).map (·.id)
  console : s'.1.activeConsole = pick s.1.activeConsole (firstOf .console ds)
  tty : s'.1.activeTTY = pick s.1.activeTTY (firstOf .tty ds)
  drivers : s'.1.activeDrivers = s.1.activeDrivers ++ activeIds ds
  logged : s'.1.logged = s.1.logged ++ (ds.map driverLog).flatten
  /-- the link happens right after the status line of the driver that completes the pair, and only once -/
  linkedAt : s'.1.linkedAt =
    if s.1.sink = none then linkMoment s.1.logged.length ds s.1.activeConsole.isSome s.1.activeTTY.isSome
    else s.1.linkedAt

theorem firstOf_some {k : Kind} {ds : List Driver} {d : Driver} (h : firstOf k ds = some d) :
    d ∈ ds ∧ succ d = true ∧ d.kind = k := by
  have := List.find?_some h
  simp only [Bool.and_eq_true, beq_iff_eq] at this
  exact ⟨List.mem_of_find?_eq_some h, this⟩

theorem firstOf_append (k : Kind) (a b : List Driver) : firstOf k (a ++ b) = (firstOf k a).or (firstOf k b) :=
  List.find?_append

theorem firstOf_single (k : Kind) (d : Driver) : firstOf k [d] = if succ d && d.kind == k then some d else none := by
  simp only [firstOf, List.find?_cons, List.find?_nil]
  cases (succ d && d.kind == k) <;> rfl

theorem Probed.nil {s : Hal × PW} (hinv : Inv s.1) (hat : s.2.atStart = true) : Probed s s [] := by
  refine ⟨hinv, hat, ?_, ?_, ?_, ?_, ?_, ?_, ?_⟩ <;> simp [firstOf, activeIds, pick_none, linkMoment, linkCount]
  exact fun hs => (hinv.unlinked hs).2.1

theorem probeOne_spec (s : Hal × PW) (d : Driver) (hinv : Inv s.1) (hat : s.2.atStart = true) :
    Probed s (probeOne s d) [d] := by
  -- the step in its own vocabulary: `d` alone decides what is appended and who takes a slot
  have step :
    Inv (probeOne s d).1 ∧ (probeOne s d).2.atStart = true ∧
    (probeOne s d).1.probes = s.1.probes ++ [d.id] ∧
    (probeOne s d).1.inits = s.1.inits ++ (if d.probeOk then [d.id] else []) ∧
    (probeOne s d).1.activeConsole = pick s.1.activeConsole (if succ d && d.kind == .console then some d else none) ∧
    (probeOne s d).1.activeTTY = pick s.1.activeTTY (if succ d && d.kind == .tty then some d else none) ∧
    (probeOne s d).1.activeDrivers = s.1.activeDrivers ++ (if succ d then [d.id] else []) ∧
    (probeOne s d).1.logged = s.1.logged ++ driverLog d ∧
    (probeOne s d).1.linkedAt =
      if s.1.sink = none ∧ (probeOne s d).1.sink ≠ none then some (s.1.logged ++ driverLog d).length
      else s.1.linkedAt := by
    rw [probeOne_eq]
    cases hp : d.probeOk with
    | false =>
      simp only [if_true, succ, hp, Bool.false_and, Bool.false_eq_true, if_false, List.append_nil, driverLog,
        pick_none]
      exact ⟨hinv, hat, by simp⟩
    | true =>
      obtain ⟨a1, a2, a3, a4⟩ := afterLogs_spec s d hinv
      rw [hat] at a3
      simp only [Bool.true_eq_false, if_false, if_true, succ, hp, Bool.true_and, driverLog]
      cases he : d.initErr with
      | some msg =>
        simp only [Option.isNone_some, Bool.false_and, Bool.false_eq_true, if_false, List.append_nil, pick_none]
        exact ⟨a1, a4, congrArg Ctl.probes a2, congrArg Ctl.inits a2, congrArg Ctl.activeConsole a2,
          congrArg Ctl.activeTTY a2, congrArg Ctl.activeDrivers a2, a3,
          (congrArg Ctl.linkedAt a2).trans (if_neg fun h => h.2 ((congrArg Ctl.sink a2).trans h.1)).symm⟩
      | none =>
        obtain ⟨o1, o2, o3, o4, o5, o6, o7, o8⟩ := onDriverInit_spec (afterLogs s d).1 d a1
        simp only [Option.isNone_none, Bool.true_and, if_true]
        refine ⟨o1, a4, o5.trans (congrArg Ctl.probes a2), o6.trans (congrArg Ctl.inits a2),
          o2.trans ?_, o3.trans ?_, ?_, o7.trans a3, o8.trans ?_⟩
        · rw [show (afterLogs s d).1.activeConsole = s.1.activeConsole from congrArg Ctl.activeConsole a2]
        · rw [show (afterLogs s d).1.activeTTY = s.1.activeTTY from congrArg Ctl.activeTTY a2]
        · show ((afterLogs s d).1.onDriverInit d).activeDrivers ++ [d.id] = _
          rw [o4, show (afterLogs s d).1.activeDrivers = s.1.activeDrivers from congrArg Ctl.activeDrivers a2]
        · rw [show (afterLogs s d).1.sink = s.1.sink from congrArg Ctl.sink a2,
            show (afterLogs s d).1.linkedAt = s.1.linkedAt from congrArg Ctl.linkedAt a2, a3]
  obtain ⟨p1, p2, p3, p4, p5, p6, p7, p8, p9⟩ := step
  refine ⟨p1, p2, p3, ?_, by rw [p5, firstOf_single], by rw [p6, firstOf_single], ?_, by rw [p8]; simp, ?_⟩
  · rw [p4]; simp only [List.filter_cons, List.filter_nil]; cases d.probeOk <;> rfl
  · rw [p7]; simp only [activeIds, List.filter_cons, List.filter_nil]; cases succ d <;> rfl
  · have hb := inv_sink_ne_none _ p1
    rw [p5, p6, pick_isSome, pick_isSome] at hb
    rw [p9]
    simp only [linkMoment, linkCount]
    by_cases hs : s.1.sink = none
    · by_cases hs' : (probeOne s d).1.sink = none
      · rw [if_neg (fun h => h.2 hs'), if_pos hs, if_neg (by simpa [hs'] using hb)]
        exact (hinv.unlinked hs).2.1
      · rw [if_pos ⟨hs, hs'⟩, if_pos hs, if_pos (by simpa using hb.1 hs')]
        simp
    · rw [if_neg (fun h => hs h.1), if_neg hs]

/-- probing `d` and then `t` is probing `d :: t` -/
theorem Probed.cons {s s' s'' : Hal × PW} {d : Driver} {t : List Driver} (hinv : Inv s.1)
    (h1 : Probed s s' [d]) (h2 : Probed s' s'' t) : Probed s s'' (d :: t) where
  inv := h2.inv
  atStart := h2.atStart
  probes := by rw [h2.probes, h1.probes, List.append_assoc]; rfl
  inits := by rw [h2.inits, h1.inits, List.append_assoc, ← List.map_append, ← List.filter_append]; rfl
  console := by rw [h2.console, h1.console, pick_pick, ← firstOf_append]; rfl
  tty := by rw [h2.tty, h1.tty, pick_pick, ← firstOf_append]; rfl
  drivers := by
    rw [h2.drivers, h1.drivers, List.append_assoc]
    simp only [activeIds, ← List.map_append, ← List.filter_append]; rfl
  logged := by rw [h2.logged, h1.logged, List.append_assoc, ← List.flatten_append, ← List.map_append]; rfl
  linkedAt := by
    have e1 : s'.1.activeConsole.isSome = (s.1.activeConsole.isSome || (succ d && d.kind == Kind.console)) := by
      rw [h1.console, pick_isSome, firstOf_single]; cases (succ d && d.kind == Kind.console) <;> rfl
    have e2 : s'.1.activeTTY.isSome = (s.1.activeTTY.isSome || (succ d && d.kind == Kind.tty)) := by
      rw [h1.tty, pick_isSome, firstOf_single]; cases (succ d && d.kind == Kind.tty) <;> rfl
    have hb := inv_sink_ne_none _ h1.inv
    rw [e1, e2] at hb
    rw [h2.linkedAt, h1.linkedAt, h1.logged]
    simp only [linkMoment, linkCount, e1, e2]
    by_cases hs : s.1.sink = none
    · by_cases hs' : s'.1.sink = none
      · rw [if_pos hs', if_pos hs, if_neg (by simpa [hs'] using hb)]
        cases linkCount t (s.1.activeConsole.isSome || (succ d && d.kind == Kind.console))
            (s.1.activeTTY.isSome || (succ d && d.kind == Kind.tty)) with
        | none => rfl
        | some j => simp; omega
      · rw [if_neg hs', if_pos hs, if_pos hs, if_pos (hb.1 hs'), if_pos (hb.1 hs')]
        simp
    · -- linked before: still linked
      have hs' : s'.1.sink ≠ none := by
        have := Bool.and_eq_true_iff.1 ((inv_sink_ne_none _ hinv).1 hs)
        rw [hb, this.1, this.2]; rfl
      rw [if_neg hs', if_neg hs, if_neg hs]

theorem probeFold_spec (ds : List Driver) (s : Hal × PW) (hinv : Inv s.1) (hat : s.2.atStart = true) :
    Probed s (ds.foldl probeOne s) ds := by
  induction ds generalizing s with
  | nil => exact .nil hinv hat
  | cons d t ih =>
    have p := probeOne_spec s d hinv hat
    exact p.cons hinv (ih _ p.inv p.atStart)

theorem boot_inv (p : Nat) (hp : p < N) : Inv (boot p) := by
  refine ⟨emptyAt_wf p hp, rfl, ?_, ?_, ⟨rfl, rfl⟩⟩
  · intro _
    refine ⟨rfl, rfl, ?_, rfl, rfl⟩
    show (emptyAt p).contents = lastN cap []
    rw [emptyAt_contents, lastN_nil]
  · intro t h; cases h

theorem log_append (st : Hal) (a b : List UInt8) : (st.log a).log b = st.log (a ++ b) := by
  show (st.log a).writeTo (st.writeTo st.sink a).sink b = _
  rw [show (st.writeTo st.sink a).sink = st.sink from congrArg Ctl.sink (writeTo_ctl st _ a)]
  exact writeTo_append ..

theorem logs_eq (st : Hal) (cs : List (List UInt8)) : cs.foldl Hal.log st = st.log cs.flatten :=
  foldl_flatten (fun st => writeTo_nil st _) log_append cs st

theorem logs_spec (st : Hal) (cs : List (List UInt8)) (hinv : Inv st) :
    Inv (cs.foldl Hal.log st) ∧ (cs.foldl Hal.log st).ctl = st.ctl ∧
    (cs.foldl Hal.log st).logged = st.logged ++ cs.flatten := by
  rw [logs_eq]
  exact ⟨writeTo_inv st _ hinv, writeTo_ctl st _ _, writeTo_logged st _ _⟩

/-- the state after bring-up, with `ds` the drivers in probe order -/
structure BroughtUp (before : List (List UInt8)) (ds : List Driver) (after : List (List UInt8)) (st : Hal) : Prop where
  inv : Inv st
  probes : st.probes = ds.map (·.id)
  inits : st.inits = (ds.filter (·.probeOk)).map (·.id)
  console : st.activeConsole = (firstOf .console ds).map (·.id)
  tty : st.activeTTY = (firstOf .tty ds).map (·.id)
  drivers : st.activeDrivers = activeIds ds
  logged : st.logged = before.flatten ++ (ds.map driverLog).flatten ++ after.flatten
  linkedAt : st.linkedAt = linkMoment before.flatten.length ds false false

theorem bringUp_spec (sort : List Driver → List Driver) (p : Nat) (hp : p < N) (before : List (List UInt8))
    (regs : List Driver) (after : List (List UInt8)) :
    BroughtUp before (sort regs) after (bringUp sort p before regs after) := by
  generalize hst : bringUp sort p before regs after = st
  -- the log before bring-up is one write to the early buffer: the control part is still that of `boot`, by `rfl`
  have e : st = after.foldl Hal.log (probe ((boot p).log before.flatten) (sort regs)) := by
    rw [← hst, ← logs_eq]; rfl
  have f := probeFold_spec (sort regs) ((boot p).log before.flatten, ({} : PW)) (writeTo_inv _ _ (boot_inv p hp)) rfl
  obtain ⟨a1, a2, a3⟩ := logs_spec _ after f.inv
  rw [e]
  exact ⟨a1, (congrArg Ctl.probes a2).trans f.probes, (congrArg Ctl.inits a2).trans f.inits,
    (congrArg Ctl.activeConsole a2).trans f.console, (congrArg Ctl.activeTTY a2).trans f.tty,
    (congrArg Ctl.activeDrivers a2).trans f.drivers, a3.trans (by rw [f.logged]; rfl),
    (congrArg Ctl.linkedAt a2).trans f.linkedAt⟩

end Firefly.Hal
