import Firefly.Model.Vt
import Firefly.Spec.Term
import Firefly.Proof.VtCons
import Firefly.Proof.CellArith
import Firefly.Proof.FbMem
/-!
Lemmas for C17/C18: arithmetic of cell offsets, the byte-array primitives of the VT model, the
invariant `Inv`, the console relation `Sync`, and one lemma per VT primitive with the conclusion
`Sim` (no panic, invariant, refinement of the reference terminal, `Sync` kept, nothing drawn while
Inactive), composed with `Sim.bind` up to whole histories (`history_sim`).
-/
namespace Firefly.VtProof
open Firefly.Vt Firefly.Term Firefly.VtCons Firefly.ConsoleProof

theorem u32_of_lt {n : Nat} (h : n < 4294967296) : u32 n = n := Nat.mod_eq_of_lt h
theorem u64_of_lt {n : Nat} (h : n < 18446744073709551616) : u64 n = n := Nat.mod_eq_of_lt h
theorem sub32_one {n : Nat} (h1 : 1 ≤ n) (h : n < 4294967296) : sub32 n 1 = n - 1 := by
  unfold sub32; omega

theorem rowOffset32 {r w H : Nat} (hr : r < H) (hw : 1 ≤ w) (hf : w * H * 3 < 4294967296) :
    u32 (u32 r * u32 (w * 3)) = r * (w * 3) := by
  have h0 := cell_lt (c := 0) hr hw
  have h1 : r ≤ r * w := Nat.le_mul_of_pos_right r hw
  have h2 : w ≤ w * H := Nat.le_mul_of_pos_right w (by omega)
  have h3 : r * (w * 3) = r * w * 3 := (Nat.mul_assoc ..).symm
  rw [u32_of_lt (n := r) (by omega), u32_of_lt (n := w * 3) (by omega), u32_of_lt (by omega)]

theorem cellOffset32 {r c w H : Nat} (hr : r < H) (hc : c < w) (hf : w * H * 3 < 4294967296) :
    u32 (u32 (u32 r * u32 (w * 3)) + u32 (c * 3)) = (r * w + c) * 3 := by
  have h0 := cell_lt hr hc
  rw [rowOffset32 hr (by omega) hf, u32_of_lt (n := c * 3) (by omega), ← Nat.mul_assoc, ← Nat.add_mul,
    u32_of_lt (by omega)]

theorem rows_le {R H : Nat} (w : Nat) (hR : R ≤ H) : R * (w * 3) ≤ w * H * 3 := by
  rw [Nat.mul_comm w H, Nat.mul_assoc]; exact Nat.mul_le_mul_right _ hR

theorem byteAt_of_lt {d : Array UInt8} {i : Nat} (h : i < d.size) : byteAt d i = d[i] := by
  simp [byteAt, Array.getD, h]

theorem byteAt_set {d : Array UInt8} {i j : Nat} {v : UInt8} (h : i < d.size) :
    byteAt (d.set i v h) j = if j = i then v else byteAt d j := by
  unfold byteAt
  simp only [Array.getD_eq_getD_getElem?, Array.getElem?_set]
  by_cases e : i = j
  · subst e; simp
  · have : ¬ j = i := fun h => e h.symm
    simp [e, this]

theorem store_spec {d : Array UInt8} {i : Nat} {v : UInt8} (h : i < d.size) :
    ∃ d', store d i v = some d' ∧ d'.size = d.size ∧
      ∀ j, byteAt d' j = if j = i then v else byteAt d j := by
  refine ⟨d.set i v h, by simp [store, h], by simp, fun j => byteAt_set h⟩

/-- byte `k` of a buffer of cells `(a, fg, bg)` -/
def pat (a fg bg : UInt8) (k : Nat) : UInt8 := if k % 3 = 0 then a else if k % 3 = 1 then fg else bg

theorem store3_cell {d : Array UInt8} {q : Nat} (a b c : UInt8) (h : q * 3 + 2 < d.size) :
    ∃ d', store3 d (q * 3) a b c = some d' ∧ d'.size = d.size ∧
      ∀ j, byteAt d' j = if j / 3 = q then pat a b c j else byteAt d j := by
  obtain ⟨d1, e1, s1, g1⟩ := store_spec (d := d) (i := q * 3) (v := a) (by omega)
  obtain ⟨d2, e2, s2, g2⟩ := store_spec (d := d1) (i := q * 3 + 1) (v := b) (by omega)
  obtain ⟨d3, e3, s3, g3⟩ := store_spec (d := d2) (i := q * 3 + 2) (v := c) (by omega)
  refine ⟨d3, by simp [store3, e1, e2, e3], by omega, fun j => ?_⟩
  rw [g3, g2, g1]
  unfold pat
  by_cases hq : j / 3 = q
  · obtain ⟨m, hm, rfl⟩ : ∃ m, m < 3 ∧ j = q * 3 + m := ⟨j % 3, Nat.mod_lt _ (by decide), by omega⟩
    rw [if_pos hq, (cell_div_mod hm).2]
    rcases (by omega : m = 0 ∨ m = 1 ∨ m = 2) with rfl | rfl | rfl <;> simp
  · have ne : ∀ m, m < 3 → j ≠ q * 3 + m := fun m hm e => hq (by rw [e]; exact (cell_div_mod hm).1)
    rw [if_neg hq, if_neg (ne 2 (by decide)), if_neg (ne 1 (by decide)), if_neg (show ¬ j = q * 3 from ne 0 (by decide))]

theorem store3_none {d : Array UInt8} {i : Nat} (a b c : UInt8) (h : d.size ≤ i) :
    store3 d i a b c = none := by
  simp [store3, store, Nat.not_lt.2 h]

theorem copyUp_eq (stride : Nat) : ∀ (n off : Nat) (d : Array UInt8),
    copyUp stride n off d = Firefly.FbMem.copyAsc (fun k => k + stride) d off n
  | 0, _, _ => rfl
  | n + 1, off, d => by
    unfold copyUp Firefly.FbMem.copyAsc
    by_cases h : off + stride < d.size
    · simp only [dif_pos h, Array.getElem?_eq_getElem h, Firefly.FbMem.put, dif_pos (show off < d.size by omega)]
      exact copyUp_eq stride n (off + 1) _
    · rw [dif_neg h, Array.getElem?_eq_none (by omega)]

theorem copyUp_spec (stride n off : Nat) (d : Array UInt8) (h : off + n + stride ≤ d.size) :
    ∃ d', copyUp stride n off d = some d' ∧ d'.size = d.size ∧
      ∀ j, byteAt d' j = if off ≤ j ∧ j < off + n then byteAt d (j + stride) else byteAt d j := by
  rw [copyUp_eq]
  exact (copyAsc_spec (fun k => k + stride) n d off (by omega) (by intro k _ _; omega)).computes fun j => by
    rw [← Array.getD_eq_getD_getElem?]; rfl

theorem blankN_spec (fg bg : UInt8) : ∀ (n q : Nat) (d : Array UInt8), q * 3 + 3 * n ≤ d.size →
    ∃ d', blankN fg bg n (q * 3) d = some d' ∧ d'.size = d.size ∧
      ∀ j, byteAt d' j = if q ≤ j / 3 ∧ j / 3 < q + n then pat 32 fg bg j else byteAt d j := by
  intro n
  induction n with
  | zero => intro q d _; exact ⟨d, rfl, rfl, fun j => by rw [if_neg (by omega)]⟩
  | succ n ih =>
    intro q d h
    obtain ⟨d1, e1, s1, g1⟩ := store3_cell (d := d) (q := q) 32 fg bg (by omega)
    obtain ⟨d', e, s, g⟩ := ih (q + 1) d1 (by omega)
    rw [Nat.add_one_mul] at e
    refine ⟨d', by simp only [blankN, e1, e, Option.bind_some], by omega, fun j => ?_⟩
    rw [g, g1]
    generalize j / 3 = m
    by_cases c0 : q + 1 ≤ m ∧ m < q + 1 + n
    · rw [if_pos c0, if_pos (by omega)]
    · rw [if_neg c0]
      by_cases c1 : m = q
      · rw [if_pos c1, if_pos (by omega)]
      · rw [if_neg c1, if_neg (by omega)]

@[simp] theorem gridOf_length (d : Array UInt8) (w H : Nat) : (gridOf d w H).length = H := by
  simp [gridOf]

theorem gridOf_getElem? (d : Array UInt8) (w H r : Nat) :
    (gridOf d w H)[r]? = if r < H then some ((List.range w).map fun c => cellAt d w r c) else none := by
  simp only [gridOf, List.getElem?_map]
  split <;> simp [*]

theorem row_congr {w : Nat} {f g : Nat → Cell} (h : ∀ c, c < w → f c = g c) :
    (List.range w).map f = (List.range w).map g :=
  List.map_congr_left fun c hc => h c (List.mem_range.1 hc)

theorem row_set {w c0 : Nat} {x : Cell} (f : Nat → Cell) :
    (List.range w).map (fun c => if c = c0 then x else f c) = ((List.range w).map f).set c0 x := by
  apply List.ext_getElem?
  intro c
  rw [List.getElem?_set, List.getElem?_map, List.getElem?_map, List.length_map, List.length_range]
  by_cases hc : c < w
  · rw [List.getElem?_range hc]
    by_cases e : c0 = c
    · subst e; rw [if_pos rfl, if_pos hc]; exact congrArg some (if_pos rfl)
    · rw [if_neg e]; exact congrArg some (if_neg fun h => e h.symm)
  · rw [List.getElem?_eq_none (by rw [List.length_range]; omega)]
    split
    · rw [if_neg (by omega)]; rfl
    · rfl

theorem gridOf_put {d d' : Array UInt8} {w H r0 c0 : Nat} {x : Cell}
    (hcells : ∀ r c, c < w → cellAt d' w r c = if r = r0 ∧ c = c0 then x else cellAt d w r c) :
    gridOf d' w H = (gridOf d w H).modify r0 fun line => line.set c0 x := by
  apply List.ext_getElem?
  intro r
  rw [List.getElem?_modify, gridOf_getElem?, gridOf_getElem?]
  by_cases hr : r < H
  · rw [if_pos hr, if_pos hr, Option.map_eq_map, Option.map_some]
    by_cases e : r0 = r
    · subst e
      rw [if_pos rfl, ← row_set]
      exact congrArg some (row_congr fun c hc =>
        (hcells _ c hc).trans (ite_congr (propext (and_iff_right rfl)) (fun _ => rfl) (fun _ => rfl)))
    · rw [if_neg e, row_congr fun c hc => (hcells r c hc).trans (if_neg fun h => e h.1.symm)]
  · rw [if_neg hr, if_neg hr]; rfl

theorem cellAt_upd {d d' : Array UInt8} {P : Nat → Prop} [DecidablePred P] {V : Nat → UInt8}
    (g : ∀ j, byteAt d' j = if P (j / 3) then V j else byteAt d j) (w r c : Nat) :
    cellAt d' w r c = if P (r * w + c) then ⟨V ((r * w + c) * 3), V ((r * w + c) * 3 + 1), V ((r * w + c) * 3 + 2)⟩
      else cellAt d w r c := by
  have byte : ∀ k, k < 3 → byteAt d' ((r * w + c) * 3 + k) =
      if P (r * w + c) then V ((r * w + c) * 3 + k) else byteAt d ((r * w + c) * 3 + k) := by
    intro k hk
    rw [g, (cell_div_mod hk).1]
  show (⟨byteAt d' ((r * w + c) * 3 + 0), _, _⟩ : Cell) = _
  rw [byte 0 (by omega), byte 1 (by omega), byte 2 (by omega)]
  split <;> rfl

theorem pat_cell (a fg bg : UInt8) (n : Nat) :
    (⟨pat a fg bg (n * 3), pat a fg bg (n * 3 + 1), pat a fg bg (n * 3 + 2)⟩ : Cell) = ⟨a, fg, bg⟩ := by
  have h : ∀ k, k < 3 → pat a fg bg (n * 3 + k) = pat a fg bg k := fun k hk => by
    unfold pat; rw [(cell_div_mod hk).2, Nat.mod_eq_of_lt hk]
  show (⟨pat a fg bg (n * 3 + 0), _, _⟩ : Cell) = _
  rw [h 0 (by decide), h 1 (by decide), h 2 (by decide)]; rfl

theorem cellAt_store3 {d d' : Array UInt8} {w r0 c0 : Nat} {a b c : UInt8} (hc0 : c0 < w)
    (g : ∀ j, byteAt d' j = if j / 3 = r0 * w + c0 then pat a b c j else byteAt d j) :
    ∀ r cc, cc < w → cellAt d' w r cc = if r = r0 ∧ cc = c0 then ⟨a, b, c⟩ else cellAt d w r cc := by
  intro r cc hcc
  rw [cellAt_upd (P := (· = r0 * w + c0)) g, pat_cell]
  exact ite_congr (propext ⟨cell_inj hcc hc0, fun e => by rw [e.1, e.2]⟩) (fun _ => rfl) (fun _ => rfl)

theorem cellAt_copyRows {d d1 : Array UInt8} {w a b : Nat} (hab : a ≤ b)
    (g : ∀ j, byteAt d1 j = if a * (w * 3) ≤ j ∧ j < a * (w * 3) + (b * (w * 3) - a * (w * 3))
            then byteAt d (j + w * 3) else byteAt d j) :
    ∀ r c, c < w → cellAt d1 w r c = if a ≤ r ∧ r < b then cellAt d w (r + 1) c else cellAt d w r c := by
  intro r c hc
  have e : a * (w * 3) + (b * (w * 3) - a * (w * 3)) = b * (w * 3) :=
    Nat.add_sub_cancel' (Nat.mul_le_mul_right _ hab)
  have g' : ∀ j, byteAt d1 j = if a * w ≤ j / 3 ∧ j / 3 < b * w then byteAt d (j + w * 3) else byteAt d j := fun j => by
    rw [g, e]
    simp only [← Nat.mul_assoc, Nat.le_div_iff_mul_le (show 0 < 3 by decide), Nat.div_lt_iff_lt_mul (show 0 < 3 by decide)]
  rw [cellAt_upd (P := fun n => a * w ≤ n ∧ n < b * w) (V := fun j => byteAt d (j + w * 3)) g']
  refine ite_congr (propext ?_) (fun _ => ?_) (fun _ => rfl)
  · rw [cell_lt_row hc, ← Nat.not_lt, cell_lt_row hc, Nat.not_lt]
  · have shift : ((r + 1) * w + c) * 3 = (r * w + c) * 3 + w * 3 := by rw [Nat.add_one_mul]; omega
    unfold cellAt
    rw [shift]
    simp only [Nat.add_right_comm _ (w * 3)]

theorem cellAt_blankRow {d1 d2 : Array UInt8} {w e : Nat} {fg bg : UInt8}
    (g : ∀ j, byteAt d2 j = if e * w ≤ j / 3 ∧ j / 3 < e * w + w then pat 32 fg bg j else byteAt d1 j) :
    ∀ r c, c < w → cellAt d2 w r c = if r = e then ⟨32, fg, bg⟩ else cellAt d1 w r c := by
  intro r c hc
  rw [cellAt_upd (P := fun n => e * w ≤ n ∧ n < e * w + w) g, pat_cell]
  refine ite_congr (propext ((row_range0 (Nat.le_refl w)).trans ?_)) (fun _ => rfl) (fun _ => rfl)
  rw [(cell_div_mod hc).1]
  exact ⟨fun h => h.1, fun h => ⟨h, Nat.mod_lt _ (Nat.zero_lt_of_lt hc)⟩⟩

/-- where line `r` of the buffer comes from when the `h` lines from line `vy` on move up by one;
`none`: the blanked last line -/
def srcRow (vy h r : Nat) : Option Nat :=
  if r = vy + h - 1 then none else if vy ≤ r ∧ r < vy + h - 1 then some (r + 1) else some r

theorem srcRow_lt {vy h r r' H : Nat} (hH : vy + h ≤ H) (hs : srcRow vy h r = some r') : r' < H ↔ r < H := by
  unfold srcRow at hs
  split at hs
  · cases hs
  · split at hs <;> cases hs <;> omega

theorem srcRow_none {vy h r : Nat} (hs : srcRow vy h r = none) : r = vy + h - 1 := by
  unfold srcRow at hs
  split at hs
  · assumption
  · split at hs <;> cases hs

theorem srcRow_viewport {vy h r : Nat} (hr : r < h) :
    srcRow vy h (vy + r) = if r + 1 < h then some (vy + (r + 1)) else none := by
  unfold srcRow
  by_cases l : r + 1 < h
  · rw [if_neg (by omega), if_pos (by omega), if_pos l]; rfl
  · rw [if_pos (by omega), if_neg l]

/-- the two loops of the scroll branch of `lf`, on the lines `a .. b` of a buffer of lines of `w` cells -/
theorem scrollLines_spec {d : Array UInt8} {w a b : Nat} (fg bg : UInt8) (hab : a ≤ b)
    (hsz : (b + 1) * (w * 3) ≤ d.size) :
    ∃ d2, (copyUp (w * 3) (b * (w * 3) - a * (w * 3)) (a * (w * 3)) d).bind (blankN fg bg w (b * (w * 3))) = some d2 ∧
      d2.size = d.size ∧ ∀ r c, c < w → cellAt d2 w r c =
        if r = b then ⟨32, fg, bg⟩ else if a ≤ r ∧ r < b then cellAt d w (r + 1) c else cellAt d w r c := by
  have mono := Nat.mul_le_mul_right (w * 3) hab
  rw [Nat.add_one_mul] at hsz
  obtain ⟨d1, c1, s1, b1⟩ := copyUp_spec (w * 3) (b * (w * 3) - a * (w * 3)) (a * (w * 3)) d (by omega)
  obtain ⟨d2, c2, s2, b2⟩ := blankN_spec fg bg w (b * w) d1 (by rw [s1, Nat.mul_assoc]; omega)
  rw [Nat.mul_assoc] at c2
  exact ⟨d2, by rw [c1]; exact c2, s2.trans s1, fun r c hc => by
    rw [cellAt_blankRow b2 r c hc, cellAt_copyRows hab b1 r c hc]⟩

theorem scrollGrid_getElem? {α} (g : List α) (vy h r : Nat) (b : α) (h1 : 1 ≤ h) (hl : vy + h ≤ g.length) :
    (g.take vy ++ (g.drop (vy+1)).take (h-1) ++ [b] ++ g.drop (vy+h))[r]? =
      match srcRow vy h r with
      | some r' => g[r']?
      | none => some b := by
  obtain ⟨n, rfl⟩ : ∃ n, h = n + 1 := ⟨h - 1, (Nat.sub_add_cancel h1).symm⟩
  have l1 : (g.take vy).length = vy := List.length_take_of_le (by omega)
  have l2 : ((g.drop (vy+1)).take n).length = n := List.length_take_of_le (by rw [List.length_drop]; omega)
  rw [List.append_assoc, List.append_assoc]
  unfold srcRow
  rw [show vy + (n + 1) - 1 = vy + n from rfl, Nat.add_sub_cancel]
  by_cases c1 : r < vy
  · rw [List.getElem?_append_left (l1.symm ▸ c1), List.getElem?_take_of_lt c1, if_neg (by omega), if_neg (by omega)]
  obtain ⟨j, rfl⟩ := Nat.exists_eq_add_of_le (Nat.le_of_not_lt c1)
  rw [List.getElem?_append_right (l1.symm ▸ Nat.le_add_right ..), l1, Nat.add_sub_cancel_left]
  simp only [Nat.add_right_inj, Nat.add_lt_add_iff_left, Nat.le_add_right, true_and]
  by_cases c2 : j < n
  · rw [List.getElem?_append_left (l2.symm ▸ c2), List.getElem?_take_of_lt c2, List.getElem?_drop,
      if_neg (Nat.ne_of_lt c2), if_pos c2, Nat.add_right_comm]
  obtain ⟨i, rfl⟩ := Nat.exists_eq_add_of_le (Nat.le_of_not_lt c2)
  rw [List.getElem?_append_right (l2.symm ▸ Nat.le_add_right ..), l2, Nat.add_sub_cancel_left]
  cases i with
  | zero => rw [if_pos (Nat.add_zero n)]; rfl
  | succ i =>
    rw [if_neg (by omega), if_neg (by omega)]
    show (g.drop (vy + (n + 1)))[i]? = _
    rw [List.getElem?_drop]
    congr 1; omega

theorem gridOf_drop_const {d : Array UInt8} {w H a : Nat} {x : Cell}
    (h : ∀ r c, a ≤ r → r < H → c < w → cellAt d w r c = x) :
    (gridOf d w H).drop a = List.replicate (H - a) (List.replicate w x) := by
  apply List.ext_getElem?
  intro r
  rw [List.getElem?_drop, gridOf_getElem?, List.getElem?_replicate]
  by_cases hr : a + r < H
  · rw [if_pos hr, if_pos (by omega), row_congr fun c hc => h _ c (Nat.le_add_right ..) hr hc, List.map_const',
      List.length_range]
  · rw [if_neg hr, if_neg (by omega)]

/-- the grid after the scroll branch of `lf`, in the words of the reference terminal -/
theorem gridOf_scroll {d d2 : Array UInt8} {w vy h : Nat} {fg bg : UInt8} (h1 : 1 ≤ h)
    (cells : ∀ r c, c < w → cellAt d2 w r c =
      match srcRow vy h r with
      | some r' => cellAt d w r' c
      | none => ⟨32, fg, bg⟩) (H : Nat) (hH : vy + h ≤ H) :
    gridOf d2 w H =
      (gridOf d w H).take vy ++ ((gridOf d w H).drop (vy + 1)).take (h - 1)
        ++ [List.replicate w ⟨32, fg, bg⟩] ++ (gridOf d w H).drop (vy + h) := by
  apply List.ext_getElem?
  intro r
  rw [scrollGrid_getElem? _ _ _ _ _ h1 (by rw [gridOf_length]; exact hH), gridOf_getElem?]
  cases hs : srcRow vy h r with
  | none =>
    have : (List.range w).map (fun c => cellAt d2 w r c) = (List.range w).map fun _ => (⟨32, fg, bg⟩ : Cell) :=
      row_congr fun c hc => by rw [cells r c hc, hs]
    rw [if_pos (by have := srcRow_none hs; omega), this, List.map_const', List.length_range]
  | some r' =>
    have : (List.range w).map (fun c => cellAt d2 w r c) = (List.range w).map fun c => cellAt d w r' c :=
      row_congr fun c hc => by rw [cells r c hc, hs]
    simp only [gridOf_getElem?, srcRow_lt hH hs, this]

/-- everything that holds of an attached terminal between operations, except what concerns the
column (`lf` is entered with the column one past the end) -/
structure Geo (t : VT) : Prop where
  att : t.attached = true
  w1 : 1 ≤ t.viewportWidth
  h1 : 1 ≤ t.viewportHeight
  tw : t.termWidth = t.viewportWidth
  th : t.termHeight = t.viewportHeight + t.scrollback
  fits : t.viewportWidth * (t.viewportHeight + t.scrollback) * 3 < 4294967296
  size : t.data.size = t.viewportWidth * (t.viewportHeight + t.scrollback) * 3
  cy1 : 1 ≤ t.cursorY
  cyh : t.cursorY ≤ t.viewportHeight
  vy : t.viewportY ≤ t.scrollback
  fg : t.curFg = t.defaultFg
  bg : t.curBg = t.defaultBg
  /-- lines below the viewport have never been written -/
  blank : ∀ r c, t.viewportY + t.viewportHeight ≤ r → r < t.viewportHeight + t.scrollback →
    c < t.viewportWidth → cellAt t.data t.viewportWidth r c = ⟨32, t.defaultFg, t.defaultBg⟩
  /-- every cell of the buffer is in the default colours (there is no way to change `curFg/curBg`) -/
  cols : ∀ r c, r < t.viewportHeight + t.scrollback → c < t.viewportWidth →
    (cellAt t.data t.viewportWidth r c).fg = t.defaultFg ∧ (cellAt t.data t.viewportWidth r c).bg = t.defaultBg

/-- the invariant of an attached terminal -/
structure Inv (t : VT) : Prop extends Geo t where
  cx1 : 1 ≤ t.cursorX
  cxw : t.cursorX ≤ t.viewportWidth
  off : t.dataOffset = ((t.viewportY + t.cursorY - 1) * t.viewportWidth + (t.cursorX - 1)) * 3

theorem Geo.w3 {t : VT} (g : Geo t) : t.viewportWidth * 3 < 4294967296 := by
  have := g.fits; have := g.h1
  have h : t.viewportWidth * 1 ≤ t.viewportWidth * (t.viewportHeight + t.scrollback) :=
    Nat.mul_le_mul_left _ (by omega)
  omega

theorem Geo.hsb {t : VT} (g : Geo t) : (t.viewportHeight + t.scrollback) * 3 < 4294967296 := by
  have := g.fits; have := g.w1
  have h : 1 * (t.viewportHeight + t.scrollback) ≤ t.viewportWidth * (t.viewportHeight + t.scrollback) :=
    Nat.mul_le_mul_right _ (by omega)
  omega

theorem Geo.withCursor {t : VT} (g : Geo t) {x y o : Nat} {a : Bool} {l : List Call}
    (c1 : 1 ≤ y) (c2 : y ≤ t.viewportHeight) :
    Geo { t with cursorX := x, cursorY := y, dataOffset := o, active := a, out := l } :=
  ⟨g.att, g.w1, g.h1, g.tw, g.th, g.fits, g.size, c1, c2, g.vy, g.fg, g.bg, g.blank, g.cols⟩

theorem udo_def (t : VT) :
    updateDataOffset t = { t with dataOffset := u32 (u32 (u32 (t.viewportY + sub32 t.cursorY 1) *
      u32 (t.viewportWidth * 3)) + u32 (sub32 t.cursorX 1 * 3)) } := rfl

theorem udo_eq {t : VT} (g : Geo t) (cx1 : 1 ≤ t.cursorX) (cxw : t.cursorX ≤ t.viewportWidth) :
    updateDataOffset t =
      { t with dataOffset := ((t.viewportY + t.cursorY - 1) * t.viewportWidth + (t.cursorX - 1)) * 3 } := by
  have := g.cy1; have := g.cyh; have := g.vy
  rw [udo_def, sub32_one g.cy1 (by have := g.hsb; omega), sub32_one cx1 (by have := g.w3; omega),
    show t.viewportY + (t.cursorY - 1) = t.viewportY + t.cursorY - 1 by omega,
    cellOffset32 (H := t.viewportHeight + t.scrollback) (by omega) (by omega) g.fits]

theorem emit_eq (t : VT) (cs : List Call) :
    emit t cs = { t with out := if t.active then cs ++ t.out else t.out } := by
  unfold emit
  split <;> rfl

/-- the cell shown at viewport line `r`, column `c` (0-based) -/
def vcell (t : VT) (r c : Nat) : Cell := cellAt t.data t.viewportWidth (t.viewportY + r) c

/-- a `Write` call in the given colours (other calls: no condition) -/
def CallDef (fg bg : UInt8) : Call → Prop
  | .write _ f b _ _ => f = fg ∧ b = bg
  | _ => True

/-- the shape of the terminal's call log (newest first): single `Write`s inside the grid, and
`Scroll(up, 1)` always immediately followed by the `Fill` of the whole last line — the vacated
line of a scroll is repainted before anything else happens -/
inductive Paired (w h : Nat) : List Call → Prop
  | nil : Paired w h []
  | write {ch fg bg : UInt8} {x y : Nat} {rest : List Call} :
      (1 ≤ x ∧ x ≤ w ∧ 1 ≤ y ∧ y ≤ h) → Paired w h rest → Paired w h (.write ch fg bg x y :: rest)
  | pair {fg bg : UInt8} {rest : List Call} :
      Paired w h rest → Paired w h (.fill 1 h w 1 fg bg :: .scroll Firefly.Gen.C17.scrollDirUp 1 :: rest)

theorem Paired.append {w h : Nat} {a b : List Call} (pa : Paired w h a) (pb : Paired w h b) :
    Paired w h (a ++ b) := by
  induction pa with
  | nil => exact pb
  | write hin _ ih => exact .write hin ih
  | pair _ ih => exact .pair ih

theorem Paired.callOk {w h : Nat} {log : List Call} (h1 : 1 ≤ h) (p : Paired w h log) :
    ∀ c ∈ log, CallOk w h c := by
  induction p with
  | nil => intro c hc; cases hc
  | write hin _ ih =>
    intro c hc
    cases hc with
    | head => exact hin
    | tail _ hc => exact ih c hc
  | pair _ ih =>
    intro c hc
    cases hc with
    | head => exact ⟨Nat.le_refl 1, h1, by omega, by omega⟩
    | tail _ hc =>
      cases hc with
      | head => exact ⟨rfl, Nat.le_refl 1, h1⟩
      | tail _ hc => exact ih c hc

theorem applyLog_pair (K : Console) (x y w h : Nat) (fg bg : UInt8) (rest : List Call) :
    K.applyLog (.fill x y w h fg bg :: .scroll Firefly.Gen.C17.scrollDirUp 1 :: rest) =
      ((K.applyLog rest).scrollUp 1).fill x y w h fg bg := by
  simp only [applyLog_cons, Console.apply, if_true]

/-- `K0` is the console before the history; `t.out` is every call made since.  The console has
the terminal's geometry, nothing was drawn outside the grid, every call was inside the grid, and
while the terminal is Active the console shows the viewport. -/
structure Sync (K0 : Console) (t : VT) : Prop where
  w : (K0.applyLog t.out).w = t.viewportWidth
  h : (K0.applyLog t.out).h = t.viewportHeight
  wf : WF (K0.applyLog t.out)
  outside : (K0.applyLog t.out).outside = K0.outside
  ok : ∀ c ∈ t.out, CallOk t.viewportWidth t.viewportHeight c
  /-- every `Write` was in the console's default colours -/
  cols : ∀ c ∈ t.out, CallDef t.defaultFg t.defaultBg c
  paired : Paired t.viewportWidth t.viewportHeight t.out
  shows : t.active = true → ∀ r c, r < t.viewportHeight → c < t.viewportWidth →
    (K0.applyLog t.out).at r c = vcell t r c

theorem Sync.frame {K0 : Console} {t t' : VT} (s : Sync K0 t) (ho : t'.out = t.out)
    (hw : t'.viewportWidth = t.viewportWidth) (hh : t'.viewportHeight = t.viewportHeight)
    (hv : t'.active = true → t.active = true ∧
      ∀ r c, r < t.viewportHeight → c < t.viewportWidth → vcell t' r c = vcell t r c)
    (hd : t'.defaultFg = t.defaultFg ∧ t'.defaultBg = t.defaultBg := by exact ⟨rfl, rfl⟩) : Sync K0 t' := by
  refine ⟨by rw [ho, hw]; exact s.w, by rw [ho, hh]; exact s.h, by rw [ho]; exact s.wf,
    by rw [ho]; exact s.outside, by rw [ho, hw, hh]; exact s.ok, by rw [ho, hd.1, hd.2]; exact s.cols,
    by rw [ho, hw, hh]; exact s.paired, ?_⟩
  intro a r c hr hc
  rw [hh] at hr; rw [hw] at hc
  rw [ho, (hv a).2 r c hr hc]
  exact s.shows (hv a).1 r c hr hc

theorem Sync.append {K0 : Console} {t t' : VT} (s : Sync K0 t) (h1 : 1 ≤ t.viewportHeight) {calls : List Call}
    {F : Nat → Nat → Cell} (ho : t'.out = calls ++ t.out) (p : Paired t.viewportWidth t.viewportHeight calls)
    (cd : ∀ c ∈ calls, CallDef t.defaultFg t.defaultBg c)
    (R : Redraw (K0.applyLog t.out) ((K0.applyLog t.out).applyLog calls) F)
    (hw : t'.viewportWidth = t.viewportWidth) (hh : t'.viewportHeight = t.viewportHeight)
    (hd : t'.defaultFg = t.defaultFg ∧ t'.defaultBg = t.defaultBg)
    (hv : t'.active = true → ∀ r c, r < t.viewportHeight → c < t.viewportWidth → F r c = vcell t' r c) :
    Sync K0 t' := by
  rw [← applyLog_append, ← ho] at R
  refine ⟨(R.w.trans s.w).trans hw.symm, (R.h.trans s.h).trans hh.symm, R.wf, R.outside.trans s.outside, ?_, ?_, ?_, ?_⟩
  · rw [ho, hw, hh]; exact (p.append s.paired).callOk h1
  · rw [ho, hd.1, hd.2]; exact fun c hc => (List.mem_append.1 hc).elim (cd c) (s.cols c)
  · rw [ho, hw, hh]; exact p.append s.paired
  · intro a r c hr hc
    rw [hh] at hr; rw [hw] at hc
    exact (R.cell r c (s.h ▸ hr) (s.w ▸ hc)).trans (hv a r c hr hc)

theorem Sync.write {K0 : Console} {t t' : VT} (s : Sync K0 t) {b fg bg : UInt8} {cx cy : Nat}
    (hx : 1 ≤ cx ∧ cx ≤ t.viewportWidth) (hy : 1 ≤ cy ∧ cy ≤ t.viewportHeight)
    (ho : t'.out = if t.active then [Call.write b fg bg cx cy] ++ t.out else t.out)
    (hw : t'.viewportWidth = t.viewportWidth) (hh : t'.viewportHeight = t.viewportHeight)
    (ha : t'.active = t.active)
    (hv : ∀ r c, r < t.viewportHeight → c < t.viewportWidth →
      vcell t' r c = if r = cy - 1 ∧ c = cx - 1 then ⟨b, fg, bg⟩ else vcell t r c)
    (hc : fg = t.defaultFg ∧ bg = t.defaultBg)
    (hd : t'.defaultFg = t.defaultFg ∧ t'.defaultBg = t.defaultBg := by exact ⟨rfl, rfl⟩) : Sync K0 t' := by
  by_cases a : t.active = true
  · rw [if_pos a] at ho
    refine s.append (Nat.le_trans hy.1 hy.2) ho (.write ⟨hx.1, hx.2, hy.1, hy.2⟩ .nil)
      (fun c h => by cases List.mem_singleton.1 h; exact hc)
      (write_in s.wf b fg bg (by rw [s.w]; exact hx) (by rw [s.h]; exact hy)) hw hh hd fun _ r c hr hc => ?_
    rw [hv r c hr hc, s.shows a r c hr hc]
  · rw [if_neg a] at ho
    exact s.frame ho hw hh (fun a' => absurd (ha ▸ a') a) hd

theorem Sync.scroll {K0 : Console} {t t' : VT} (s : Sync K0 t) {fg bg : UInt8}
    (_w1 : 1 ≤ t.viewportWidth) (h1 : 1 ≤ t.viewportHeight)
    (ho : t'.out = if t.active then [Call.fill 1 t.viewportHeight t.viewportWidth 1 fg bg,
      Call.scroll Firefly.Gen.C17.scrollDirUp 1] ++ t.out else t.out)
    (hw : t'.viewportWidth = t.viewportWidth) (hh : t'.viewportHeight = t.viewportHeight)
    (ha : t'.active = t.active)
    (hv : ∀ r c, r < t.viewportHeight → c < t.viewportWidth →
      vcell t' r c = if r + 1 < t.viewportHeight then vcell t (r + 1) c else ⟨32, fg, bg⟩)
    (hd : t'.defaultFg = t.defaultFg ∧ t'.defaultBg = t.defaultBg := by exact ⟨rfl, rfl⟩) : Sync K0 t' := by
  by_cases a : t.active = true
  · rw [if_pos a] at ho
    have R := scrollFill_redraw s.wf (s.h ▸ h1) fg bg
    rw [s.w, s.h] at R
    refine s.append h1 ho (.pair .nil) (fun c h => ?_) (by rw [applyLog_pair]; exact R) hw hh hd fun _ r c hr hc => ?_
    · simp only [List.mem_cons, List.not_mem_nil, or_false] at h
      rcases h with rfl | rfl <;> trivial
    rw [hv r c hr hc]
    split
    · exact (s.shows a (r + 1) c ‹_› hc).symm ▸ rfl
    · rfl
  · rw [if_neg a] at ho
    exact s.frame ho hw hh (fun a' => absurd (ha ▸ a') a) hd

/-- `absVT` does not look at the offset, the state or the log (nor at `attached`, `curFg`, `curBg`) -/
theorem absVT_congr {t t' : VT}
    (h2 : t'.viewportWidth = t.viewportWidth) (h3 : t'.viewportHeight = t.viewportHeight)
    (h4 : t'.termWidth = t.termWidth) (h5 : t'.termHeight = t.termHeight)
    (h6 : t'.scrollback = t.scrollback) (h7 : t'.data = t.data) (h8 : t'.defaultFg = t.defaultFg)
    (h9 : t'.defaultBg = t.defaultBg) (h10 : t'.tabWidth = t.tabWidth)
    (h11 : t'.cursorX = t.cursorX) (h12 : t'.cursorY = t.cursorY) (h13 : t'.viewportY = t.viewportY) :
    absVT t' = absVT t := by
  simp [absVT, *]

/-- `r` is a state satisfying the invariant that reads as the reference terminal `T`; any console
in sync with `t` is in sync with it; and, unless this is an activation (`quiet` fails), an Inactive
terminal stays Inactive and draws nothing -/
def Sim (t : VT) (r : Res) (T : Term) (quiet : Prop := True) : Prop :=
  ∃ t', r = .ok t' ∧ Inv t' ∧ absVT t' = T ∧ (∀ K0, Sync K0 t → Sync K0 t') ∧
    (quiet → t.active = false → t'.active = false ∧ t'.out = t.out)

theorem Sim.refl {t : VT} {q : Prop} (i : Inv t) : Sim t (.ok t) (absVT t) q :=
  ⟨t, rfl, i, rfl, fun _ s => s, fun _ a => ⟨a, rfl⟩⟩

theorem Sim.mono {t : VT} {r : Res} {T : Term} {q q' : Prop} (h : Sim t r T q) (hq : q' → q) : Sim t r T q' := by
  obtain ⟨t', d, i, e, y, z⟩ := h
  exact ⟨t', d, i, e, y, fun a => z (hq a)⟩

theorem Sim.after {t t1 : VT} {r : Res} {T : Term} {q : Prop} (y1 : ∀ K0, Sync K0 t → Sync K0 t1)
    (z1 : q → t.active = false → t1.active = false ∧ t1.out = t.out) (h : Sim t1 r T q) : Sim t r T q := by
  obtain ⟨t2, d, i, e, y2, z2⟩ := h
  refine ⟨t2, d, i, e, fun K0 s => y2 K0 (y1 K0 s), fun hq a => ?_⟩
  obtain ⟨a1, o1⟩ := z1 hq a
  obtain ⟨a2, o2⟩ := z2 hq a1
  exact ⟨a2, o2.trans o1⟩

theorem Sim.bind {t : VT} {r : Res} {T T' : Term} {q : Prop} {f : VT → Res} (h : Sim t r T q)
    (hf : ∀ t', Inv t' → absVT t' = T → Sim t' (f t') T' q) : Sim t (r.bind f) T' q := by
  obtain ⟨t1, rfl, i1, e1, y1, z1⟩ := h
  exact Sim.after y1 z1 (hf t1 i1 e1)

theorem Sim.udo {t t1 : VT} {T : Term} {q : Prop} (g1 : Geo t1) (cx1 : 1 ≤ t1.cursorX)
    (cxw : t1.cursorX ≤ t1.viewportWidth) (e : absVT t1 = T) (y : ∀ K0, Sync K0 t → Sync K0 t1)
    (z : t.active = false → t1.active = false ∧ t1.out = t.out) : Sim t (.ok (updateDataOffset t1)) T q := by
  rw [udo_eq g1 cx1 cxw]
  exact ⟨_, rfl, ⟨g1.withCursor g1.cy1 g1.cyh, cx1, cxw, rfl⟩, e,
    fun K0 s => (y K0 s).frame rfl rfl rfl fun a => ⟨a, fun _ _ _ _ => rfl⟩, fun _ => z⟩

theorem Sim.cursor {t : VT} {q : Prop} (g : Geo t) {x y : Nat} (hx : 1 ≤ x ∧ x ≤ t.viewportWidth)
    (hy : 1 ≤ y ∧ y ≤ t.viewportHeight) :
    Sim t (.ok (updateDataOffset { t with cursorX := x, cursorY := y })) { absVT t with cx := x, cy := y } q :=
  Sim.udo (g.withCursor hy.1 hy.2) hx.1 hx.2 rfl
    (fun K0 s => s.frame rfl rfl rfl fun a => ⟨a, fun _ _ _ _ => rfl⟩) (fun a => ⟨a, rfl⟩)

theorem Sim.ite {t : VT} {r r' : Res} {T T' : Term} {q c : Prop} [Decidable c] (h : c → Sim t r T q)
    (h' : ¬ c → Sim t r' T' q) : Sim t (if c then r else r') (if c then T else T') q := by
  split
  · exact h ‹_›
  · exact h' ‹_›

theorem lf_true (t : VT) : lf t true =
    if u32 (t.cursorY + 1) ≤ t.viewportHeight then
      .ok (updateDataOffset { t with cursorX := 1, cursorY := u32 (t.cursorY + 1) })
    else if u32 (t.viewportY + t.viewportHeight) < t.termHeight then
      .ok (updateDataOffset (syncScroll { t with cursorX := 1, viewportY := u32 (t.viewportY + 1) }))
    else match scrollData { t with cursorX := 1 } with
      | none => .panic
      | some d => .ok (updateDataOffset (syncScroll { t with cursorX := 1, data := d })) := by
  simp only [lf, ↓reduceIte]; rfl

theorem absVT_lf (t : VT) : (absVT t).lf =
    if t.cursorY < t.viewportHeight then { absVT t with cx := 1, cy := t.cursorY + 1 }
    else if t.viewportY + t.viewportHeight < t.viewportHeight + t.scrollback then
      { absVT t with cx := 1, vy := t.viewportY + 1 }
    else { absVT t with cx := 1, grid :=
      (gridOf t.data t.termWidth t.termHeight).take t.viewportY ++
        ((gridOf t.data t.termWidth t.termHeight).drop (t.viewportY + 1)).take (t.viewportHeight - 1) ++
        [List.replicate t.viewportWidth ⟨32, t.defaultFg, t.defaultBg⟩] ++
        (gridOf t.data t.termWidth t.termHeight).drop (t.viewportY + t.viewportHeight) } := rfl

theorem syncScroll_eq (t : VT) : syncScroll t = { t with out :=
    if t.active then [.fill 1 t.cursorY t.termWidth 1 t.defaultFg t.defaultBg,
      .scroll Firefly.Gen.C17.scrollDirUp 1] ++ t.out else t.out } := emit_eq _ _

theorem scrollData_spec {t : VT} (g : Geo t) :
    ∃ d2, scrollData t = some d2 ∧ d2.size = t.data.size ∧ ∀ r c, c < t.viewportWidth →
      cellAt d2 t.viewportWidth r c =
        match srcRow t.viewportY t.viewportHeight r with
        | some r' => cellAt t.data t.viewportWidth r' c
        | none => ⟨32, t.defaultFg, t.defaultBg⟩ := by
  have w3 := g.w3; have hsb := g.hsb; have := g.vy; have := g.h1
  have e1 : t.viewportY + t.viewportHeight - 1 + 1 = t.viewportY + t.viewportHeight := by omega
  obtain ⟨d2, e, s, cells⟩ := scrollLines_spec (d := t.data) (w := t.viewportWidth) (a := t.viewportY)
    (b := t.viewportY + t.viewportHeight - 1) t.defaultFg t.defaultBg (by omega)
    (by rw [g.size, e1]; exact rows_le _ (by omega))
  refine ⟨d2, ?_, s, fun r c hc => ?_⟩
  · unfold scrollData
    simp only
    rw [u32_of_lt w3, u32_of_lt (by omega : t.viewportY + t.viewportHeight < _), sub32_one (by omega) (by omega),
      show (t.viewportWidth * 3 + 2) / 3 = t.viewportWidth by omega]
    exact e
  · rw [cells r c hc]
    unfold srcRow
    split
    · rfl
    · split <;> rfl

/-- the last two branches of `lf` in one: afterwards the viewport starts at line `vy'` of the buffer `d'` -/
theorem Sim.scrolled {t : VT} (g : Geo t) (hcy : t.cursorY = t.viewportHeight) {vy' : Nat} {d' : Array UInt8}
    (g1 : Geo { t with cursorX := 1, viewportY := vy', data := d' }) {T : Term}
    (e : { absVT t with cx := 1, vy := vy', grid := gridOf d' t.termWidth t.termHeight } = T)
    (hv : ∀ r c, r < t.viewportHeight → c < t.viewportWidth → cellAt d' t.viewportWidth (vy' + r) c =
      if r + 1 < t.viewportHeight then vcell t (r + 1) c else ⟨32, t.defaultFg, t.defaultBg⟩) :
    Sim t (.ok (updateDataOffset (syncScroll { t with cursorX := 1, viewportY := vy', data := d' }))) T := by
  rw [syncScroll_eq]
  refine Sim.udo (g1.withCursor g1.cy1 g1.cyh) (Nat.le_refl 1) g.w1 e (fun K0 s => ?_) fun a => ⟨a, ?_⟩
  · refine s.scroll g.w1 g.h1 ?_ rfl rfl rfl hv
    show (if t.active then [Call.fill 1 t.cursorY t.termWidth 1 _ _, _] ++ t.out else t.out) = _
    rw [hcy, g.tw]
  · show (if t.active then _ else t.out) = t.out
    rw [a]; rfl

theorem lf_spec {t : VT} (g : Geo t) : Sim t (lf t true) (absVT t).lf := by
  have hsb := g.hsb; have hcyh := g.cyh; have hvy := g.vy
  have hH : t.viewportY + t.viewportHeight ≤ t.viewportHeight + t.scrollback := by omega
  rw [lf_true, absVT_lf, u32_of_lt (by omega : t.cursorY + 1 < _)]
  by_cases hA : t.cursorY + 1 ≤ t.viewportHeight
  · rw [if_pos hA, if_pos (Nat.lt_of_succ_le hA)]
    exact Sim.cursor g ⟨Nat.le_refl 1, g.w1⟩ ⟨Nat.le_add_left 1 _, hA⟩
  have hcy : t.cursorY = t.viewportHeight := Nat.le_antisymm hcyh (Nat.le_of_lt_succ (Nat.not_le.1 hA))
  rw [if_neg hA, if_neg (show ¬ t.cursorY < t.viewportHeight by rw [hcy]; exact Nat.lt_irrefl _),
    u32_of_lt (by omega : t.viewportY + t.viewportHeight < _)]
  by_cases hB' : t.viewportY + t.viewportHeight < t.termHeight <;> have hB := hB' <;> rw [g.th] at hB
  · -- the viewport moves down through the scrollback, onto a line that has never been written
    have hvy1 : t.viewportY + 1 ≤ t.scrollback := by omega
    rw [if_pos hB', if_pos hB, u32_of_lt (by omega : t.viewportY + 1 < _)]
    have g1 : Geo { t with cursorX := 1, viewportY := t.viewportY + 1 } :=
      ⟨g.att, g.w1, g.h1, g.tw, g.th, g.fits, g.size, g.cy1, g.cyh, hvy1, g.fg, g.bg,
        fun r c (h1 : t.viewportY + 1 + t.viewportHeight ≤ r) h2 h3 =>
          g.blank r c (Nat.le_trans (by rw [Nat.add_right_comm]; exact Nat.le_succ _) h1) h2 h3, g.cols⟩
    refine Sim.scrolled g hcy g1 rfl fun r c hr hc => ?_
    rw [Nat.add_right_comm, Nat.add_assoc]
    by_cases l : r + 1 < t.viewportHeight
    · rw [if_pos l]; rfl
    · rw [if_neg l]
      exact g.blank _ c (Nat.add_le_add_left (Nat.le_of_not_lt l) _) (Nat.lt_of_le_of_lt (Nat.add_le_add_left (Nat.succ_le_of_lt hr) _) hB) hc
  · -- the buffer is scrolled
    rw [if_neg hB', if_neg hB]
    obtain ⟨d2, hsd, s2, cells⟩ := scrollData_spec g
    rw [show scrollData { t with cursorX := 1 } = scrollData t from rfl, hsd]
    have g1 : Geo { t with cursorX := 1, data := d2 } := by
      refine ⟨g.att, g.w1, g.h1, g.tw, g.th, g.fits, s2.trans g.size, g.cy1, g.cyh, g.vy, g.fg, g.bg,
        fun r c (h1 : t.viewportY + t.viewportHeight ≤ r) h2 _ => absurd (Nat.lt_of_le_of_lt h1 h2) hB,
        fun r c h2 h3 => ?_⟩
      show (cellAt d2 t.viewportWidth r c).fg = t.defaultFg ∧ (cellAt d2 t.viewportWidth r c).bg = t.defaultBg
      rw [cells r c h3]
      cases hs : srcRow t.viewportY t.viewportHeight r with
      | none => exact ⟨rfl, rfl⟩
      | some r' => exact g.cols r' c ((srcRow_lt hH hs).2 h2) h3
    refine Sim.scrolled g hcy g1 (by rw [g.tw, g.th, gridOf_scroll g.h1 cells _ hH]; rfl) fun r c hr hc => ?_
    rw [cells _ c hc, srcRow_viewport hr]
    by_cases l : r + 1 < t.viewportHeight
    · rw [if_pos l, if_pos l]; rfl
    · rw [if_neg l, if_neg l]

theorem Term.lf_cx (t : Term) (x : Nat) : ({ t with cx := x } : Term).lf = t.lf := rfl

theorem Term.putAdv_eq (t : Term) (ch : UInt8) :
    t.putAdv ch = if t.cx < t.w then { t.put ch with cx := t.cx + 1 } else (t.put ch).lf := rfl

/-- the state after `doWrite` has stored the character at the cursor and, if Active, written it to
the console -/
def stored (t : VT) (b : UInt8) (d' : Array UInt8) : VT :=
  { t with data := d', out := if t.active then [.write b t.curFg t.curBg t.cursorX t.cursorY] ++ t.out else t.out }

/-- what `doWrite` does after the store when it is to advance the cursor -/
def advance (t : VT) : Res :=
  if u32 (t.cursorX + 1) > t.viewportWidth then
    lf { t with dataOffset := u64 (t.dataOffset + 3), cursorX := u32 (t.cursorX + 1) } true
  else .ok { t with dataOffset := u64 (t.dataOffset + 3), cursorX := u32 (t.cursorX + 1) }

theorem doWrite_eq {t : VT} {b : UInt8} {d' : Array UInt8}
    (e : store3 t.data t.dataOffset b t.curFg t.curBg = some d') (adv : Bool) :
    doWrite t b adv = if adv then advance (stored t b d') else .ok (stored t b d') := by
  simp only [doWrite, emit_eq, e]; rfl

theorem next_off {a x : Nat} (hx : 1 ≤ x) : (a + (x - 1)) * 3 + 3 = (a + (x + 1 - 1)) * 3 := by omega

theorem Inv.off_le {t : VT} (i : Inv t) : t.dataOffset + 3 ≤ t.data.size := by
  have := i.cy1; have := i.cyh; have := i.vy; have := i.cx1; have := i.cxw
  have := cell_lt (r := t.viewportY + t.cursorY - 1) (c := t.cursorX - 1) (W := t.viewportWidth)
    (H := t.viewportHeight + t.scrollback) (by omega) (by omega)
  rw [i.size, i.off]; omega

theorem stored_spec {t : VT} (i : Inv t) (b : UInt8) :
    ∃ d', store3 t.data t.dataOffset b t.curFg t.curBg = some d' ∧ Sim t (.ok (stored t b d')) ((absVT t).put b) := by
  have g := i.toGeo
  have hc0 : t.cursorX - 1 < t.viewportWidth := Nat.sub_one_lt_of_le i.cx1 i.cxw
  have hrow : t.viewportY + t.cursorY - 1 = t.viewportY + (t.cursorY - 1) := Nat.add_sub_assoc g.cy1 _
  obtain ⟨d', e, sz, gb⟩ := store3_cell (d := t.data) (q := (t.viewportY + t.cursorY - 1) * t.viewportWidth + (t.cursorX - 1))
    b t.curFg t.curBg (by rw [← i.off]; exact i.off_le)
  rw [← i.off] at e
  have cells := cellAt_store3 hc0 gb
  rw [hrow] at cells
  have g1 : Geo (stored t b d') := by
    refine ⟨g.att, g.w1, g.h1, g.tw, g.th, g.fits, sz.trans g.size, g.cy1, g.cyh, g.vy, g.fg, g.bg, ?_, ?_⟩
    · intro r c (h1 : t.viewportY + t.viewportHeight ≤ r) h2 h3
      show cellAt d' t.viewportWidth r c = _
      rw [cells r c h3, if_neg (fun h => by have := g.cy1; have := g.cyh; omega)]
      exact g.blank r c h1 h2 h3
    · intro r c h2 h3
      show (cellAt d' t.viewportWidth r c).fg = t.defaultFg ∧ (cellAt d' t.viewportWidth r c).bg = t.defaultBg
      rw [cells r c h3]
      split
      · exact ⟨g.fg, g.bg⟩
      · exact g.cols r c h2 h3
  refine ⟨d', e, _, rfl, ⟨g1, i.cx1, i.cxw, i.off⟩, ?_, fun K0 s => ?_, fun _ a => ⟨a, ?_⟩⟩
  · show ({ absVT t with grid := gridOf d' t.termWidth t.termHeight } : Term) = _
    rw [g.tw, g.th, gridOf_put cells, ← hrow, ← g.tw, ← g.th, g.fg, g.bg]; rfl
  · refine s.write ⟨i.cx1, i.cxw⟩ ⟨g.cy1, g.cyh⟩ rfl rfl rfl rfl (fun r c hr hc => ?_) ⟨g.fg, g.bg⟩
    show cellAt d' t.viewportWidth (t.viewportY + r) c = _
    rw [cells _ c hc]
    simp only [Nat.add_right_inj]
    rfl
  · show (if t.active then _ else t.out) = t.out
    rw [a]; rfl

theorem advance_spec {t : VT} (i : Inv t) :
    Sim t (advance t)
      (if (absVT t).cx < (absVT t).w then { absVT t with cx := (absVT t).cx + 1 } else (absVT t).lf) := by
  have g := i.toGeo
  have hoff := i.off_le; have hfit := g.fits; have hsz := g.size; have w3 := g.w3; have hcx := i.cxw
  unfold advance
  rw [u32_of_lt (by omega : t.cursorX + 1 < _), u64_of_lt (by omega : t.dataOffset + 3 < _)]
  have y : ∀ K0, Sync K0 t → Sync K0 { t with dataOffset := t.dataOffset + 3, cursorX := t.cursorX + 1 } :=
    fun K0 s => s.frame rfl rfl rfl fun a => ⟨a, fun _ _ _ _ => rfl⟩
  by_cases hw : t.cursorX + 1 > t.viewportWidth
  · -- `lf` is entered with the column one past the end
    rw [if_pos hw, if_neg (show ¬ (absVT t).cx < (absVT t).w from Nat.not_lt.2 (Nat.le_of_lt_succ hw)),
      ← Term.lf_cx _ (t.cursorX + 1)]
    exact Sim.after y (fun _ a => ⟨a, rfl⟩) (lf_spec (g.withCursor g.cy1 g.cyh))
  · rw [if_neg hw, if_pos (show (absVT t).cx < (absVT t).w from Nat.lt_of_succ_le (Nat.le_of_not_lt hw))]
    have off : t.dataOffset + 3 = ((t.viewportY + t.cursorY - 1) * t.viewportWidth + (t.cursorX + 1 - 1)) * 3 := by
      rw [i.off]; exact next_off i.cx1
    exact ⟨_, rfl, ⟨g.withCursor g.cy1 g.cyh, Nat.le_add_left 1 _, Nat.le_of_not_lt hw, off⟩, rfl, y, fun _ a => ⟨a, rfl⟩⟩

theorem doWrite_spec {t : VT} (i : Inv t) (b : UInt8) (adv : Bool) :
    Sim t (doWrite t b adv) (if adv then (absVT t).putAdv b else (absVT t).put b) := by
  obtain ⟨d', e, s⟩ := stored_spec i b
  rw [doWrite_eq e]
  cases adv with
  | false => exact s
  | true =>
    refine Sim.bind (f := advance) s fun t1 i1 e1 => ?_
    have := advance_spec i1
    rw [e1] at this
    exact this

theorem clamp_bounds {v hi : Nat} (h : 1 ≤ hi) : 1 ≤ Term.clamp v hi ∧ Term.clamp v hi ≤ hi := by
  unfold Term.clamp
  split
  · omega
  · split <;> omega

theorem clamp_id {v hi : Nat} (h1 : 1 ≤ v) (h2 : v ≤ hi) : Term.clamp v hi = v := by
  unfold Term.clamp
  rw [if_neg (by omega), if_neg (by omega)]

theorem setCursorPosition_eq {t : VT} (h : t.attached = true) (x y : Nat) :
    setCursorPosition t x y =
      updateDataOffset { t with cursorX := Term.clamp x t.viewportWidth, cursorY := Term.clamp y t.viewportHeight } := by
  simp only [setCursorPosition, h, Bool.not_true, Bool.false_eq_true, if_false]; rfl

theorem setCursor_spec {t : VT} (i : Inv t) (x y : Nat) :
    Sim t (.ok (setCursorPosition t x y)) ((absVT t).setCursor x y) := by
  have g := i.toGeo
  have hx := clamp_bounds (v := x) g.w1
  have hy := clamp_bounds (v := y) g.h1
  rw [setCursorPosition_eq g.att]
  exact Sim.cursor g hx hy

theorem cr_spec {t : VT} (i : Inv t) : Sim t (.ok (cr t)) { absVT t with cx := 1 } :=
  Sim.cursor i.toGeo ⟨Nat.le_refl 1, i.w1⟩ ⟨i.cy1, i.cyh⟩

theorem tabLoop_spec : ∀ (n : Nat) {t : VT}, Inv t →
    Sim t (tabLoop n t) (Term.rep (·.putAdv 32) n (absVT t)) := by
  intro n
  induction n with
  | zero => intro t i; exact Sim.refl i
  | succ n ih =>
    intro t i
    refine Sim.bind (T := (absVT t).putAdv 32) (doWrite_spec i 32 true) fun t1 i1 e1 => ?_
    show Sim t1 _ (Term.rep _ n ((absVT t).putAdv 32))
    rw [← e1]; exact ih i1

theorem writeByte_eq {t : VT} (h : t.attached = true) (b : UInt8) :
    writeByte t b =
      if b = 13 then .ok (cr t)
      else if b = 10 then lf t true
      else if b = 8 then
        if t.cursorX > 1 then doWrite (setCursorPosition t (sub32 t.cursorX 1) t.cursorY) 32 false
        else .ok t
      else if b = 9 then tabLoop t.tabWidth t
      else doWrite t b true := by
  simp only [writeByte, h, Bool.not_true, Bool.false_eq_true, if_false]

theorem writeByte_spec {t : VT} (i : Inv t) (b : UInt8) : Sim t (writeByte t b) ((absVT t).byte b) := by
  have g := i.toGeo
  rw [writeByte_eq g.att]
  refine .ite (fun _ => cr_spec i) fun _ => .ite (fun _ => lf_spec g) fun _ => .ite (fun _ => ?_) fun _ =>
    .ite (fun _ => tabLoop_spec t.tabWidth i) fun _ => doWrite_spec i b true
  refine .ite (c := t.cursorX > 1) (fun hx => ?_) fun _ => Sim.refl i
  -- backspace: one column left, then a blank without advancing
  have := g.w3; have := i.cxw; have := i.cy1; have := i.cyh
  rw [sub32_one (by omega) (by omega)]
  have c : (absVT t).setCursor (t.cursorX - 1) t.cursorY = { absVT t with cx := t.cursorX - 1 } := by
    show ({ absVT t with cx := Term.clamp (t.cursorX - 1) t.viewportWidth, cy := Term.clamp t.cursorY t.viewportHeight } : Term) = _
    rw [clamp_id (by omega) (by omega), clamp_id (by omega) (by omega)]; rfl
  refine Sim.bind (f := fun t => doWrite t 32 false) (setCursor_spec i (t.cursorX - 1) t.cursorY) fun t1 i1 e1 => ?_
  have := doWrite_spec i1 32 false
  rw [e1.trans c] at this
  exact this

theorem getElem?_byteAt {d : Array UInt8} {i : Nat} (h : i < d.size) : d[i]? = some (byteAt d i) := by
  simp [byteAt, h]

theorem range_succ_reverse_map {α} (f : Nat → α) (n : Nat) :
    (List.range (n + 1)).reverse.map f = (List.range n).reverse.map (fun k => f (k + 1)) ++ [f 0] := by
  rw [List.range_succ_eq_map]
  simp [List.map_reverse, Function.comp_def]

theorem redrawRow_spec (d : Array UInt8) (y : Nat) (hs : d.size < 4294967296) :
    ∀ (n x q : Nat) (out : List Call), (q + n) * 3 ≤ d.size → x + n < 4294967296 →
      redrawRow d y n x (q * 3) out = some ((List.range n).reverse.map (fun k =>
        Call.write (byteAt d ((q + k) * 3)) (byteAt d ((q + k) * 3 + 1)) (byteAt d ((q + k) * 3 + 2)) (k + x) y)
          ++ out) := by
  intro n
  induction n with
  | zero => intro x q out _ _; rfl
  | succ n ih =>
    intro x q out h1 h2
    have h3 : q * 3 + 3 ≤ d.size := by omega
    have lt : ∀ k, k < 3 → q * 3 + k < d.size := fun k hk => Nat.lt_of_lt_of_le (Nat.add_lt_add_left hk _) h3
    have lt32 : ∀ k, k ≤ 3 → q * 3 + k < 4294967296 := fun k hk =>
      Nat.lt_of_le_of_lt (Nat.le_trans (Nat.add_le_add_left hk _) h3) hs
    rw [range_succ_reverse_map]
    simp only [redrawRow, u32_of_lt (lt32 1 (by decide)), u32_of_lt (lt32 2 (by decide)), u32_of_lt (lt32 3 (by decide)),
      u32_of_lt (show x + 1 < 4294967296 by omega), getElem?_byteAt (show q * 3 < d.size from lt 0 (by decide)),
      getElem?_byteAt (lt 1 (by decide)), getElem?_byteAt (lt 2 (by decide))]
    rw [← Nat.add_one_mul, ih (x + 1) (q + 1) _ (by omega) (by omega)]
    simp only [List.append_assoc, List.singleton_append, Nat.add_zero, Nat.zero_add, Nat.add_right_comm q 1,
      Nat.add_comm x 1, Nat.add_assoc]

/-- the `Write` that shows `F r c` in cell `(r, c)` (0-based) -/
def writeCall (F : Nat → Nat → Cell) (p : Nat × Nat) : Call :=
  .write (F p.1 p.2).ch (F p.1 p.2).fg (F p.1 p.2).bg (p.2 + 1) (p.1 + 1)

/-- the writes of `F` to the cells of lines `r0 .. r0+n`, in the order `SetState` makes them, newest first -/
def lineWrites (F : Nat → Nat → Cell) (w r0 n : Nat) : List Call :=
  (List.range' r0 n).reverse.flatMap fun r => (List.range w).reverse.map fun c => writeCall F (r, c)

/-- the calls of a redraw of all `h` lines, newest first -/
def redrawCalls (d : Array UInt8) (w vy h : Nat) : List Call := lineWrites (fun r c => cellAt d w (r + vy) c) w 0 h

theorem redrawRows_succ (t : VT) (n y : Nat) (out : List Call) :
    redrawRows t (n + 1) y out =
      (redrawRow t.data y t.viewportWidth 1
        (u32 (u32 (sub32 y 1 + t.viewportY) * u32 (t.viewportWidth * 3))) out).bind
          fun out => redrawRows t n (u32 (y + 1)) out := rfl

theorem redrawRows_spec {t : VT} (g : Geo t) : ∀ (n r : Nat) (out : List Call), r + n = t.viewportHeight →
      redrawRows t n (r + 1) out =
        some (lineWrites (fun r c => cellAt t.data t.viewportWidth (r + t.viewportY) c) t.viewportWidth r n ++ out) := by
  have hsb := g.hsb; have hfit := g.fits; have hvy := g.vy
  intro n
  induction n with
  | zero => intro r out _; rfl
  | succ n ih =>
    intro r out hn
    have hrow : r + t.viewportY < t.viewportHeight + t.scrollback := by omega
    have rows := rows_le t.viewportWidth (Nat.succ_le_of_lt hrow)
    rw [Nat.add_one_mul, ← Nat.mul_assoc, ← Nat.add_mul] at rows
    have hr := redrawRow_spec t.data (r + 1) (by rw [g.size]; exact hfit) t.viewportWidth 1
      ((r + t.viewportY) * t.viewportWidth) out (by rw [g.size]; exact rows) (by have := g.w3; omega)
    rw [redrawRows_succ, sub32_one (Nat.le_add_left ..) (by omega), Nat.add_sub_cancel, rowOffset32 hrow g.w1 hfit,
      u32_of_lt (by omega : r + 1 + 1 < _), ← Nat.mul_assoc, hr]
    show redrawRows t n (r + 1 + 1) _ = _
    rw [ih (r + 1) _ (by omega), lineWrites, lineWrites, List.range'_succ, List.reverse_cons, List.flatMap_append,
      List.flatMap_singleton, List.append_assoc]
    -- the calls of `redrawRow_spec` are `writeCall` of the cells of line `r + viewportY`, unfolded
    rfl

/-- writes of `F` to cells of the grid, any cells in any order: those cells show `F`, the others what
they showed -/
theorem writes_redraw {K : Console} (wf : WF K) (F : Nat → Nat → Cell) : ∀ l : List (Nat × Nat),
    (∀ p ∈ l, p.1 < K.h ∧ p.2 < K.w) →
    Redraw K (K.applyLog (l.map (writeCall F))) fun r c => if (r, c) ∈ l then F r c else K.at r c
  | [], _ => ⟨rfl, rfl, wf, rfl, fun _ _ _ _ => (if_neg List.not_mem_nil).symm⟩
  | p :: l, hl => by
    have ih := writes_redraw wf F l fun q hq => hl q (List.mem_cons_of_mem _ hq)
    have hp := hl p List.mem_cons_self
    refine ih.trans (write_in ih.wf (F p.1 p.2).ch (F p.1 p.2).fg (F p.1 p.2).bg (x := p.2 + 1) (y := p.1 + 1)
      (by rw [ih.w]; omega) (by rw [ih.h]; omega)) fun r c hr hc => ?_
    simp only [Nat.add_sub_cancel, List.mem_cons]
    by_cases e : r = p.1 ∧ c = p.2
    · rw [if_pos e, if_pos (Or.inl (Prod.ext e.1 e.2)), e.1, e.2]
    · rw [if_neg e, ih.cell r c hr hc]
      exact ite_congr (propext ⟨Or.inr, fun h => h.resolve_left fun h' => e ⟨congrArg Prod.fst h', congrArg Prod.snd h'⟩⟩)
        (fun _ => rfl) (fun _ => rfl)

theorem Paired.of_writes {w h : Nat} (F : Nat → Nat → Cell) : ∀ l : List (Nat × Nat), (∀ p ∈ l, p.1 < h ∧ p.2 < w) →
    Paired w h (l.map (writeCall F))
  | [], _ => .nil
  | p :: l, hl => by
    have := hl p List.mem_cons_self
    exact .write ⟨by omega, by omega, by omega, by omega⟩ (Paired.of_writes F l fun q hq => hl q (List.mem_cons_of_mem _ hq))

/-- the cells of a `w × h` grid in the order of `lineWrites` -/
def gridCells (w h : Nat) : List (Nat × Nat) :=
  (List.range h).reverse.flatMap fun r => (List.range w).reverse.map fun c => (r, c)

theorem mem_gridCells {w h r c : Nat} : (r, c) ∈ gridCells w h ↔ r < h ∧ c < w := by
  simp [gridCells]

theorem redrawCalls_eq (d : Array UInt8) (w vy h : Nat) :
    redrawCalls d w vy h = (gridCells w h).map (writeCall fun r c => cellAt d w (r + vy) c) := by
  simp only [redrawCalls, lineWrites, gridCells, List.map_flatMap, List.map_map, ← List.range_eq_range']
  rfl

theorem redrawCalls_paired (d : Array UInt8) (w vy h : Nat) : Paired w h (redrawCalls d w vy h) := by
  rw [redrawCalls_eq]; exact .of_writes _ _ fun _ hp => mem_gridCells.1 hp

theorem redrawCalls_redraw {K : Console} (wf : WF K) (d : Array UInt8) (vy : Nat) :
    Redraw K (K.applyLog (redrawCalls d K.w vy K.h)) fun r c => cellAt d K.w (r + vy) c := by
  rw [redrawCalls_eq]
  exact (writes_redraw wf _ _ fun _ hp => mem_gridCells.1 hp).vals fun r c hr hc => if_pos (mem_gridCells.2 ⟨hr, hc⟩)

theorem redrawCalls_callDef (d : Array UInt8) {w vy h : Nat} {fg bg : UInt8}
    (hd : ∀ r k, r < vy + h → k < w → (cellAt d w r k).fg = fg ∧ (cellAt d w r k).bg = bg) :
    ∀ c ∈ redrawCalls d w vy h, CallDef fg bg c := by
  intro c hc
  rw [redrawCalls_eq] at hc
  obtain ⟨⟨r, k⟩, hp, rfl⟩ := List.mem_map.1 hc
  exact hd _ k (by have := (mem_gridCells.1 hp).1; omega) (mem_gridCells.1 hp).2

theorem setState_spec {t : VT} (i : Inv t) (a : Bool) :
    ∃ t', setState t a = .ok t' ∧ Inv t' ∧ absVT t' = absVT t ∧ t'.active = a ∧
      t'.out = (if t.active = a ∨ a = false then t.out
                else redrawCalls t.data t.viewportWidth t.viewportY t.viewportHeight ++ t.out) ∧
      t'.data = t.data ∧ t'.viewportY = t.viewportY ∧ (∀ K0, Sync K0 t → Sync K0 t') := by
  have g := i.toGeo
  have i' : ∀ b l, Inv { t with active := b, out := l } := fun b l => ⟨g.withCursor g.cy1 g.cyh, i.cx1, i.cxw, i.off⟩
  unfold setState
  by_cases h : t.active = a
  · rw [if_pos h]
    exact ⟨t, rfl, i, rfl, h, by rw [if_pos (Or.inl h)], rfl, rfl, fun _ s => s⟩
  · rw [if_neg h]
    cases a with
    | false =>
      exact ⟨{ t with active := false }, rfl, i' _ _, rfl, rfl, by rw [if_pos (Or.inr rfl)], rfl, rfl,
        fun K0 s => s.frame rfl rfl rfl nofun⟩
    | true =>
      have hvy := g.vy
      have hr : redrawRows { t with active := true } t.viewportHeight 1 t.out = _ :=
        redrawRows_spec (g.withCursor g.cy1 g.cyh) t.viewportHeight 0 t.out (Nat.zero_add _)
      refine ⟨{ t with active := true, out := redrawCalls t.data t.viewportWidth t.viewportY t.viewportHeight ++ t.out },
        ?_, i' _ _, rfl, rfl, ?_, rfl, rfl, fun K0 s => ?_⟩
      · show (if (true && t.attached) = true then
          match redrawRows { t with active := true } t.viewportHeight 1 t.out with
          | some out => Res.ok { t with active := true, out := out }
          | none => .panic else _) = _
        rw [if_pos (by rw [g.att]; rfl), hr]; rfl
      · rw [if_neg fun h' => h'.elim h nofun]
      · have R := redrawCalls_redraw s.wf t.data t.viewportY
        rw [s.w, s.h] at R
        exact s.append g.h1 rfl (redrawCalls_paired ..) (redrawCalls_callDef _ fun r k hr hk => g.cols r k (by omega) hk)
          R rfl rfl ⟨rfl, rfl⟩ fun _ r c _ _ => by rw [Nat.add_comm]; rfl

theorem byteAt_blankData {n : Nat} {fg bg : UInt8} {j : Nat} (h : j < n) :
    byteAt (blankData n fg bg) j = pat 32 fg bg j := by
  have hs : j < (blankData n fg bg).size := by simp [blankData, h]
  rw [byteAt_of_lt hs]
  simp [blankData, pat]

theorem cellAt_blankData {n w r c : Nat} {fg bg : UInt8} (h : (r * w + c) * 3 + 2 < n) :
    cellAt (blankData n fg bg) w r c = ⟨32, fg, bg⟩ := by
  unfold cellAt
  rw [byteAt_blankData (by omega), byteAt_blankData (by omega), byteAt_blankData (by omega), pat_cell]

/-- the state `AttachTo` leaves behind -/
def attached0 (w h sb tab : Nat) (fg bg : UInt8) : VT :=
  { newVT tab sb with
    attached := true, viewportWidth := w, viewportHeight := h, viewportY := 0,
    defaultFg := fg, defaultBg := bg, curFg := fg, curBg := bg, termWidth := w, termHeight := h + sb,
    cursorX := 1, cursorY := 1, data := blankData (w * (h + sb) * 3) fg bg }

theorem attach_spec {w h sb : Nat} (tab : Nat) (fg bg : UInt8) (hw : 1 ≤ w) (hh : 1 ≤ h)
    (hf : w * (h + sb) * 3 < 4294967296) :
    ∃ t, attachTo (newVT tab sb) w h fg bg = .ok t ∧ Inv t ∧ absVT t = Term.new w h sb tab fg bg ∧
      t.active = false ∧ t.out = [] := by
  have b1 : 1 * (h + sb) ≤ w * (h + sb) := Nat.mul_le_mul_right _ hw
  have cells : ∀ r c, r < h + sb → c < w →
      cellAt (blankData (w * (h + sb) * 3) fg bg) w r c = ⟨32, fg, bg⟩ :=
    fun r c hr hc => cellAt_blankData (by have := cell_lt hr hc; omega)
  refine ⟨attached0 w h sb tab fg bg, ?_, ⟨⟨rfl, hw, hh, rfl, rfl, hf, Array.size_ofFn, Nat.le_refl 1, hh,
    Nat.zero_le sb, rfl, rfl, fun r c _ => cells r c, fun r c h2 h3 => ?_⟩, Nat.le_refl 1, hw, ?_⟩, ?_, rfl, rfl⟩
  · unfold attachTo
    simp only [show (newVT tab sb).scrollback = sb from rfl]
    rw [u32_of_lt (by omega : h + sb < _), u32_of_lt (by omega : w * (h + sb) < _), u32_of_lt hf,
      if_neg (by omega)]
    rfl
  · show (cellAt (blankData (w * (h + sb) * 3) fg bg) w r c).fg = fg ∧ (cellAt (blankData (w * (h + sb) * 3) fg bg) w r c).bg = bg
    rw [cells r c h2 h3]; exact ⟨rfl, rfl⟩
  · show 0 = ((0 + 1 - 1) * w + (1 - 1)) * 3
    omega
  · have e := gridOf_drop_const (H := h + sb) (a := 0) fun r c _ => cells r c
    show ({ Term.new w h sb tab fg bg with grid := gridOf (blankData (w * (h + sb) * 3) fg bg) w (h + sb) } : Term) = _
    rw [← List.drop_zero (l := gridOf _ _ _), e]
    rfl

theorem setState_sim {t : VT} (i : Inv t) (a : Bool) : Sim t (setState t a) (absVT t) (a = false) := by
  obtain ⟨t', d, i', e, act, o, -, -, y⟩ := setState_spec i a
  exact ⟨t', d, i', e, y, fun ha _ => ⟨act.trans ha, by rw [o, if_pos (Or.inr ha)]⟩⟩

/-- one operation refines the reference terminal's step (C17), keeps every console in sync and,
activation excepted, draws nothing while the terminal is Inactive (C18) -/
theorem step_sim {t : VT} (i : Inv t) (op : Op) :
    Sim t (step t op) ((absVT t).step op) (op ≠ .state true) := by
  cases op with
  | byte b => exact (writeByte_spec i b).mono fun _ => trivial
  | cursor x y => exact (setCursor_spec i x y).mono fun _ => trivial
  | state a =>
    refine (setState_sim i a).mono fun h => ?_
    cases a with
    | false => rfl
    | true => exact absurd rfl h

theorem run_sim : ∀ (ops : List Op) {t : VT}, Inv t →
    Sim t (run t ops) ((absVT t).run ops) (∀ op ∈ ops, op ≠ .state true) := by
  intro ops
  induction ops with
  | nil => intro t i; exact Sim.refl i
  | cons op ops ih =>
    intro t i
    refine Sim.bind ((step_sim i op).mono fun h => h op (List.mem_cons_self ..)) fun t1 i1 e1 => ?_
    show Sim t1 (run t1 ops) (Term.run ((absVT t).step op) ops) _
    rw [← e1]
    exact (ih i1).mono fun h o ho => h o (List.mem_cons_of_mem _ ho)

theorem cells_eq_viewport {K : Console} {t : VT} (g : Geo t) (wf : WF K) (hw : K.w = t.viewportWidth)
    (hh : K.h = t.viewportHeight)
    (hat : ∀ r c, r < t.viewportHeight → c < t.viewportWidth → K.at r c = vcell t r c) :
    K.cells = (absVT t).viewport := by
  have hvy := g.vy
  have rowq : ∀ r, r < t.viewportHeight → (absVT t).viewport[r]? =
      some ((List.range t.viewportWidth).map fun c => cellAt t.data t.viewportWidth (t.viewportY + r) c) := by
    intro r hr
    simp only [Term.viewport, absVT, List.getElem?_take, hr, if_true, List.getElem?_drop, gridOf_getElem?, g.tw, g.th]
    rw [if_pos (by omega)]
  apply cells_ext wf
  · simp [Term.viewport, absVT, g.th, hh]; omega
  · intro r hr
    rw [hh] at hr
    simp [List.getD_eq_getElem?_getD, rowq r hr, hw]
  · intro r c hr hc
    rw [hh] at hr; rw [hw] at hc
    rw [hat r c hr hc]
    simp [List.getD_eq_getElem?_getD, rowq r hr, hc, vcell]

theorem Sync.cells_eq {K0 : Console} {t : VT} (s : Sync K0 t) (g : Geo t) (a : t.active = true) :
    (K0.applyLog t.out).cells = (absVT t).viewport :=
  cells_eq_viewport g s.wf s.w s.h (s.shows a)

theorem Sync.init {K0 : Console} {t : VT} (wf : WF K0) (hw : K0.w = t.viewportWidth) (hh : K0.h = t.viewportHeight)
    (ho : t.out = []) (ha : t.active = false) : Sync K0 t := by
  refine ⟨by rw [ho]; exact hw, by rw [ho]; exact hh, by rw [ho]; exact wf, by rw [ho]; rfl, by rw [ho]; exact nofun,
    by rw [ho]; exact nofun, by rw [ho]; exact Paired.nil, ?_⟩
  intro h; rw [ha] at h; cases h

/-- what `Term.new` fixes and no operation changes -/
def cfg (t : Term) : Nat × Nat × Nat × Nat × UInt8 × UInt8 := (t.w, t.h, t.sb, t.tab, t.fg, t.bg)

theorem lf_cfg (t : Term) : cfg t.lf = cfg t := by
  unfold Term.lf
  simp only
  split
  · rfl
  · split <;> rfl

theorem putAdv_cfg (t : Term) (b : UInt8) : cfg (t.putAdv b) = cfg t := by
  rw [Term.putAdv_eq]
  split
  · rfl
  · exact lf_cfg _

theorem rep_cfg (f : Term → Term) (hf : ∀ t, cfg (f t) = cfg t) : ∀ n t, cfg (Term.rep f n t) = cfg t := by
  intro n
  induction n with
  | zero => intro t; rfl
  | succ n ih => intro t; exact (ih (f t)).trans (hf t)

theorem byte_cfg (t : Term) (b : UInt8) : cfg (t.byte b) = cfg t := by
  unfold Term.byte
  repeat' rw [apply_ite cfg]
  rw [lf_cfg, putAdv_cfg, rep_cfg _ (fun t => putAdv_cfg t 32)]
  simp only [show ∀ x, cfg ({ t with cx := x } : Term) = cfg t from fun _ => rfl,
    show ∀ x, cfg (({ t with cx := x } : Term).put 32) = cfg t from fun _ => rfl, ite_self]

theorem step_cfg (t : Term) (op : Op) : cfg (t.step op) = cfg t := by
  cases op with
  | byte b => exact byte_cfg t b
  | cursor x y => rfl
  | state a => rfl

theorem run_cfg : ∀ (ops : List Op) (t : Term), cfg (t.run ops) = cfg t := by
  intro ops
  induction ops with
  | nil => intro t; rfl
  | cons op ops ih => intro t; exact (ih _).trans (step_cfg t op)

/-- what holds of the terminal `t` a history ends in: the invariant, the reference terminal run on the same history
(C17), the geometry it was attached with, `Sync` with every console of that geometry, and no console call without an
activation (C18) -/
structure Hist (w h sb tab : Nat) (fg bg : UInt8) (ops : List Op) (t : VT) : Prop where
  inv : Inv t
  refines : absVT t = (Term.new w h sb tab fg bg).run ops
  vw : t.viewportWidth = w
  vh : t.viewportHeight = h
  sb : t.scrollback = sb
  fg : t.defaultFg = fg
  bg : t.defaultBg = bg
  sync : ∀ K0, WF K0 → K0.w = w → K0.h = h → Sync K0 t
  quiet : (∀ op ∈ ops, op ≠ .state true) → t.active = false ∧ t.out = []

/-- every history that starts with `NewVT` + `AttachTo` returns (no panic), in a terminal with `Hist` -/
theorem history_sim {w h sb : Nat} (tab : Nat) (fg bg : UInt8) (hw : 1 ≤ w) (hh : 1 ≤ h)
    (hf : w * (h + sb) * 3 < 4294967296) (ops : List Op) :
    ∃ t, (attachTo (newVT tab sb) w h fg bg).bind (run · ops) = .ok t ∧ Hist w h sb tab fg bg ops t := by
  obtain ⟨t0, a0, i0, r0, act0, out0⟩ := attach_spec tab fg bg hw hh hf
  obtain ⟨t, a, i, r, y, z⟩ := run_sim ops i0
  rw [r0] at r
  have c : cfg (absVT t) = (w, h, sb, tab, fg, bg) := by rw [r]; exact run_cfg ops _
  simp only [cfg, Prod.mk.injEq] at c
  refine ⟨t, by rw [a0]; exact a, i, r, c.1, c.2.1, c.2.2.1, c.2.2.2.2.1, c.2.2.2.2.2, fun K0 wf kw kh => ?_,
    fun hq => ?_⟩
  · exact y K0 (Sync.init wf (kw.trans (congrArg Term.w r0).symm) (kh.trans (congrArg Term.h r0).symm) out0 act0)
  · obtain ⟨z1, z2⟩ := z hq act0
    exact ⟨z1, z2.trans out0⟩

theorem history_ok {w h sb : Nat} (tab : Nat) (fg bg : UInt8) (hw : 1 ≤ w) (hh : 1 ≤ h)
    (hf : w * (h + sb) * 3 < 4294967296) (ops : List Op) {t : VT}
    (ht : (attachTo (newVT tab sb) w h fg bg).bind (run · ops) = .ok t) : Hist w h sb tab fg bg ops t := by
  obtain ⟨t', a, H⟩ := history_sim tab fg bg hw hh hf ops
  cases a.symm.trans ht
  exact H

/-- `Geo.blank`, in the words of the reference terminal -/
theorem below_blank {t : VT} (g : Geo t) :
    (absVT t).grid.drop (t.viewportY + t.viewportHeight) =
      List.replicate (t.scrollback - t.viewportY) (List.replicate t.viewportWidth ⟨32, t.defaultFg, t.defaultBg⟩) := by
  show (gridOf t.data t.termWidth t.termHeight).drop _ = _
  rw [g.tw, g.th, gridOf_drop_const g.blank]
  congr 1
  have := g.vy
  omega

end Firefly.VtProof
