import Firefly.Proof.AmlNodes
import Firefly.Proof.AmlNsRead
/-!
C11, the nested fragment, the specification side: `Device(NAME){…}` / `ThermalZone(NAME){…}` / `Processor(NAME, …){…}` /
`PowerResource(NAME, …){…}` (to any depth) around `Name(NAME, integer | string)`, `Event(NAME)` and `Mutex(NAME, sync)`
declarations — their encoding, the namespace ACPI's scoping rules assign to them, and that it is the namespace a layout of
the program stands for.
-/
namespace Firefly.AmlParser.F
open Firefly.AmlLex Firefly.AmlTree Firefly.C13 Firefly.AmlParser Firefly.AmlParser.G Firefly.AmlParser.S
open Firefly.Gen.C12 Firefly.AmlProg Firefly.AmlNs

/-- `Name(str, integer)`, `Name(str, string)`, `Device(str){…}` / `ThermalZone(str){…}` / `Processor(str, id, addr, len){…}` /
`PowerResource(str, level, order){…}` (PkgLength width `pw`, fixed arguments `vals`), `Event(str)`, `Mutex(str, sync)` -/
inductive NObj where
  | name (str : String) (w v : Nat)
  | dev (kd : BKind) (pw : Nat) (str : String) (vals : List Nat) (body : List NObj)
  | event (str : String)
  | mutex (str : String) (sync : Nat)
  | sname (str : String) (s : List UInt8)

mutual
/-- the declaration of the grammar subset (`AmlProg.Obj`) -/
def NObj.obj : NObj → AmlProg.Obj
  | .name str w v => .name { segs := [str] } (.int w v)
  | .dev .device pw str _ body => .device pw { segs := [str] } (objsOf body)
  | .dev .thermal pw str _ body => .thermal pw { segs := [str] } (objsOf body)
  | .dev .proc pw str vals body => .processor pw { segs := [str] } (vals.getD 0 0) (vals.getD 1 0) (vals.getD 2 0) (objsOf body)
  | .dev .power pw str vals body => .powerres pw { segs := [str] } (vals.getD 0 0) (vals.getD 1 0) (objsOf body)
  | .event str => .event { segs := [str] }
  | .mutex str sync => .mutex { segs := [str] } sync
  | .sname str s => .name { segs := [str] } (.str s)
def objsOf : List NObj → List AmlProg.Obj
  | [] => []
  | o :: os => o.obj :: objsOf os
end

mutual
def NObj.p : NObj → PObj
  | .name str w v => .name (segBytes str) (.int w v)
  | .dev kd pw str vals body => .dev kd pw (segBytes str) vals (psOf body)
  | .event str => .leaf .event (segBytes str) []
  | .mutex str sync => .leaf .mutex (segBytes str) [sync]
  | .sname str s => .name (segBytes str) (.str s)
def psOf : List NObj → List PObj
  | [] => []
  | o :: os => o.p :: psOf os
end

mutual
/-- well-formed segments, integer widths the encoder writes, PkgLength widths that hold the package length -/
def NObj.OK : NObj → Prop
  | .name str w _ => SegOK str ∧ IntW w
  | .dev kd pw str vals body => 1 ≤ pw ∧ pw ≤ 4 ∧ pw + (4 + (kd.ws.sum + (encPs (psOf body)).length)) < pkgBoundF pw ∧ SegOK str ∧
      kd.ws.length = vals.length ∧ oksOf body
  | .event str => SegOK str
  | .mutex str _ => SegOK str
  | .sname str s => SegOK str ∧ ∀ b ∈ s, 1 ≤ b ∧ b ≤ 0x7f
def oksOf : List NObj → Prop
  | [] => True
  | o :: os => o.OK ∧ oksOf os
end

mutual
/-- the namespace entries ACPI's scoping rules give the declarations below the path `π` -/
def entsO (π : AmlProg.Path) : NObj → List (AmlProg.Path × String)
  | .name str w v => [(π ++ [str], entryDesc w v)]
  | .dev kd _ str vals body => (π ++ [str], kd.tag (rvals kd.ws vals)) :: entsOL (π ++ [str]) body
  | .event str => [(π ++ [str], "event")]
  | .mutex str sync => [(π ++ [str], s!"mutex:{sync % 256}")]
  | .sname str s => [(π ++ [str], nameDesc (.str s))]
def entsOL (π : AmlProg.Path) : List NObj → List (AmlProg.Path × String)
  | [] => []
  | o :: os => entsO π o ++ entsOL π os
end

theorem ofNat_mod256 (v : Nat) : UInt8.ofNat (v % 256) = UInt8.ofNat v := UInt8.ofNat_mod_size

mutual
theorem enc_nobj : ∀ o : NObj, o.OK → encObj o.obj = encP o.p
  | .name str w v, _ => by simp [NObj.obj, NObj.p, encObj, encP, DVal.enc, encNameP, encName, encData]
  | .sname str s, _ => by simp [NObj.obj, NObj.p, encObj, encP, DVal.enc, encNameP, encName, encData]
  | .dev kd pw str vals body, hok => by
    have hb := enc_nobjs body (by unfold NObj.OK at hok; exact hok.2.2.2.2.2)
    have hvl : kd.ws.length = vals.length := by unfold NObj.OK at hok; exact hok.2.2.2.2.1
    cases kd with
    | device =>
      simp only [NObj.obj, NObj.p, encObj, encP, encPkg, encNameP, encName, hb, BKind.b2, BKind.ws, encVals]
      simp [List.length_append]
    | thermal =>
      simp only [NObj.obj, NObj.p, encObj, encP, encPkg, encNameP, encName, hb, BKind.b2, BKind.ws, encVals]
      simp [List.length_append]
    | proc =>
      obtain ⟨a1, a2, a3, rfl⟩ : ∃ a1 a2 a3, vals = [a1, a2, a3] := len3 (by simpa [BKind.ws] using hvl.symm)
      simp only [NObj.obj, NObj.p, encObj, encP, encPkg, encNameP, encName, hb, BKind.b2, BKind.ws, encVals, List.getD_cons_zero,
        List.getD_cons_succ]
      simp [List.length_append, encConst, List.range_succ, ofNat_mod256]
      congr 1
      omega
    | power =>
      obtain ⟨a1, a2, rfl⟩ : ∃ a1 a2, vals = [a1, a2] := len2 (by simpa [BKind.ws] using hvl.symm)
      simp only [NObj.obj, NObj.p, encObj, encP, encPkg, encNameP, encName, hb, BKind.b2, BKind.ws, encVals, List.getD_cons_zero,
        List.getD_cons_succ]
      simp [List.length_append, encConst, List.range_succ, ofNat_mod256]
      congr 1
      omega
  | .event str, _ => by simp [NObj.obj, NObj.p, encObj, encP, encNameP, encName, encVals, LKind.b2]
  | .mutex str sync, _ => by
    simp [NObj.obj, NObj.p, encObj, encP, encNameP, encName, encVals, LKind.b2, LKind.ws, encConst, List.range_succ, ofNat_mod256]
theorem enc_nobjs : ∀ l : List NObj, oksOf l → encObjs (objsOf l) = encPs (psOf l)
  | [], _ => by simp [objsOf, psOf, encObjs, encPs]
  | o :: os, hok => by
    unfold oksOf at hok
    simp [objsOf, psOf, encObjs, encPs, enc_nobj o hok.1, enc_nobjs os hok.2]
end

mutual
theorem ok_nobj : ∀ o : NObj, o.OK → okP o.p
  | .name str w v, h => by
    unfold NObj.OK at h
    unfold NObj.p okP
    exact ⟨seg_nameOK h.1, seg_len h.1, h.2⟩
  | .sname str s, h => by
    unfold NObj.OK at h
    unfold NObj.p okP
    exact ⟨seg_nameOK h.1, seg_len h.1, h.2⟩
  | .dev kd pw str vals body, h => by
    unfold NObj.OK at h
    obtain ⟨h1, h2, h3, h4, h5, h6⟩ := h
    unfold NObj.p okP
    exact ⟨h1, h2, by rw [seg_len h4, encVals_len _ _ h5]; exact h3, seg_nameOK h4, seg_len h4, h5, ok_nobjs body h6⟩
  | .event str, h => by
    unfold NObj.OK at h
    unfold NObj.p okP
    exact ⟨seg_nameOK h, seg_len h, rfl⟩
  | .mutex str sync, h => by
    unfold NObj.OK at h
    unfold NObj.p okP
    exact ⟨seg_nameOK h, seg_len h, rfl⟩
theorem ok_nobjs : ∀ l : List NObj, oksOf l → okPs (psOf l)
  | [], _ => by unfold psOf okPs; trivial
  | o :: os, h => by
    unfold oksOf at h
    unfold psOf okPs
    exact ⟨ok_nobj o h.1, ok_nobjs os h.2⟩
end

mutual
/-- the entries `nsWalk` reads are the entries of the program -/
theorem ents_node : ∀ (o : NObj) (n : Node) (π : AmlProg.Path), o.OK → n.prog = o.p →
    (entsN π n).map (fun e => (e.1, e.2.1)) = entsO π o
  | .name str w v, n, π, hok, hp => by
    unfold NObj.OK at hok
    obtain ⟨x, c, k, off, rfl⟩ := prog_name hp
    simp only [entsN, entsO, List.map_cons, List.map_nil, nameStr_seg hok.1, nameDesc_int]
  | .sname str s, n, π, hok, hp => by
    unfold NObj.OK at hok
    obtain ⟨x, c, k, off, rfl⟩ := prog_name hp
    simp only [entsN, entsO, List.map_cons, List.map_nil, nameStr_seg hok.1]
  | .dev kd pw str vals body, n, π, hok, hp => by
    unfold NObj.OK at hok
    obtain ⟨x, c, sb, off, es, kids, rfl, hvals, hkids⟩ := prog_dev hp
    simp only [entsN, entsO, List.map_cons]
    rw [nameStr_seg hok.2.2.2.1, ents_list body kids _ hok.2.2.2.2.2 hkids, hvals]
  | .event str, n, π, hok, hp => by
    unfold NObj.OK at hok
    obtain ⟨x, c, off, es, rfl, _⟩ := prog_leaf hp
    simp only [entsN, entsO, List.map_cons, List.map_nil, nameStr_seg hok]
    rfl
  | .mutex str sync, n, π, hok, hp => by
    unfold NObj.OK at hok
    obtain ⟨x, c, off, es, rfl, hes⟩ := prog_leaf hp
    simp only [entsN, entsO, List.map_cons, List.map_nil, nameStr_seg hok, hes]
    simp [ldesc, rvals, LKind.ws]
theorem ents_list : ∀ (l : List NObj) (ns : List Node) (π : AmlProg.Path), oksOf l → progs ns = psOf l →
    (entsL π ns).map (fun e => (e.1, e.2.1)) = entsOL π l
  | [], ns, π, _, hp => by
    cases ns with
    | nil => simp [entsL, entsOL]
    | cons n ns => simp [progs, psOf] at hp
  | o :: os, ns, π, hok, hp => by
    unfold oksOf at hok
    cases ns with
    | nil => simp [progs, psOf] at hp
    | cons n ns =>
      simp only [progs, psOf, List.cons.injEq] at hp
      simp only [entsL, entsOL, List.map_append]
      rw [ents_node o n π hok.1 hp.1, ents_list os ns π hok.2 hp.2]
end

theorem add_fresh (defs ents : List (AmlProg.Path × String)) (π : AmlProg.Path) (str desc : String)
    (hn : π ++ [str] ∉ (defs ++ ents).map (·.1)) (hπ : π = [] ∨ π ∈ (defs ++ ents).map (·.1)) :
    NsSt.add { ns := flatNs defs ents, pending := [] } (π ++ [str]) desc =
      { ns := flatNs defs (ents ++ [(π ++ [str], desc)]), pending := [] } := by
  unfold NsSt.add
  have hh : (flatNs defs ents).has (π ++ [str]) = false := Bool.eq_false_iff.2 fun e => hn ((has_iff _ _).1 e)
  simp only [hh, Bool.false_eq_true, if_false]
  have hpar : ¬ ((π ++ [str]).length > 1 ∧ (!(flatNs defs ents).has ((π ++ [str]).take ((π ++ [str]).length - 1))) = true) := by
    intro hq
    have htake : (π ++ [str]).take ((π ++ [str]).length - 1) = π := by simp
    rw [htake] at hq
    rcases hπ with e | hm
    · rw [e] at hq; simp at hq
    · have := (has_iff (flatNs defs ents) π).2 hm
      rw [this] at hq; simp at hq
  rw [if_neg hpar]
  unfold flatNs
  simp

theorem declPath_rel (π : AmlProg.Path) (str : String) : declPath π { segs := [str] } = some (π ++ [str]) := by
  simp [declPath]

theorem declObj_blk (kd : BKind) (pw : Nat) (str : String) (vals : List Nat) (body : List NObj) (π : AmlProg.Path) (st : NsSt)
    (hvl : kd.ws.length = vals.length) :
    declObj π (NObj.dev kd pw str vals body).obj st =
      declObjs (π ++ [str]) (objsOf body) (st.add (π ++ [str]) (kd.tag (rvals kd.ws vals))) := by
  cases kd with
  | device =>
    unfold NObj.obj
    rw [declObj, declPath_rel]
    rfl
  | thermal =>
    unfold NObj.obj
    rw [declObj, declPath_rel]
    rfl
  | proc =>
    obtain ⟨a1, a2, a3, rfl⟩ : ∃ a1 a2 a3, vals = [a1, a2, a3] := len3 (by simpa [BKind.ws] using hvl.symm)
    unfold NObj.obj
    rw [declObj, declPath_rel]
    simp [BKind.tag, BKind.ws, rvals]
  | power =>
    obtain ⟨a1, a2, rfl⟩ : ∃ a1 a2, vals = [a1, a2] := len2 (by simpa [BKind.ws] using hvl.symm)
    unfold NObj.obj
    rw [declObj, declPath_rel]
    simp [BKind.tag, BKind.ws, rvals]

theorem declObj_one (π : AmlProg.Path) (defs ents : List (AmlProg.Path × String)) (str desc : String) (o : AmlProg.Obj)
    (ho : ∀ st, declObj π o st = st.add (π ++ [str]) desc) (hπ : π = [] ∨ π ∈ (defs ++ ents).map (·.1))
    (hnd : ((defs ++ ents).map (·.1) ++ [π ++ [str]]).Nodup) :
    declObj π o { ns := flatNs defs ents, pending := [] } = { ns := flatNs defs (ents ++ [(π ++ [str], desc)]), pending := [] } := by
  rw [ho]
  exact add_fresh defs ents π str desc (fun hm => (List.nodup_append.1 hnd).2.2 _ hm _ (List.mem_singleton.2 rfl) rfl) hπ

mutual
theorem declObj_nest : ∀ (o : NObj) (π : AmlProg.Path) (defs ents : List (AmlProg.Path × String)),
    (π = [] ∨ π ∈ (defs ++ ents).map (·.1)) → ((defs ++ ents).map (·.1) ++ (entsO π o).map (·.1)).Nodup → o.OK →
    declObj π o.obj { ns := flatNs defs ents, pending := [] } = { ns := flatNs defs (ents ++ entsO π o), pending := [] }
  | .name str w v, π, defs, ents, hπ, hnd, _ =>
    declObj_one π defs ents str _ _ (fun st => by unfold NObj.obj; rw [declObj, declPath_rel]; rfl) hπ (by simpa [entsO] using hnd)
  | .dev kd pw str vals body, π, defs, ents, hπ, hnd, hok => by
    have hvl : kd.ws.length = vals.length := by unfold NObj.OK at hok; exact hok.2.2.2.2.1
    have hokb : oksOf body := by unfold NObj.OK at hok; exact hok.2.2.2.2.2
    rw [declObj_blk kd pw str vals body π _ hvl]
    have hn : π ++ [str] ∉ (defs ++ ents).map (·.1) := by
      rw [List.nodup_append] at hnd
      intro hm
      exact hnd.2.2 _ hm _ (by simp [entsO]) rfl
    rw [add_fresh defs ents π str (kd.tag (rvals kd.ws vals)) hn hπ]
    rw [declObjs_nest body (π ++ [str]) defs (ents ++ [(π ++ [str], kd.tag (rvals kd.ws vals))]) (Or.inr (by simp)) (by
      have : (defs ++ (ents ++ [(π ++ [str], kd.tag (rvals kd.ws vals))])).map (·.1) ++ (entsOL (π ++ [str]) body).map (·.1) =
          (defs ++ ents).map (·.1) ++ (entsO π (.dev kd pw str vals body)).map (·.1) := by simp [entsO]
      rw [this]; exact hnd) hokb]
    simp [entsO]
  | .sname str s, π, defs, ents, hπ, hnd, _ =>
    declObj_one π defs ents str _ _ (fun st => by unfold NObj.obj; rw [declObj, declPath_rel]; rfl) hπ (by simpa [entsO] using hnd)
  | .event str, π, defs, ents, hπ, hnd, _ =>
    declObj_one π defs ents str _ _ (fun st => by unfold NObj.obj; rw [declObj, declPath_rel]) hπ (by simpa [entsO] using hnd)
  | .mutex str sync, π, defs, ents, hπ, hnd, _ =>
    declObj_one π defs ents str _ _ (fun st => by unfold NObj.obj; rw [declObj, declPath_rel]) hπ (by simpa [entsO] using hnd)
theorem declObjs_nest : ∀ (l : List NObj) (π : AmlProg.Path) (defs ents : List (AmlProg.Path × String)),
    (π = [] ∨ π ∈ (defs ++ ents).map (·.1)) → ((defs ++ ents).map (·.1) ++ (entsOL π l).map (·.1)).Nodup → oksOf l →
    declObjs π (objsOf l) { ns := flatNs defs ents, pending := [] } = { ns := flatNs defs (ents ++ entsOL π l), pending := [] }
  | [], π, defs, ents, _, _, _ => by simp [objsOf, declObjs, entsOL]
  | o :: os, π, defs, ents, hπ, hnd, hok => by
    unfold oksOf at hok
    unfold objsOf
    rw [declObjs]
    have hnd' : ((defs ++ ents).map (·.1) ++ ((entsO π o).map (·.1) ++ (entsOL π os).map (·.1))).Nodup := by
      have e : entsOL π (o :: os) = entsO π o ++ entsOL π os := by simp [entsOL]
      have e2 : (entsO π o ++ entsOL π os).map (·.1) = (entsO π o).map (·.1) ++ (entsOL π os).map (·.1) := List.map_append
      rw [e, e2] at hnd
      exact hnd
    rw [declObj_nest o π defs ents hπ (by
      rw [← List.append_assoc] at hnd'
      exact (List.nodup_append.1 hnd').1) hok.1]
    rw [declObjs_nest os π defs (ents ++ entsO π o) (by
      rcases hπ with e | hm
      · exact Or.inl e
      · exact Or.inr (by simp only [List.map_append, List.mem_append] at hm ⊢; rcases hm with h | h <;> simp [h])) (by
      have : (defs ++ (ents ++ entsO π o)).map (·.1) ++ (entsOL π os).map (·.1) =
          (defs ++ ents).map (·.1) ++ ((entsO π o).map (·.1) ++ (entsOL π os).map (·.1)) := by simp
      rw [this]; exact hnd') hok.2]
    simp [entsOL]
end

mutual
theorem encP_len : ∀ o : PObj, okP o → sizeP o ≤ (encP o).length ∧ closesP o ≤ sizeP o
  | .name seg dv, _ => by simp [sizeP, closesP, encP]
  | .dev kd pw seg vals body, hok => by
    unfold okP at hok
    have := encPs_len body hok.2.2.2.2.2.2
    have hv := encVals_len kd.ws vals hok.2.2.2.2.2.1
    have hs : kd.ws.length ≤ kd.ws.sum := by cases kd <;> simp [BKind.ws]
    simp only [sizeP, closesP, encP, List.length_append, List.length_cons, List.length_nil]
    omega
  | .leaf kd seg vals, _ => by simp [sizeP, closesP, encP]
theorem encPs_len : ∀ os : List PObj, okPs os → sizePs os ≤ (encPs os).length ∧ closesPs os ≤ sizePs os
  | [], _ => by simp [sizePs, closesPs, encPs]
  | o :: os, hok => by
    unfold okPs at hok
    have := encP_len o hok.1
    have := encPs_len os hok.2
    simp only [sizePs, closesPs, encPs, List.length_append]
    omega
end

/-- `Name(str, integer)` as a declaration of the nested fragment -/
def FlatItem.nobj (a : FlatItem) : NObj := .name a.str a.w a.v

theorem objsOf_flat (l : List FlatItem) : objsOf (l.map FlatItem.nobj) = l.map FlatItem.obj := by
  induction l with
  | nil => rfl
  | cons a l ih => simp only [List.map_cons, objsOf, ih, FlatItem.nobj, NObj.obj, FlatItem.obj]

theorem oksOf_flat (l : List FlatItem) (hok : ∀ a ∈ l, a.OK) : oksOf (l.map FlatItem.nobj) := by
  induction l with
  | nil => unfold List.map oksOf; trivial
  | cons a l ih =>
    simp only [List.map_cons, oksOf, FlatItem.nobj, NObj.OK]
    exact ⟨hok a (List.mem_cons_self ..), ih (fun b hb => hok b (List.mem_cons_of_mem _ hb))⟩

theorem entsOL_flat (l : List FlatItem) : (entsOL [] (l.map FlatItem.nobj)).map (·.1) = l.map (fun a => [a.str]) := by
  induction l with
  | nil => rfl
  | cons a l ih => simp only [List.map_cons, entsOL, entsO, FlatItem.nobj, ih, List.nil_append, List.cons_append]

/-! ## executable form of the hypotheses (for instances) -/

def segOKb (str : String) : Bool :=
  str.toList.length == 4 && str.toList.all (fun c => decide (c.toNat < 256)) &&
  (match str.toList[0]? with
   | some c => (decide (0x41 ≤ c.toNat) && decide (c.toNat ≤ 0x5a)) || decide (c.toNat = 0x5f)
   | none => false)

theorem segOK_of_b {str : String} (h : segOKb str = true) : SegOK str := by
  unfold segOKb at h
  simp only [Bool.and_eq_true, beq_iff_eq, List.all_eq_true, decide_eq_true_eq] at h
  obtain ⟨⟨h1, h2⟩, h3⟩ := h
  refine ⟨h1, h2, ?_⟩
  cases hc : str.toList[0]? with
  | none => rw [hc] at h3; cases h3
  | some c =>
    rw [hc] at h3
    simp only [Bool.or_eq_true, Bool.and_eq_true, decide_eq_true_eq] at h3
    exact ⟨c, rfl, h3⟩

def intWb (w : Nat) : Bool := w == 0 || w == 1 || w == 2 || w == 4 || w == 8

theorem intW_of_b {w : Nat} (h : intWb w = true) : IntW w := by
  unfold intWb at h
  simp only [Bool.or_eq_true, beq_iff_eq] at h
  unfold IntW
  omega

mutual
def okB : NObj → Bool
  | .name str w _ => segOKb str && intWb w
  | .dev kd pw str vals body => decide (1 ≤ pw) && decide (pw ≤ 4) &&
      decide (pw + (4 + (kd.ws.sum + (encPs (psOf body)).length)) < pkgBoundF pw) && segOKb str && decide (kd.ws.length = vals.length) && oksB body
  | .event str => segOKb str
  | .mutex str _ => segOKb str
  | .sname str s => segOKb str && s.all (fun b => decide (1 ≤ b) && decide (b ≤ 0x7f))
def oksB : List NObj → Bool
  | [] => true
  | o :: os => okB o && oksB os
end

mutual
theorem ok_of_b : ∀ o : NObj, okB o = true → o.OK
  | .name str w v, h => by
    unfold okB at h
    simp only [Bool.and_eq_true] at h
    unfold NObj.OK
    exact ⟨segOK_of_b h.1, intW_of_b h.2⟩
  | .dev kd pw str vals body, h => by
    unfold okB at h
    simp only [Bool.and_eq_true, decide_eq_true_eq] at h
    unfold NObj.OK
    exact ⟨h.1.1.1.1.1, h.1.1.1.1.2, h.1.1.1.2, segOK_of_b h.1.1.2, h.1.2, oks_of_b body h.2⟩
  | .event str, h => by
    unfold okB at h
    unfold NObj.OK
    exact segOK_of_b h
  | .mutex str sync, h => by
    unfold okB at h
    unfold NObj.OK
    exact segOK_of_b h
  | .sname str s, h => by
    unfold okB at h
    simp only [Bool.and_eq_true, List.all_eq_true, decide_eq_true_eq] at h
    unfold NObj.OK
    exact ⟨segOK_of_b h.1, h.2⟩
theorem oks_of_b : ∀ l : List NObj, oksB l = true → oksOf l
  | [], _ => by unfold oksOf; trivial
  | o :: os, h => by
    unfold oksB at h
    simp only [Bool.and_eq_true] at h
    unfold oksOf
    exact ⟨ok_of_b o h.1, oks_of_b os h.2⟩
end

end Firefly.AmlParser.F
