import Firefly.Model.Vt
import Firefly.Spec.Term
import Firefly.Proof.Vt
import Firefly.Props.C17
import Firefly.Props.C19
import Firefly.Proof.VtPix
import Firefly.Gen.C18
/-!
# C18 — An active terminal and its console always show the same thing

Statement (properties.jsonl): while a terminal is active, after every write the attached console
displays exactly the terminal's current viewport — same characters and colours in every cell —
and nothing is drawn outside the console's cell grid; while it is inactive the console is not
touched at all.  Activating a terminal redraws the console so that it again equals the viewport,
whatever was written while it was inactive.  This holds with the shipped text-mode and
framebuffer consoles, where each cell shows the font glyph of its character in the cell's colours.

Quantifier: every byte stream, every interleaving of activate/deactivate with writes, every
console.

Here the console is the abstract cell grid `Firefly.Term.Console` (`Spec/Term.lean`): `write` sets
one cell, `scrollUp n` moves line `i+n` to line `i` (the last `n` lines keep their contents),
`fill` blanks a rectangle; draw requests outside the grid are counted in `outside`.  `t.out` is the
list of console calls the VT model has made (newest first), `K0.applyLog t.out` the screen that
results when they are applied to the console `K0` the terminal was attached to.  That the shipped
`VgaTextConsole` / `VesaFbConsole` implement this grid (cell ↦ text word / rendered glyph) is C19
and, for C18, the differential run against the real drivers; the theorems below are about the
terminal's side of the contract, for all geometries and histories.
-/
namespace Firefly.C18
open Firefly.Vt Firefly.Term Firefly.VtProof Firefly.VtCons Firefly.C17

/-- a console with the geometry `w × h`, whatever it shows -/
structure Screen (K : Console) (w h : Nat) : Prop where
  w : K.w = w
  h : K.h = h
  wf : WF K

/-- **active_sync** — after every history, if the terminal is Active the console shows exactly the
terminal's viewport, cell for cell, which is the viewport of the reference terminal of C17. -/
theorem active_sync {w h sb : Nat} (tab : Nat) (fg bg : UInt8) (hd : Dom w h sb) (ops : List Op)
    {K0 : Console} (hk : Screen K0 w h) {t : VT} (ht : history w h sb tab fg bg ops = .ok t)
    (ha : t.active = true) :
    (K0.applyLog t.out).cells = (absVT t).viewport ∧
    (K0.applyLog t.out).cells = ((Term.new w h sb tab fg bg).run ops).viewport := by
  have H := history_ok tab fg bg hd.1 hd.2.1 hd.2.2 ops ht
  have s := H.sync K0 hk.wf hk.w hk.h
  have e := s.cells_eq H.inv.toGeo ha
  exact ⟨e, by rw [e]; exact viewport_matches tab fg bg hd ops ht⟩

/-- **inactive_untouched** — while the terminal is Inactive no operation other than the activation
itself makes any console call. -/
theorem inactive_untouched {t t' : VT} (i : Inv t) (ha : t.active = false) (op : Op) (hop : op ≠ .state true)
    (h : step t op = .ok t') : t'.out = t.out := by
  obtain ⟨t1, a, -, -, -, z⟩ := step_sim i op
  cases a.symm.trans h
  exact (z hop ha).2

/-- **inactive_untouched_history** — a history without an activation never touches the console. -/
theorem inactive_untouched_history {w h sb : Nat} (tab : Nat) (fg bg : UInt8) (hd : Dom w h sb) (ops : List Op)
    (hno : ∀ op ∈ ops, op ≠ .state true) {t : VT} (ht : history w h sb tab fg bg ops = .ok t) :
    t.out = [] ∧ t.active = false := by
  have z := (history_ok tab fg bg hd.1 hd.2.1 hd.2.2 ops ht).quiet hno
  exact ⟨z.2, z.1⟩

/-- **activate_redraws** — activating an Inactive terminal makes console calls that turn *any*
console of the terminal's geometry, whatever it showed (in particular whatever was written while
the terminal was Inactive), into the terminal's viewport. -/
theorem activate_redraws {t t' : VT} (i : Inv t) (ha : t.active = false) (h : step t (.state true) = .ok t') :
    t'.active = true ∧ ∃ calls, t'.out = calls ++ t.out ∧
      ∀ K, Screen K t.viewportWidth t.viewportHeight → (K.applyLog calls).cells = (absVT t').viewport := by
  obtain ⟨t1, a1, i1, r1, act1, o1, d1, v1, _⟩ := setState_spec i true
  cases (show step t (.state true) = .ok t1 from a1).symm.trans h
  rw [if_neg (fun h' => h'.elim (by rw [ha]; exact nofun) nofun)] at o1
  have hw : t'.viewportWidth = t.viewportWidth := congrArg Term.w r1
  have hh : t'.viewportHeight = t.viewportHeight := congrArg Term.h r1
  refine ⟨act1, redrawCalls t.data t.viewportWidth t.viewportY t.viewportHeight, o1, fun K hk => ?_⟩
  have R := redrawCalls_redraw hk.wf t.data t.viewportY
  rw [hk.w, hk.h] at R
  apply cells_eq_viewport i1.toGeo R.wf (R.w.trans (hk.w.trans hw.symm)) (R.h.trans (hk.h.trans hh.symm))
  intro r c hr hc
  rw [hh, ← hk.h] at hr; rw [hw, ← hk.w] at hc
  rw [R.cell r c hr hc]
  show _ = cellAt t'.data t'.viewportWidth (t'.viewportY + r) c
  rw [d1, v1, hw, Nat.add_comm]

/-- **no_outside_draw** — every console call made in any history addresses the cell grid (a cell
of the grid, a scroll by one line, a rectangle inside the grid), so the console's count of draw
requests outside the grid never moves. -/
theorem no_outside_draw {w h sb : Nat} (tab : Nat) (fg bg : UInt8) (hd : Dom w h sb) (ops : List Op)
    {K0 : Console} (hk : Screen K0 w h) {t : VT} (ht : history w h sb tab fg bg ops = .ok t) :
    (∀ c ∈ t.out, CallOk w h c) ∧ (K0.applyLog t.out).outside = K0.outside ∧
      (K0.applyLog t.out).w = w ∧ (K0.applyLog t.out).h = h := by
  have H := history_ok tab fg bg hd.1 hd.2.1 hd.2.2 ops ht
  have s := H.sync K0 hk.wf hk.w hk.h
  exact ⟨by rw [← H.vw, ← H.vh]; exact s.ok, s.outside, by rw [← H.vw]; exact s.w, by rw [← H.vh]; exact s.h⟩

section Shipped
open Firefly.ConsoleGrid

/-- **shipped_consoles_text** — the terminal attached to the model of the shipped text-mode console
(`Model/VgaText.lean`; `c.clearChar = ' '`, the terminal's colours inside the palette), starting
from any framebuffer `fb0` that displays some abstract screen `K0`: for every history the console
model executes the terminal's calls without panicking, the framebuffer displays the abstract
console of `active_sync`, and while the terminal is Active every framebuffer word is the
character/attribute word of the corresponding viewport cell of the reference terminal. -/
theorem shipped_consoles_text (c : VgaText.Cons) (fb0 : Array UInt16) (ok : Firefly.C19.TextOk c fb0)
    (hclear : c.clearChar = 32) {sb : Nat} (tab : Nat) (fg bg : UInt8)
    (hcol : fg.toNat < c.paletteLen ∧ bg.toNat < c.paletteLen) (hd : Dom c.width c.height sb) (ops : List Op)
    (K0 : Console) (wf : WF K0) (sh0 : TextShows c (Firefly.C19.view16 fb0) K0)
    {t : VT} (ht : history c.width c.height sb tab fg bg ops = .ok t) :
    ∃ fb, Firefly.C19.textRun c fb0 t.out = some fb ∧ Firefly.C19.TextOk c fb ∧
      TextShows c (Firefly.C19.view16 fb) (K0.applyLog t.out) ∧
      (t.active = true → ∀ r col, r < c.height → col < c.width →
        Firefly.C19.view16 fb (r * c.width + col) =
          cellWordOf ((((Term.new c.width c.height sb tab fg bg).run ops).viewport.getD r []).getD col default)) := by
  have hk : Screen K0 c.width c.height := ⟨sh0.1, sh0.2.1, wf⟩
  have H := history_ok tab fg bg hd.1 hd.2.1 hd.2.2 ops ht
  have s := H.sync K0 hk.wf hk.w hk.h
  have hall : ∀ call ∈ t.out, CallOk K0.w K0.h call ∧ Firefly.C19.CallColors c.paletteLen call := by
    intro call hc
    have h2 : CallDef fg bg call := by rw [← H.fg, ← H.bg]; exact s.cols call hc
    refine ⟨by rw [hk.w, hk.h, ← H.vw, ← H.vh]; exact s.ok call hc, ?_⟩
    cases call with
    | write ch f b x y =>
      simp only [CallDef] at h2
      simp only [Firefly.C19.CallColors]
      rw [h2.1, h2.2]; exact hcol
    | scroll d n => trivial
    | fill x y w h f b => trivial
  obtain ⟨fb, r1, ok1, sh1, _, _⟩ := Firefly.C19.text_refines_grid_log c hclear t.out fb0 K0 ok wf sh0 hall
  refine ⟨fb, r1, ok1, sh1, ?_⟩
  intro ha r col hr hc
  have e := (active_sync tab fg bg hd ops hk ht ha).2
  have := sh1.2.2 r col (by rw [sh1.2.1]; exact hr) (by rw [sh1.1]; exact hc)
  rw [this, Console.at, e]

/-- **shipped_consoles_pix** — the same with the model of the shipped framebuffer console
(`Model/VesaFb.lean`) for every supported depth, pitch, font (`FontOk`, blank space glyph — a
generated fact for the shipped fonts), logo offset and **every height** (left-over pixel rows below
the last text line included): the console model executes the terminal's call log without
panicking, the framebuffer displays the abstract console, and while Active every cell of the
framebuffer shows the glyph of the corresponding viewport cell of the reference terminal in its
packed colours.  On geometries with left-over pixel rows C19 specifies a `Scroll` only for the
lines that receive another line's contents (`pix_refines_grid_scroll_moved`); the terminal's log
always has the `Fill` of the vacated line right after the `Scroll` (`VtProof.Paired`, an invariant
of every history), and the pair re-establishes the display relation (`VtPix.scroll_fill`). -/
theorem shipped_consoles_pix (c : VesaFb.Cons) (f : VesaFb.Font) (fb0 : Array UInt8)
    (ok : Firefly.C19.PixOk c f fb0) (fok : Firefly.C19.FontOk f) (hsp : SpaceBlank f)
    {sb : Nat} (tab : Nat) (fg bg : UInt8)
    (hd : Dom c.cols c.rows sb) (ops : List Op)
    (K0 : Console) (wf : WF K0) (sh0 : PixShows c f (Firefly.C19.view8 fb0) K0)
    {t : VT} (ht : history c.cols c.rows sb tab fg bg ops = .ok t) :
    ∃ fb, Firefly.C19.pixRun c fb0 t.out = some fb ∧ Firefly.C19.PixOk c f fb ∧
      PixShows c f (Firefly.C19.view8 fb) (K0.applyLog t.out) ∧
      (t.active = true → ∀ r col, r < c.rows → col < c.cols →
        CellShows c f (Firefly.C19.view8 fb) (col + 1) (r + 1)
          ((((Term.new c.cols c.rows sb tab fg bg).run ops).viewport.getD r []).getD col default)) := by
  have hk : Screen K0 c.cols c.rows := ⟨sh0.1, sh0.2.1, wf⟩
  have H := history_ok tab fg bg hd.1 hd.2.1 hd.2.2 ops ht
  have s := H.sync K0 hk.wf hk.w hk.h
  have hp : Paired c.cols c.rows t.out := by rw [← H.vw, ← H.vh]; exact s.paired
  obtain ⟨fb, r1, ok1, sh1, _⟩ := Firefly.VtPix.paired_log c f fok hsp hp fb0 K0 ok wf sh0
  refine ⟨fb, r1, ok1, sh1, ?_⟩
  intro ha r col hr hc
  have e := (active_sync tab fg bg hd ops hk ht ha).2
  have := sh1.2.2 r col (by rw [sh1.2.1]; exact hr) (by rw [sh1.1]; exact hc)
  rw [Console.at, e] at this
  exact this

/-- non-vacuity of `shipped_consoles_pix` on a geometry with left-over pixel rows AND columns:
a 19×37 8-bpp framebuffer with an 8×16 font (2 columns, 2 lines, 3 left-over columns, 5 left-over
rows) is in C19's domain -/
example : Firefly.C19.PixOk { bpp := 8, bytesPerPixel := 1, width := 19, height := 37, pitch := 20, font := some { gw := 8, gh := 16, bpr := 1, data := #[] }, cols := 2, rows := 2, palette := Array.replicate 256 (0, 0, 0) }
    { gw := 8, gh := 16, bpr := 1, data := #[] } (Array.replicate (37 * 20) 0) := by
  constructor
  case size => simp
  case pal => simp
  case bytes => decide
  all_goals first | simp | decide

/-- non-vacuity of `shipped_consoles_text`: a blank 3×2 text screen (scrollback 2, the shipped
default colours 7 on 0) satisfies every hypothesis, so the theorem applies to each of its histories -/
example : ∃ (c : VgaText.Cons) (fb0 : Array UInt16) (K0 : Console), Firefly.C19.TextOk c fb0 ∧ c.clearChar = 32 ∧
    ((7 : UInt8).toNat < c.paletteLen ∧ (0 : UInt8).toNat < c.paletteLen) ∧ Dom c.width c.height 2 ∧ WF K0 ∧
    TextShows c (Firefly.C19.view16 fb0) K0 := by
  refine ⟨{ width := 3, height := 2 }, Array.replicate 6 (VgaText.cellWord 32 7 0), Console.new 3 2 ⟨32, 7, 0⟩,
    ⟨by decide, by decide, by decide, by simp, by decide⟩, rfl, by decide, by decide, new_wf 3 2 _, rfl, rfl, ?_⟩
  intro r col hr hc
  have hr' : r < 2 := hr
  have hc' : col < 3 := hc
  have hi : r * 3 + col < 6 := by omega
  simp only [Firefly.C19.view16, Array.getD_eq_getD_getElem?, Array.getElem?_replicate, if_pos hi]
  rcases (by omega : r = 0 ∨ r = 1) with h | h <;> subst h <;>
    rcases (by omega : col = 0 ∨ col = 1 ∨ col = 2) with h | h | h <;> subst h <;> rfl

end Shipped

example : Screen (Console.new 80 25 ⟨0, 0, 0⟩) 80 25 := ⟨rfl, rfl, new_wf 80 25 _⟩

/-- filling with the background colour equals writing spaces only if glyph 0x20 is blank: a
generated fact for every shipped font (regenerated from /repo by the harness) -/
example : Firefly.Gen.C18.shippedFonts.all (fun f => f.2.2.2.2.2) = true := by decide

/-- the shipped consoles' default colours (what the terminal draws with) are in range of the
16-colour text palette -/
example : Firefly.Gen.C18.textDefaultFg ≤ 15 ∧ Firefly.Gen.C18.textDefaultBg < 15 := by decide

/-- the hypotheses of `activate_redraws` and `active_sync` are satisfiable: a freshly attached
80×25 terminal is Inactive, satisfies the invariant, and activating it succeeds and leaves it Active -/
example : ∃ t t', Inv t ∧ t.active = false ∧ step t (.state true) = .ok t' ∧ t'.active = true := by
  obtain ⟨t, _, i, _, act, _⟩ := attach_spec (w := 80) (h := 25) (sb := 80) 4 7 0 (by decide) (by decide) (by decide)
  obtain ⟨t', a, _, _, act', _⟩ := setState_spec i true
  exact ⟨t, t', i, act, a, act'⟩

end Firefly.C18
