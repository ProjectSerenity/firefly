import Firefly.Model.AddrSpace
import Firefly.Proof.Bits
/-!
# C07 — Kernel virtual-region reservations never overlap and never wrap

Statement (properties.jsonl): every successful reservation of kernel virtual address space
returns a page-aligned region at least as large as requested that lies entirely below every
region reserved before it and below the temporary-mapping page, so no two reservations ever
overlap; a request that does not fit fails with an error and reserves nothing.  Mapping a
physical range through such a reservation maps exactly the pages needed to cover the requested
size, consecutive pages to consecutive frames.
-/
namespace Firefly.C07
open Firefly.AddrSpace Firefly.Bits

/-- number of whole pages needed for `n` bytes (unbounded arithmetic) -/
def ceilPages (n : Nat) : Nat := (n + 4095) / 4096

private theorem pageSizeW_eq : pageSizeW = 4096#64 := by decide
private theorem pageShift_eq : Firefly.Gen.C07.pageShift = 12 := by decide

theorem roundWraps_iff (size : W) : roundWraps size = true ↔ 2^64 < ceilPages size.toNat * 4096 + 1 := by
  have := size.isLt
  rw [roundWraps, ceilPages, pageSizeW_eq, pageMask_eq, decide_eq_true_eq, gt_iff_lt, BitVec.lt_def, toNat_not_lowmask 12 (by decide)]
  omega

theorem roundUp_toNat (size : W) (h : roundWraps size = false) :
    (roundUp size).toNat = ceilPages size.toNat * 4096 := by
  rw [roundWraps, decide_eq_false_iff_not, pageSizeW_eq] at h
  rw [roundUp, pageSizeW_eq, toNat_roundUp12 size h, ceilPages]

/-- `EarlyReserveRegion` in plain numbers: it fails exactly when the rounded size exceeds the cursor, and
otherwise returns the cursor lowered by the rounded size -/
private theorem earlyReserve_cases (cursor size : W) :
    (earlyReserve cursor size = none ∧ cursor.toNat < ceilPages size.toNat * 4096) ∨
    ∃ addr, earlyReserve cursor size = some addr ∧ addr.toNat + ceilPages size.toNat * 4096 = cursor.toNat := by
  unfold earlyReserve
  by_cases hw : roundWraps size = true
  · have := (roundWraps_iff size).1 hw
    have := cursor.isLt
    exact Or.inl ⟨by simp [hw], by omega⟩
  · have hw' : roundWraps size = false := by simpa using hw
    have hr := roundUp_toNat size hw'
    simp only [hw', Bool.false_eq_true, if_false]
    by_cases hc : roundUp size > cursor
    · rw [if_pos hc]
      rw [gt_iff_lt, BitVec.lt_def, hr] at hc
      exact Or.inl ⟨rfl, hc⟩
    · rw [if_neg hc]
      rw [gt_iff_lt, BitVec.lt_def, hr] at hc
      refine Or.inr ⟨_, rfl, ?_⟩
      rw [BitVec.toNat_sub_of_le (BitVec.le_def.2 (by omega)), hr]; omega

/-- **fits_iff** — a reservation succeeds exactly when the page-rounded size, computed without
wrap-around, is at most the space below the cursor. -/
theorem fits_iff (cursor size : W) :
    (earlyReserve cursor size).isSome ↔ ceilPages size.toNat * 4096 ≤ cursor.toNat := by
  rcases earlyReserve_cases cursor size with ⟨h, hlt⟩ | ⟨addr, h, he⟩ <;> rw [h] <;> simp <;> omega

/-- **reserve_ok** — success ⇒ address + rounded size = old cursor (no wrap), rounded size ≥
requested size, and page alignment is preserved. -/
theorem reserve_ok (cursor size addr : W) (h : earlyReserve cursor size = some addr) :
    addr.toNat + ceilPages size.toNat * 4096 = cursor.toNat ∧
    size.toNat ≤ ceilPages size.toNat * 4096 ∧
    addr.toNat ≤ cursor.toNat ∧
    (cursor.toNat % 4096 = 0 → addr.toNat % 4096 = 0) := by
  rcases earlyReserve_cases cursor size with ⟨h', -⟩ | ⟨a, h', he⟩ <;> rw [h'] at h
  · cases h
  · cases h
    unfold ceilPages at *
    omega

/-- `MapRegion`, `sysReserve` and `sysAlloc` round the size before they call `EarlyReserveRegion`, which rounds
it again: by `earlyReserve_cases` the outcome depends on the size through `ceilPages` alone, and rounding keeps that -/
private theorem earlyReserve_roundUp (cursor size : W) (hw : roundWraps size = false) :
    earlyReserve cursor (roundUp size) = earlyReserve cursor size := by
  have hcp : ceilPages (roundUp size).toNat * 4096 = ceilPages size.toNat * 4096 := by
    rw [roundUp_toNat size hw]; unfold ceilPages; omega
  rcases earlyReserve_cases cursor (roundUp size) with ⟨h1, l1⟩ | ⟨a1, h1, e1⟩ <;>
    rcases earlyReserve_cases cursor size with ⟨h2, l2⟩ | ⟨a2, h2, e2⟩ <;> rw [h1, h2]
  · omega
  · omega
  · exact congrArg some (BitVec.eq_of_toNat_eq (by omega))

private theorem roundWraps_of_some {cursor size start : W} (h : earlyReserve cursor size = some start) :
    roundWraps size = false := by
  unfold earlyReserve at h
  cases hw : roundWraps size with
  | false => rfl
  | true => simp [hw] at h

/-- one request as a step on the cursor: the cursor afterwards and the region, if any (`run` below threads the
cursor in the same way, by a `match` of its own) -/
def step (cursor : W) (size : W) : W × Option W :=
  match earlyReserve cursor size with
  | some a => (a, some a)
  | none => (cursor, none)

/-- **reserve_fail_pure** — a request that fails reserves nothing.  This is structural: `earlyReserve` returns no
new cursor on failure, so the cursor threaded through a history stays where it was. -/
theorem reserve_fail_pure (cursor size : W) (h : earlyReserve cursor size = none) :
    (step cursor size).1 = cursor := by
  simp [step, h]

/-- run a history of requests; returns the final cursor and the successful regions
`(address, requested size)` most recent first -/
def run : W → List W → W × List (W × W)
  | c, [] => (c, [])
  | c, s :: rest =>
    match earlyReserve c s with
    | some a => let (c', rs) := run a rest; (c', rs ++ [(a, s)])
    | none => run c rest

/-- all regions in `rs` (most recent first … oldest last) lie in `[lo, hi)` where every region's
bytes `[a, a+size)` are below the address of every older one. -/
def Stacked (lo hi : Nat) : List (W × W) → Prop
  | [] => lo ≤ hi
  | (a, s) :: rest => lo ≤ a.toNat ∧ a.toNat % 4096 = 0 ∧ Stacked (a.toNat + s.toNat) hi rest

private theorem Stacked.le {lo hi : Nat} {rs : List (W × W)} (h : Stacked lo hi rs) : lo ≤ hi := by
  induction rs generalizing lo with
  | nil => exact h
  | cons p rest ih => exact Nat.le_trans (Nat.le_trans h.1 (Nat.le_add_right _ _)) (ih h.2.2)

theorem stacked_mono {lo lo' hi : Nat} {rs : List (W × W)} (h : Stacked lo hi rs) (hl : lo' ≤ lo) :
    Stacked lo' hi rs := by
  cases rs with
  | nil => exact Nat.le_trans hl h
  | cons p rest => exact ⟨Nat.le_trans hl h.1, h.2⟩

theorem stacked_append {lo mid hi : Nat} {rs : List (W × W)} {a s : W}
    (h : Stacked lo mid rs) (ha : mid ≤ a.toNat) (hal : a.toNat % 4096 = 0)
    (hs : a.toNat + s.toNat ≤ hi) : Stacked lo hi (rs ++ [(a, s)]) := by
  induction rs generalizing lo with
  | nil => exact ⟨Nat.le_trans h ha, hal, hs⟩
  | cons p rest ih => exact ⟨h.1, h.2.1, ih h.2.2⟩

/-- **disjoint_history** — for every request sequence from an aligned cursor, the successful
regions, read from the most recent to the oldest, are page aligned and stacked strictly upwards:
each one's bytes `[addr, addr+size)` end at or below the start of every older one, and all of
them lie between the final cursor and the initial cursor (hence below `tempMappingAddr` when the
history starts there). -/
theorem disjoint_history (c : W) (sizes : List W) (hc : c.toNat % 4096 = 0) :
    Stacked (run c sizes).1.toNat c.toNat (run c sizes).2 ∧ (run c sizes).1.toNat % 4096 = 0 := by
  induction sizes generalizing c with
  | nil => simp [run, Stacked, hc]
  | cons s rest ih =>
    unfold run
    cases h : earlyReserve c s with
    | none => exact ih c hc
    | some a =>
      obtain ⟨h1, h2, h3, h4⟩ := reserve_ok c s a h
      have ha := h4 hc
      obtain ⟨ih1, ih2⟩ := ih a ha
      simp only
      refine ⟨?_, ih2⟩
      exact stacked_append ih1 (Nat.le_refl _) ha (by omega)

/-- pairwise disjointness spelled out, as a corollary of `Stacked` -/
theorem stacked_disjoint {lo hi : Nat} {rs : List (W × W)} (h : Stacked lo hi rs) :
    rs.Pairwise (fun newer older => newer.1.toNat + newer.2.toNat ≤ older.1.toNat) ∧
    ∀ r ∈ rs, lo ≤ r.1.toNat ∧ r.1.toNat + r.2.toNat ≤ hi := by
  induction rs generalizing lo with
  | nil => simp
  | cons p rest ih =>
    obtain ⟨a, s⟩ := p
    obtain ⟨ihp, ihb⟩ := ih h.2.2
    refine ⟨List.pairwise_cons.2 ⟨fun r hr => (ihb r hr).1, ihp⟩, fun r hr => ?_⟩
    rcases List.mem_cons.1 hr with rfl | hr
    · exact ⟨h.1, h.2.2.le⟩
    · exact ⟨Nat.le_trans (Nat.le_trans h.1 (Nat.le_add_right _ _)) (ihb r hr).1, (ihb r hr).2⟩

theorem no_overlap (sizes : List W) :
    (run tempMappingAddrW sizes).2.Pairwise
      (fun newer older => newer.1.toNat + newer.2.toNat ≤ older.1.toNat) ∧
    ∀ r ∈ (run tempMappingAddrW sizes).2,
      r.1.toNat % 4096 = 0 → r.1.toNat + r.2.toNat ≤ Firefly.Gen.C07.tempMappingAddr := by
  have h := disjoint_history tempMappingAddrW sizes (by decide)
  have := stacked_disjoint h.1
  refine ⟨this.1, ?_⟩
  intro r hr _
  have := (this.2 r hr).2
  have e : tempMappingAddrW.toNat = Firefly.Gen.C07.tempMappingAddr := by decide
  omega

/-- the calls made by a page loop that is not interrupted -/
theorem mapLoop_exact (page frame flags : W) (n idx : Nat) :
    mapLoop page frame flags none n idx =
      ((List.range n).map fun i => (page + BitVec.ofNat 64 i, frame + BitVec.ofNat 64 i, flags), true) := by
  induction n generalizing page frame idx with
  | zero => simp [mapLoop]
  | succ n ih =>
    simp only [mapLoop, reduceCtorEq, if_false, ih]
    rw [List.range_succ_eq_map]
    simp only [List.map_cons, List.map_map, BitVec.ofNat_eq_ofNat, BitVec.add_zero]
    congr 2
    apply List.map_congr_left
    intro i _
    simp only [Function.comp]
    have : BitVec.ofNat 64 (i+1) = 1 + BitVec.ofNat 64 i := by
      apply BitVec.eq_of_toNat_eq; simp [BitVec.toNat_add, Nat.add_comm]
    rw [this]; simp [BitVec.add_assoc]

/- `mapRegion` as equations.  The theorems below only rewrite with these; unfolding `mapRegion` inside a
goal about its projections is an order of magnitude slower for the kernel to check. -/
private theorem mapRegion_fail (cursor frame size flags : W) (failAt : Option Nat)
    (h : earlyReserve cursor size = none) :
    mapRegion cursor frame size flags failAt = { ok := false, page := 0, cursor := cursor, calls := [] } := by
  rw [mapRegion]
  split
  · rfl
  · next hw => simp only [earlyReserve_roundUp cursor size (by simpa using hw), h]

private theorem mapRegion_some (cursor frame size flags start : W) (he : earlyReserve cursor size = some start) :
    mapRegion cursor frame size flags none =
      { ok := true, page := pageOf start, cursor := start,
        calls := (List.range (roundUp size >>> Firefly.Gen.C07.pageShift).toNat).map
          fun i => (pageOf start + BitVec.ofNat 64 i, frame + BitVec.ofNat 64 i, flags) } := by
  have hw := roundWraps_of_some he
  rw [← earlyReserve_roundUp cursor size hw] at he
  generalize hn : (roundUp size >>> Firefly.Gen.C07.pageShift).toNat = n
  simp only [mapRegion, hw, Bool.false_eq_true, if_false, he, hn, mapLoop_exact, if_true]

/-- **region_maps_exact_pages** — a successful `MapRegion` (no mapping failure) reserves exactly
`ceilPages size` pages and maps page `start+i` to frame `frame+i` for each `i` below that count,
in order, with the requested flags, and nothing else. -/
theorem region_maps_exact_pages (cursor frame size flags : W)
    (hc : cursor.toNat % 4096 = 0) (r : RegionResult)
    (h : mapRegion cursor frame size flags none = r) (hok : r.ok = true) :
    r.cursor.toNat + ceilPages size.toNat * 4096 = cursor.toNat ∧
    r.page.toNat * 4096 = r.cursor.toNat ∧
    r.calls = (List.range (ceilPages size.toNat)).map
      fun i => (r.page + BitVec.ofNat 64 i, frame + BitVec.ofNat 64 i, flags) := by
  subst h
  cases he : earlyReserve cursor size with
  | none => rw [mapRegion_fail _ _ _ _ _ he] at hok; cases hok
  | some start =>
    obtain ⟨h1, _, _, h4⟩ := reserve_ok cursor size start he
    have hal := h4 hc
    have hpage : (pageOf start).toNat * 4096 = start.toNat := by
      unfold pageOf
      rw [pageSizeW_eq, pageShift_eq, toNat_shr, toNat_and_mask12]
      omega
    have hcount : (roundUp size >>> Firefly.Gen.C07.pageShift).toNat = ceilPages size.toNat := by
      rw [pageShift_eq, toNat_shr, roundUp_toNat size (roundWraps_of_some he)]; omega
    rw [mapRegion_some _ _ _ _ _ he, hcount]
    exact ⟨h1, hpage, rfl⟩

/-- **region_fail_pure** — a `MapRegion` request that does not fit (the page-rounded size exceeds
the space below the cursor) fails, maps nothing and leaves the cursor where it was. -/
theorem region_fail_pure (cursor frame size flags : W) (failAt : Option Nat)
    (h : ¬ ceilPages size.toNat * 4096 ≤ cursor.toNat) :
    (mapRegion cursor frame size flags failAt).ok = false ∧
    (mapRegion cursor frame size flags failAt).cursor = cursor ∧
    (mapRegion cursor frame size flags failAt).calls = [] := by
  rw [mapRegion_fail _ _ _ _ _ (Option.not_isSome_iff_eq_none.1 (mt (fits_iff cursor size).1 h))]
  exact ⟨rfl, rfl, rfl⟩

/-! ## The Go runtime's memory hooks (`kernel/goruntime/bootstrap.go`) as clients -/

/-- `sysReserve`'s own guard and rounding add nothing to `EarlyReserveRegion`'s -/
private theorem gortReserve_eq (cursor size : W) : gortReserve cursor size = earlyReserve cursor size := by
  unfold gortReserve
  by_cases hw : roundWraps size = true
  · rw [if_pos hw, earlyReserve, if_pos hw]
  · rw [if_neg hw, earlyReserve_roundUp cursor size (Bool.not_eq_true _ ▸ hw)]

/-- **gort_reserve_ok** — a successful `sysReserve` returns a region of at least the requested
size directly below the cursor (page aligned if the cursor is); a size whose rounding wraps or that
does not fit makes it panic (`none`) and reserves nothing. -/
theorem gort_reserve_ok (cursor size addr : W) (h : gortReserve cursor size = some addr) :
    addr.toNat + ceilPages size.toNat * 4096 = cursor.toNat ∧
    size.toNat ≤ ceilPages size.toNat * 4096 ∧
    (cursor.toNat % 4096 = 0 → addr.toNat % 4096 = 0) := by
  obtain ⟨h1, h2, _, h4⟩ := reserve_ok cursor size addr (gortReserve_eq cursor size ▸ h)
  exact ⟨h1, h2, h4⟩

/-- the loop of `sysMap` maps every page to the same (zero) frame with the same flags -/
theorem mapLoopConst_flags (page frame flags : W) (fa : Option Nat) (n idx : Nat) :
    ∀ c ∈ (mapLoopConst page frame flags fa n idx).1, c.2.1 = frame ∧ c.2.2 = flags := by
  induction n generalizing page idx with
  | zero => intro c hc; simp [mapLoopConst] at hc
  | succ n ih =>
    intro c hc
    unfold mapLoopConst at hc
    by_cases hf : fa = some idx
    · simp only [hf, if_true, List.mem_singleton] at hc
      subst hc; exact ⟨rfl, rfl⟩
    · simp only [hf, if_false] at hc
      rw [List.mem_cons] at hc
      rcases hc with rfl | hc
      · exact ⟨rfl, rfl⟩
      · exact ih (page + 1) (idx + 1) c hc

/- `gortMap` as an equation, and the projection of its `match` on the loop's result for a variable result.  The theorem below
rewrites with these: taking `.2` by unfolding makes the kernel evaluate the loop count `(roundUp size >>> pageShift).toNat` first,
which is slow (the `&&&` inside `roundUp` unfolds a well-founded recursion). -/
private theorem gortMap_eq (va size zero : W) (fa : Option Nat) : gortMap va size zero fa =
    if roundWraps size then (0, []) else
      match mapLoopConst (pageOf (roundUp va)) zero cowFlags fa (roundUp size >>> Firefly.Gen.C07.pageShift).toNat 0 with
      | (calls, ok) => (if ok then roundUp va else 0, calls) := rfl

private theorem gortMap_match_snd (r : List (W × W × W) × Bool) (start : W) :
    (match r with | (calls, ok) => (if ok then start else 0, calls)).2 = r.1 := by
  cases r; rfl

/-- **gort_map_never_writable** — every mapping `sysMap` requests is of the shared zero frame with
Present|NoExecute|CopyOnWrite and never with the RW bit (C06's rule at this call site). -/
theorem gort_map_never_writable (va size zero : W) (fa : Option Nat) :
    ∀ c ∈ (gortMap va size zero fa).2, c.2.1 = zero ∧ c.2.2 = cowFlags ∧
      c.2.2 &&& BitVec.ofNat 64 Firefly.Gen.C07.flagRW = 0 := by
  intro c hc
  rw [gortMap_eq] at hc
  split at hc
  · cases hc
  · rw [gortMap_match_snd] at hc
    have := mapLoopConst_flags _ _ _ _ _ _ c hc
    refine ⟨this.1, this.2, ?_⟩
    rw [this.2]; decide

/-! ## Non-vacuity: concrete instances of the hypotheses -/

example : earlyReserve tempMappingAddrW 4097#64 = some (tempMappingAddrW - 8192#64) := by decide
example : earlyReserve tempMappingAddrW (BitVec.ofNat 64 (2^64-1)) = none := by decide
example : (run tempMappingAddrW [1#64, 0#64, 4096#64, BitVec.ofNat 64 (2^64-1), 5000#64]).2.length = 4 := by
  decide
example : (mapRegion tempMappingAddrW 7#64 4097#64 3#64 none).ok = true := by decide

example : gortReserve tempMappingAddrW 5000#64 = some (tempMappingAddrW - 8192#64) := by decide
example : gortReserve tempMappingAddrW (BitVec.ofNat 64 (2^64-1)) = none := by decide
example : (gortMap 0x1234#64 4097#64 0x77#64 none).2.length = 2 := by decide

/-- **single_cursor_writer** — the history theorems (`disjoint_history`, `no_overlap`) thread the
cursor through `earlyReserve` only: nothing else moves it. On the Go side that is a fact about the
source of package vmm, regenerated on every run (`Gen.C07.cursorWriters`, read off the AST): the only
function that assigns, increments or takes the address of `earlyReserveLastUsed` is
`EarlyReserveRegion`. (A second writer — e.g. the switch to the kernel address space iterating with
the cursor itself — breaks this theorem; the search then runs reservation histories across the real
`setupPDTForKernel`, clause `setup-keeps-reservations`.) -/
theorem single_cursor_writer : Firefly.Gen.C07.cursorWriters = ["EarlyReserveRegion"] := by decide

end Firefly.C07
