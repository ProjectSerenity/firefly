import Firefly.Proof.ConsoleOps
import Firefly.Proof.ConsoleGrid
import Firefly.Gen.C19
/-!
# C19 — Console drivers paint exactly the addressed cells, never outside the framebuffer

Statement (properties.jsonl): for every console geometry and every argument value, writing a
character changes only the pixels (or the text cell) of the addressed cell — glyph bits in the
foreground colour, the rest in the background colour, packed for the framebuffer's pixel format —
and does nothing for coordinates outside the grid; filling clamps the rectangle's origin into the
grid, clips its extent at the right and bottom edges and changes exactly those cells; scrolling by
1 up to the grid height moves the text area by exactly that many lines, leaves the logo area
alone, and any other line count is ignored.  No operation ever touches memory outside the
framebuffer, or the padding bytes between rows.

The models (`Model/VgaText.lean`, `Model/VesaFb.lean`) use checked framebuffer access (`none` =
Go index panic = access outside the framebuffer) and 32-bit wrap-around arithmetic; the
specifications (`Spec/Console.lean`) are pointwise and use unbounded arithmetic.  Every theorem
below is for all geometries satisfying the stated domain predicate and all 32-bit arguments.
-/
namespace Firefly.C19
open Firefly Firefly.Spec.Console

/-- domain of the text-console theorems: a non-empty grid whose framebuffer (2 bytes per cell)
fits 32 bits, mapped as `DriverInit` does, and a palette of 1..256 colours -/
structure TextOk (c : VgaText.Cons) (fb : Array UInt16) : Prop where
  w1 : 1 ≤ c.width
  h1 : 1 ≤ c.height
  small : c.width * c.height < 2147483648
  size : fb.size = c.width * c.height
  pal : 1 ≤ c.paletteLen ∧ c.paletteLen ≤ 256

/-- framebuffer contents as a function -/
def view16 (fb : Array UInt16) : Nat → UInt16 := fun i => fb.getD i 0
def view8 (fb : Array UInt8) : Nat → UInt8 := fun i => fb.getD i 0

/-- non-vacuity: the 80×25 console built from the generated constants is in the domain, and the
model's framebuffer length is what `DriverInit` computes -/
example : TextOk { width := 80, height := 25, paletteLen := Gen.C19.vgaPaletteLen }
    (Array.replicate 2000 0) := by
  constructor <;> simp [Gen.C19.vgaPaletteLen]
example : VgaText.fbLen { width := 80, height := 25 } = 2000 := by decide

/-- **write_frame (text)** — for every cell coordinate: inside the grid exactly the addressed
cell changes, to character + attribute byte (colours beyond the palette replaced by the
defaults); outside the grid nothing changes; never a panic. -/
theorem text_write_frame (c : VgaText.Cons) (fb : Array UInt16) (ok : TextOk c fb)
    (ch fg bg x y : Nat) (hx : x < 4294967296) (hy : y < 4294967296) :
    ∃ fb', VgaText.write c fb ch fg bg x y = some fb' ∧ fb'.size = fb.size ∧
      ∀ i, i < fb.size → view16 fb' i = textWrite c (view16 fb) ch fg bg x y i := by
  obtain ⟨fb', h1, h2, h3⟩ := ConsoleOps.text_write c fb (by have := ok.small; omega) ok.size ok.pal ch fg bg x y
  exact ⟨fb', h1, h2, fun i _ => h3 i⟩

/-- **fill_clip (text)** — for all 32-bit `x y w h` (including those whose sums leave 32 bits):
the cells that change are exactly the rectangle with its origin clamped into the grid and its
extent clipped at the right and bottom edges; each becomes the clear character with the given
attribute; never a panic. -/
theorem text_fill_clip (c : VgaText.Cons) (fb : Array UInt16) (ok : TextOk c fb)
    (x y w h fg bg : Nat) (hx : x < 4294967296) (hy : y < 4294967296)
    (hw : w < 4294967296) (hh : h < 4294967296) :
    ∃ fb', VgaText.fill c fb x y w h fg bg = some fb' ∧ fb'.size = fb.size ∧
      ∀ i, i < fb.size → view16 fb' i = textFill c (view16 fb) x y w h fg bg i := by
  obtain ⟨fb', h1, h2, h3⟩ := ConsoleOps.text_fill c fb ok.w1 ok.h1 ok.small ok.size x y w h fg bg
  exact ⟨fb', h1, h2, fun i _ => h3 i⟩

/-- **scroll_exact (text)** — a line count in `1..rows` moves every row by exactly that many
lines (the rows scrolled in keep their old contents: the caller repaints them); any other count,
and any direction other than up/down, changes nothing; never a panic. -/
theorem text_scroll_exact (c : VgaText.Cons) (fb : Array UInt16) (ok : TextOk c fb)
    (dir lines : Nat) (hl : lines < 4294967296) :
    ∃ fb', VgaText.scroll c fb dir lines = some fb' ∧ fb'.size = fb.size ∧
      ∀ i, i < fb.size → view16 fb' i = textScroll c (view16 fb) dir lines i := by
  obtain ⟨fb', h1, h2, h3⟩ := ConsoleOps.text_scroll c fb ok.w1 ok.small ok.size dir lines
  exact ⟨fb', h1, h2, fun i _ => h3 i⟩

/-- domain of the pixel-console theorems: a supported depth, a font with non-empty glyphs selected
with `SetFont` after the logo (if any), a grid with at least one cell, `pitch ≥` the visible row
bytes, a framebuffer of `height*pitch` bytes (as `DriverInit` maps it) that — with one row of
slack — fits 32 bits, and the full 256-entry palette. -/
structure PixOk (c : VesaFb.Cons) (f : VesaFb.Font) (fb : Array UInt8) : Prop where
  font : c.font = some f
  bpp : c.bpp = 8 ∨ c.bpp = 15 ∨ c.bpp = 16 ∨ c.bpp = 24 ∨ c.bpp = 32
  bytes : c.bytesPerPixel = VesaFb.bytesPerPixelOf c.bpp
  gw1 : 1 ≤ f.gw
  gh1 : 1 ≤ f.gh
  cols : c.cols = c.width / f.gw
  rows : c.rows = (c.height - c.offsetY) / f.gh
  logo : c.offsetY ≤ c.height
  cols1 : 1 ≤ c.cols
  rows1 : 1 ≤ c.rows
  pitch : c.width * c.bytesPerPixel ≤ c.pitch
  small : (c.height + 1) * c.pitch + 4 < 4294967296
  size : fb.size = c.height * c.pitch
  pal : c.palette.size = 256

/-- the bytes-per-pixel values that `NewVesaFbConsole` computes for the five depths (regenerated
from the compiled code) are the model's `bytesPerPixelOf` -/
theorem bytesPerPixel_table : ∀ p ∈ Gen.C19.bytesPerPixelTable, VesaFb.bytesPerPixelOf p.1 = p.2 := by decide

/-- non-vacuity: a 24×35 16-bpp framebuffer with 1 byte of row padding, a 3-row logo and an 8×16
font (2 rows of 3 cells) is in the domain -/
example : PixOk { bpp := 16, bytesPerPixel := 2, width := 24, height := 35, pitch := 49, offsetY := 3,
                  font := some { gw := 8, gh := 16, bpr := 1, data := #[] }, cols := 3, rows := 2,
                  palette := Array.replicate 256 (0, 0, 0) }
    { gw := 8, gh := 16, bpr := 1, data := #[] } (Array.replicate (35 * 49) 0) := by
  constructor
  case size => simp
  case pal => simp
  case bytes => decide
  all_goals first | simp | decide

/-- the shipped fonts (metadata regenerated from the compiled code) have non-empty glyphs, rows of
`⌈gw/8⌉` bytes and 256 glyphs of data, and a blank space glyph -/
example : ∀ p ∈ Gen.C19.fonts, 1 ≤ p.2.1 ∧ 1 ≤ p.2.2.1 ∧ 8 * (p.2.2.2.1 - 1) < p.2.1 ∧ p.2.1 ≤ 8 * p.2.2.2.1 ∧
    p.2.2.2.2.1 = 256 * p.2.2.2.1 * p.2.2.1 ∧ p.2.2.2.2.2 = true := by decide

private theorem frameOf {c : VesaFb.Cons} {f : VesaFb.Font} {fb : Array UInt8} (ok : PixOk c f fb) :
    ConsoleOps.Frame c f fb.size :=
  .of ok.bpp ok.bytes ok.gw1 ok.gh1 ok.cols ok.rows ok.logo ok.cols1 ok.pitch ok.small ok.size

/-- `Fill` for arguments of any size -/
private theorem pix_fill_any {c : VesaFb.Cons} {f : VesaFb.Font} {fb : Array UInt8} (ok : PixOk c f fb)
    (x y w h fg bg : Nat) (hbg : bg < 256) :
    ∃ fb', VesaFb.fill c fb x y w h fg bg = some fb' ∧ fb'.size = fb.size ∧
      ∀ i, view8 fb' i = pixFill c f (view8 fb) x y w h bg i := by
  obtain ⟨len, hle, hpb⟩ := ConsoleOps.pixelBytes_len ok.bpp ok.bytes ok.pal
  obtain ⟨comp, hc1, hc3⟩ := hpb bg hbg
  exact ConsoleOps.pix_fill (frameOf ok) ok.font ok.cols1 ok.rows1 x y w h fg bg comp hc1 (by omega)

/-- **fill_clip (pixel)** — for all 32-bit `x y w h`: exactly the pixels of the cells of the
clamped/clipped rectangle change, each to the packed background colour (only the colour bytes of
a pixel: a 32-bit pixel keeps its fourth byte); padding bytes, the logo rows and everything else
keep their contents; never a panic. -/
theorem pix_fill_clip (c : VesaFb.Cons) (f : VesaFb.Font) (fb : Array UInt8) (ok : PixOk c f fb)
    (x y w h fg bg : Nat) (hx : x < 4294967296) (hy : y < 4294967296)
    (hw : w < 4294967296) (hh : h < 4294967296) (hbg : bg < 256) :
    ∃ fb', VesaFb.fill c fb x y w h fg bg = some fb' ∧ fb'.size = fb.size ∧
      ∀ i, i < fb.size → view8 fb' i = pixFill c f (view8 fb) x y w h bg i := by
  obtain ⟨fb', h1, h2, h3⟩ := pix_fill_any ok x y w h fg bg hbg
  exact ⟨fb', h1, h2, fun i _ => h3 i⟩

/-- **scroll_exact (pixel)** — a line count in `1..rows` moves the visible bytes of every pixel
row below the logo by exactly `lines` glyph heights; the logo rows, the padding bytes after each
row, and the rows scrolled in keep their contents; any other count or direction changes
nothing; never a panic. -/
theorem pix_scroll_exact (c : VesaFb.Cons) (f : VesaFb.Font) (fb : Array UInt8) (ok : PixOk c f fb)
    (dir lines : Nat) (hl : lines < 4294967296) :
    ∃ fb', VesaFb.scroll c fb dir lines = some fb' ∧ fb'.size = fb.size ∧
      ∀ i, i < fb.size → view8 fb' i = pixScroll c f (view8 fb) dir lines i := by
  obtain ⟨fb', h1, h2, h3⟩ := ConsoleOps.pix_scroll (frameOf ok) ok.font dir lines
  exact ⟨fb', h1, h2, fun i _ => h3 i⟩

/-- **write_frame (pixel), outside the grid** — with no font selected, or for any 32-bit
coordinate outside the character grid, `Write` changes nothing and does not panic (needs no
domain hypothesis at all; the in-grid case is `pix_write_frame`). -/
theorem pix_write_outside (c : VesaFb.Cons) (fb : Array UInt8) (ch fg bg x y : Nat)
    (h : c.font = none ∨ x < 1 ∨ x > c.cols ∨ y < 1 ∨ y > c.rows) :
    VesaFb.write c fb ch fg bg x y = some fb ∧
    (∀ f, c.font = some f → ∀ i, pixWrite c f (view8 fb) ch fg bg x y i = view8 fb i) := by
  constructor
  · unfold VesaFb.write
    cases hf : c.font with
    | none => rfl
    | some f =>
      have : x < 1 ∨ x > c.cols ∨ y < 1 ∨ y > c.rows := by
        rcases h with h | h
        · rw [hf] at h; cases h
        · exact h
      simp only [if_pos this]
  · intro f hf i
    have : ¬ (1 ≤ x ∧ x ≤ c.cols ∧ 1 ≤ y ∧ y ≤ c.rows) := by
      rcases h with h | h
      · rw [hf] at h; cases h
      · omega
    simp only [pixWrite, if_neg this]

/-- domain of the font: rows of `⌈gw/8⌉` bytes, 256 glyphs of data (the shipped fonts satisfy it:
see the example on `Gen.C19.fonts` above) -/
structure FontOk (f : VesaFb.Font) : Prop where
  bpr : 8 * (f.bpr - 1) < f.gw ∧ f.gw ≤ 8 * f.bpr
  size : f.data.size = 256 * f.bpr * f.gh
  small : f.data.size < 4294967296

/-- non-vacuity: a 9-pixel-wide font with two bytes per row -/
example : FontOk { gw := 9, gh := 2, bpr := 2, data := Array.replicate 1024 0 } := by
  constructor <;> simp

private theorem pix_write_in {c : VesaFb.Cons} {f : VesaFb.Font} {fb : Array UInt8} (ok : PixOk c f fb) (fok : FontOk f)
    (ch fg bg x y : Nat) (hch : ch < 256) (hfg : fg < 256) (hbg : bg < 256)
    (hin : 1 ≤ x ∧ x ≤ c.cols ∧ 1 ≤ y ∧ y ≤ c.rows) :
    ∃ fb', VesaFb.write c fb ch fg bg x y = some fb' ∧ fb'.size = fb.size ∧
      ∀ i, view8 fb' i = pixWrite c f (view8 fb) ch fg bg x y i := by
  obtain ⟨len, hle, hpb⟩ := ConsoleOps.pixelBytes_len ok.bpp ok.bytes ok.pal
  obtain ⟨fgC, hf1, hf3⟩ := hpb fg hfg
  obtain ⟨bgC, hb1, hb3⟩ := hpb bg hbg
  exact ConsoleOps.pix_write (frameOf ok) ok.font fok.bpr fok.size fok.small ch fg bg x y hch hin
    fgC bgC len hf1 hb1 hf3 hb3 hle

/-- **write_frame (pixel)** — for every depth, font in the domain, character, colours and 32-bit
coordinates: inside the grid exactly the colour bytes of the `gw × gh` pixels of the addressed
cell change — pixels whose glyph bit is set to the packed foreground colour, the others to the
packed background colour; every other byte (other cells, left-over rows/columns, padding, logo
rows) keeps its value; outside the grid nothing changes; never a panic. -/
theorem pix_write_frame (c : VesaFb.Cons) (f : VesaFb.Font) (fb : Array UInt8) (ok : PixOk c f fb) (fok : FontOk f)
    (ch fg bg x y : Nat) (hch : ch < 256) (hfg : fg < 256) (hbg : bg < 256)
    (hx : x < 4294967296) (hy : y < 4294967296) :
    ∃ fb', VesaFb.write c fb ch fg bg x y = some fb' ∧ fb'.size = fb.size ∧
      ∀ i, i < fb.size → view8 fb' i = pixWrite c f (view8 fb) ch fg bg x y i := by
  by_cases hg : x < 1 ∨ x > c.cols ∨ y < 1 ∨ y > c.rows
  · obtain ⟨h1, h2⟩ := pix_write_outside c fb ch fg bg x y (Or.inr hg)
    exact ⟨fb, h1, rfl, fun i _ => (h2 f ok.font i).symm⟩
  · obtain ⟨fb', h1, h2, h3⟩ := pix_write_in ok fok ch fg bg x y hch hfg hbg (by omega)
    exact ⟨fb', h1, h2, fun i _ => h3 i⟩

/-- **no_oob (text)** — no text-console operation ever indexes outside the framebuffer, for any
32-bit arguments. -/
theorem text_no_oob (c : VgaText.Cons) (fb : Array UInt16) (ok : TextOk c fb)
    (a b x y w h dir : Nat) (hx : x < 4294967296) (hy : y < 4294967296) (hw : w < 4294967296) (hh : h < 4294967296) :
    VgaText.write c fb a b dir x y ≠ none ∧ VgaText.fill c fb x y w h a b ≠ none ∧ VgaText.scroll c fb dir w ≠ none := by
  obtain ⟨_, h1, _⟩ := text_write_frame c fb ok a b dir x y hx hy
  obtain ⟨_, h2, _⟩ := text_fill_clip c fb ok x y w h a b hx hy hw hh
  obtain ⟨_, h3, _⟩ := text_scroll_exact c fb ok dir w hw
  rw [h1, h2, h3]; simp

/-- **no_oob (pixel)** — `Write`, `Fill` and `Scroll` never index outside the framebuffer, for
any 32-bit arguments and any 8-bit character/colours. -/
theorem pix_no_oob (c : VesaFb.Cons) (f : VesaFb.Font) (fb : Array UInt8) (ok : PixOk c f fb) (fok : FontOk f)
    (ch x y w h fg bg dir : Nat) (hx : x < 4294967296) (hy : y < 4294967296) (hw : w < 4294967296) (hh : h < 4294967296)
    (hch : ch < 256) (hfg : fg < 256) (hbg : bg < 256) :
    VesaFb.write c fb ch fg bg x y ≠ none ∧ VesaFb.fill c fb x y w h fg bg ≠ none ∧ VesaFb.scroll c fb dir w ≠ none := by
  obtain ⟨_, h1, _⟩ := pix_write_frame c f fb ok fok ch fg bg x y hch hfg hbg hx hy
  obtain ⟨_, h2, _⟩ := pix_fill_clip c f fb ok x y w h fg bg hx hy hw hh hbg
  obtain ⟨_, h3, _⟩ := pix_scroll_exact c f fb ok dir w hw
  rw [h1, h2, h3]; simp

/-- **padding_untouched (pixel)** — after `Write`, `Fill` and `Scroll` (any arguments) every
padding byte (offset within its row ≥ `width*bytesPerPixel`) and every byte of the logo rows
(row < `offsetY`) holds its old value.  (Stated on the specifications, which the operations are
proved to compute: `pix_write_frame`, `pix_fill_clip`, `pix_scroll_exact`.) -/
theorem padding_untouched (c : VesaFb.Cons) (f : VesaFb.Font) (fb : Array UInt8) (ok : PixOk c f fb)
    (ch fg x y w h bg dir lines i : Nat)
    (hi : c.width * c.bytesPerPixel ≤ i % c.pitch ∨ i / c.pitch < c.offsetY) :
    pixWrite c f (view8 fb) ch fg bg x y i = view8 fb i ∧
    pixFill c f (view8 fb) x y w h bg i = view8 fb i ∧ pixScroll c f (view8 fb) dir lines i = view8 fb i := by
  have fr := frameOf ok
  refine ⟨?_, ?_, ?_⟩
  · simp only [pixWrite]
    split
    · rename_i hin
      exact ConsoleOps.paint_padding c _ _ fr.bpp1
        (Nat.le_trans (Nat.mul_le_mul_right _ hin.2.1) fr.colsw) (Nat.le_add_right ..) hi
    · rfl
  · simp only [pixFill, fillRect]
    exact ConsoleOps.paint_padding c _ _ fr.bpp1
      (Nat.le_trans (Nat.mul_le_mul_right _ (Nat.min_le_right ..)) fr.colsw) (Nat.le_add_right ..) hi
  · simp only [pixScroll]
    rcases hi with hi | hi
    · rw [if_neg (by omega)]
    · split
      · split
        · rw [if_neg (by omega)]
        · split
          · rw [if_neg (by omega)]
          · rfl
      · rfl

/-- **fill_clip on an empty grid** — a console without cells (a font whose glyphs are wider or
taller than the text area gives `cols = 0` or `rows = 0`) ignores every `Fill`, for all arguments:
nothing changes, no panic.  (`Write` and `Scroll` on an empty grid are covered by
`pix_write_outside` and by the `lines > rows` case of the models.) -/
theorem fill_empty_grid (tc : VgaText.Cons) (tfb : Array UInt16) (pc : VesaFb.Cons) (pfb : Array UInt8)
    (x y w h fg bg : Nat) :
    (tc.width = 0 ∨ tc.height = 0 → VgaText.fill tc tfb x y w h fg bg = some tfb) ∧
    (pc.cols = 0 ∨ pc.rows = 0 → VesaFb.fill pc pfb x y w h fg bg = some pfb) := by
  constructor
  · intro h0; unfold VgaText.fill; rw [if_pos h0]
  · intro h0; unfold VesaFb.fill
    cases pc.font with
    | none => rfl
    | some f => simp only [if_pos h0]

/-- **pack_color (component)** — one colour component `v` of mask size `size` at bit `pos`, for
every 8-bit `size`/`pos`: when the field fits (`size ≤ 8`, `pos+size ≤ bits`) it is the top
`size` bits of `v` placed at `pos` (no truncation); a mask size above 8 makes `8-size` wrap to a
shift count ≥ 8 and the component contributes 0 — Go's shift semantics, reproduced by the model. -/
theorem pack_component (v size pos bits : Nat) (hv : v < 256) (hs : size < 256) :
    (size ≤ 8 → pos + size ≤ bits →
      VesaFb.component v size pos (2 ^ bits) = (v / 2 ^ (8 - size)) * 2 ^ pos ∧ v / 2 ^ (8 - size) < 2 ^ size) ∧
    (8 < size → VesaFb.component v size pos (2 ^ bits) = 0) := by
  unfold VesaFb.component
  constructor
  · intro h8 hb
    have hk : (8 + (256 - size % 256)) % 256 = 8 - size := by omega
    rw [hk, Nat.shiftRight_eq_div_pow, Nat.shiftLeft_eq]
    have hx : v / 2 ^ (8 - size) < 2 ^ size := by
      rw [Nat.div_lt_iff_lt_mul (Nat.pow_pos (by decide))]
      rw [← Nat.pow_add, show size + (8 - size) = 8 by omega]
      exact hv
    refine ⟨Nat.mod_eq_of_lt ?_, hx⟩
    calc v / 2 ^ (8 - size) * 2 ^ pos < 2 ^ size * 2 ^ pos := Nat.mul_lt_mul_of_pos_right hx (Nat.pow_pos (by decide))
      _ = 2 ^ (size + pos) := (Nat.pow_add _ _ _).symm
      _ ≤ 2 ^ bits := Nat.pow_le_pow_right (by decide) (by omega)
  · intro h8
    have hk : 8 ≤ (8 + (256 - size % 256)) % 256 := by omega
    rw [Nat.shiftRight_eq_zero _ _ (Nat.lt_of_lt_of_le hv (Nat.pow_le_pow_right (n := 2) (i := 8) (by decide) hk))]; simp

/-- **pack_color** — `packColor16/24` return the little-endian bytes of the OR of the three
components (16-bit resp. 32-bit intermediate), for every mask layout. -/
theorem pack_color (c : VesaFb.Cons) (idx : Nat) (rgb : UInt8 × UInt8 × UInt8) (h : c.palette[idx]? = some rgb) :
    VesaFb.packColor16 c idx = some [UInt8.ofNat (VesaFb.packed c rgb 65536), UInt8.ofNat (VesaFb.packed c rgb 65536 >>> 8)] ∧
    VesaFb.packColor24 c idx = some [UInt8.ofNat (VesaFb.packed c rgb 4294967296), UInt8.ofNat (VesaFb.packed c rgb 4294967296 >>> 8),
      UInt8.ofNat (VesaFb.packed c rgb 4294967296 >>> 16)] ∧
    ∀ m, VesaFb.packed c rgb m = VesaFb.component rgb.1.toNat c.rSize c.rPos m ||| VesaFb.component rgb.2.1.toNat c.gSize c.gPos m |||
      VesaFb.component rgb.2.2.toNat c.bSize c.bPos m := by
  simp [VesaFb.packColor16, VesaFb.packColor24, h, VesaFb.packed]

/-- non-vacuity: white in 5-6-5 is `0xFFFF`; a 12-bit red mask contributes nothing -/
example : VesaFb.packed { VesaFb.new 8 8 16 16 11 5 5 6 0 5 with } (255, 255, 255) 65536 = 65535 := by decide
example : VesaFb.component 255 12 0 65536 = 0 := by decide

/-! ## refinement of the abstract cell-grid console of C18 (`Spec/Term.lean`) -/
section Refines
open Firefly.Vt Firefly.Term Firefly.VtCons Firefly.ConsoleGrid

/-- a console call executed by the text-console model -/
def textApply (c : VgaText.Cons) (fb : Array UInt16) : Call → Option (Array UInt16)
  | .write ch fg bg x y => VgaText.write c fb ch.toNat fg.toNat bg.toNat x y
  | .scroll dir n => VgaText.scroll c fb dir n
  | .fill x y w h fg bg => VgaText.fill c fb x y w h fg.toNat bg.toNat

/-- a console call executed by the pixel-console model -/
def pixApply (c : VesaFb.Cons) (fb : Array UInt8) : Call → Option (Array UInt8)
  | .write ch fg bg x y => VesaFb.write c fb ch.toNat fg.toNat bg.toNat x y
  | .scroll dir n => VesaFb.scroll c fb dir n
  | .fill x y w h fg bg => VesaFb.fill c fb x y w h fg.toNat bg.toNat

/-- the text console shows colours of its palette only (others are replaced by the defaults) -/
def CallColors (n : Nat) : Call → Prop
  | .write _ fg bg _ _ => fg.toNat < n ∧ bg.toNat < n
  | _ => True

private theorem text_step {c : VgaText.Cons} {fb fb' : Array UInt16} (ok : TextOk c fb) (h2 : fb'.size = fb.size)
    {v : Nat → UInt16} (h3 : ∀ i, view16 fb' i = v i) {k' : Console} {o : Nat}
    (s : TextShows c v k' ∧ WF k' ∧ k'.outside = o) :
    TextOk c fb' ∧ TextShows c (view16 fb') k' ∧ WF k' ∧ k'.outside = o :=
  ⟨⟨ok.w1, ok.h1, ok.small, h2.trans ok.size, ok.pal⟩, funext h3 ▸ s.1, s.2⟩

/-- **refines_grid (text)** — if the text framebuffer displays the abstract console `k` (every
cell holds the character/attribute word of `k`'s cell), then for every call inside the grid
(`CallOk`; `Write` colours from the palette) the model does not panic, the new framebuffer
displays `k.apply call`, and no draw request fell outside the grid.  The conclusion re-establishes
the hypotheses, so the theorem chains over call logs (`text_refines_grid_log`). -/
theorem text_refines_grid (c : VgaText.Cons) (fb : Array UInt16) (ok : TextOk c fb) (hclear : c.clearChar = 32)
    (k : Console) (wf : WF k) (sh : TextShows c (view16 fb) k) (call : Call)
    (hok : CallOk k.w k.h call) (hcol : CallColors c.paletteLen call) :
    ∃ fb', textApply c fb call = some fb' ∧ TextOk c fb' ∧ TextShows c (view16 fb') (k.apply call) ∧
      WF (k.apply call) ∧ (k.apply call).outside = k.outside := by
  cases call with
  | write ch fg bg x y =>
    obtain ⟨fb', h1, h2, h3⟩ := ConsoleOps.text_write c fb (by have := ok.small; omega) ok.size ok.pal
      ch.toNat fg.toNat bg.toNat x y
    exact ⟨fb', h1, text_step ok h2 h3
      (text_write_shows c (view16 fb) k wf sh ch fg bg x y hok (by have := ok.pal; have := hcol.1; have := hcol.2; omega))⟩
  | scroll dir n =>
    obtain ⟨hd, hn⟩ := hok
    obtain ⟨fb', h1, h2, h3⟩ := ConsoleOps.text_scroll c fb ok.w1 ok.small ok.size dir n
    rw [hd.trans scrollUp_is_zero] at h3
    rw [show k.apply (.scroll dir n) = k.scrollUp n from if_pos hd]
    exact ⟨fb', h1, text_step ok h2 h3 (text_scroll_shows c (view16 fb) k wf sh n hn)⟩
  | fill x y w h fg bg =>
    obtain ⟨fb', h1, h2, h3⟩ := ConsoleOps.text_fill c fb ok.w1 ok.h1 ok.small ok.size x y w h fg.toNat bg.toNat
    exact ⟨fb', h1, text_step ok h2 h3 (text_fill_shows c (view16 fb) k wf sh x y w h fg bg hok hclear)⟩

private theorem pix_step {c : VesaFb.Cons} {f : VesaFb.Font} {fb fb' : Array UInt8} (ok : PixOk c f fb)
    (h2 : fb'.size = fb.size) {v : Nat → UInt8} (h3 : ∀ i, view8 fb' i = v i) {k' : Console} {o : Nat}
    (s : PixShows c f v k' ∧ WF k' ∧ k'.outside = o) :
    PixOk c f fb' ∧ PixShows c f (view8 fb') k' ∧ WF k' ∧ k'.outside = o :=
  ⟨{ ok with size := h2.trans ok.size }, funext h3 ▸ s.1, s.2⟩

/-- **refines_grid (pixel)** — if the pixel framebuffer displays the abstract console `k` (every
cell shows its glyph in its packed colours), then for every call inside the grid the model does
not panic, the new framebuffer displays `k.apply call`, and no draw request fell outside the
grid.  Needs a blank space glyph (`SpaceBlank`: generated fact for the shipped fonts) so that a
`Fill` equals writing spaces, and — for `Scroll` only — a text area that is a whole number of
glyph rows (`hfit`); without it the last `lines` rows are not preserved, see
`pix_refines_grid_scroll_moved`. -/
theorem pix_refines_grid (c : VesaFb.Cons) (f : VesaFb.Font) (fb : Array UInt8) (ok : PixOk c f fb) (fok : FontOk f)
    (hsp : SpaceBlank f) (k : Console) (wf : WF k) (sh : PixShows c f (view8 fb) k) (call : Call)
    (hok : CallOk k.w k.h call)
    (hfit : ∀ dir n, call = .scroll dir n → c.offsetY + c.rows * f.gh = c.height) :
    ∃ fb', pixApply c fb call = some fb' ∧ PixOk c f fb' ∧ PixShows c f (view8 fb') (k.apply call) ∧
      WF (k.apply call) ∧ (k.apply call).outside = k.outside := by
  cases call with
  | write ch fg bg x y =>
    obtain ⟨fb', h1, h2, h3⟩ := pix_write_in ok fok ch.toNat fg.toNat bg.toNat x y
      (UInt8.toNat_lt _) (UInt8.toNat_lt _) (UInt8.toNat_lt _) (sh.1 ▸ sh.2.1 ▸ hok)
    exact ⟨fb', h1, pix_step ok h2 h3 (pix_write_shows c f (view8 fb) k wf sh ch fg bg x y hok)⟩
  | scroll dir n =>
    obtain ⟨hd, hn⟩ := hok
    obtain ⟨fb', h1, h2, h3⟩ := ConsoleOps.pix_scroll (frameOf ok) ok.font dir n
    rw [hd.trans scrollUp_is_zero] at h3
    rw [show k.apply (.scroll dir n) = k.scrollUp n from if_pos hd]
    exact ⟨fb', h1, pix_step ok h2 h3
      (pix_scroll_shows c f (frameOf ok).toGeo (hfit dir n rfl) (view8 fb) k wf sh n hn)⟩
  | fill x y w h fg bg =>
    obtain ⟨fb', h1, h2, h3⟩ := pix_fill_any ok x y w h fg.toNat bg.toNat (UInt8.toNat_lt _)
    exact ⟨fb', h1, pix_step ok h2 h3 (pix_fill_shows c f hsp (view8 fb) k wf sh x y w h fg bg hok)⟩

/-- **refines_grid (pixel scroll, any geometry)** — when the text area is not a whole number of
glyph rows, `Scroll` up still makes every line that receives another line's contents display them;
only the last `lines` rows (which the caller repaints) are not claimed. -/
theorem pix_refines_grid_scroll_moved (c : VesaFb.Cons) (f : VesaFb.Font) (fb : Array UInt8) (ok : PixOk c f fb)
    (k : Console) (sh : PixShows c f (view8 fb) k) (n : Nat) (hn : 1 ≤ n ∧ n ≤ k.h) :
    ∃ fb', VesaFb.scroll c fb 0 n = some fb' ∧ PixOk c f fb' ∧
      ∀ r col, r + n < k.h → col < k.w → CellShows c f (view8 fb') (col + 1) (r + 1) (k.at (r + n) col) := by
  obtain ⟨fb', h1, h2, h3⟩ := ConsoleOps.pix_scroll (frameOf ok) ok.font 0 n
  refine ⟨fb', h1, { ok with size := h2.trans ok.size }, fun r col hr hc i hi b hb => ?_⟩
  rw [show view8 fb' i = _ from h3 i]
  exact pix_scroll_shows_moved c f (frameOf ok).toGeo (view8 fb) k sh n hn r col hr hc i hi b hb

/-- non-vacuity: a blank 3×2 text screen displays the blank abstract console; the hypotheses of
`text_refines_grid` are satisfiable (and `CallOk` calls exist: `Write` at (1,1)) -/
example : TextShows { width := 3, height := 2 } (view16 (Array.replicate 6 (VgaText.cellWord 32 7 0)))
    (Console.new 3 2 ⟨32, 7, 0⟩) := by
  refine ⟨rfl, rfl, fun r col hr hc => ?_⟩
  have hr' : r < 2 := hr
  have hc' : col < 3 := hc
  have hi : r * 3 + col < 6 := by omega
  simp only [view16, Array.getD_eq_getD_getElem?, Array.getElem?_replicate, if_pos hi]
  rcases (by omega : r = 0 ∨ r = 1) with h | h <;> subst h <;>
    rcases (by omega : col = 0 ∨ col = 1 ∨ col = 2) with h | h | h <;> subst h <;> rfl
example : CallOk 3 2 (.write 65 7 0 1 1) ∧ CallColors 16 (.write 65 7 0 1 1) := by
  simp [CallOk, CallColors]

/-- non-vacuity: an all-zero 8-bpp framebuffer displays the console whose cells are blanks in
colour 0 on colour 0 -/
example : PixShows { bpp := 8, bytesPerPixel := 1, width := 16, height := 16, pitch := 16,
                     font := some { gw := 8, gh := 16, bpr := 1, data := Array.replicate 4096 0 }, cols := 2, rows := 1,
                     palette := Array.replicate 256 (0, 0, 0) }
    { gw := 8, gh := 16, bpr := 1, data := Array.replicate 4096 0 } (view8 (Array.replicate 256 0))
    (Console.new 2 1 ⟨32, 0, 0⟩) := by
  refine ⟨rfl, rfl, fun r col hr hc i _ b hb => ?_⟩
  have hr' : r < 1 := hr
  have hc' : col < 2 := hc
  have hcell : (Console.new 2 1 ⟨32, 0, 0⟩).at r col = ⟨32, 0, 0⟩ := by
    have h0 : r = 0 := by omega
    subst h0
    rcases (by omega : col = 0 ∨ col = 1) with h | h <;> subst h <;> rfl
  rw [hcell] at hb
  have hv : view8 (Array.replicate 256 (0 : UInt8)) i = 0 := by
    simp only [view8, Array.getD_eq_getD_getElem?, Array.getElem?_replicate]
    split <;> rfl
  rw [hv]
  simp only [cellByte, colorBytes, VesaFb.pixelBytes] at hb
  simp [Nat.mod_one] at hb
  first | exact hb | exact hb.symm

/-- non-vacuity of `SpaceBlank` (for the shipped fonts it is the generated fact in `Gen.C19.fonts`,
checked above: the harness inspects glyph 0x20 of the compiled font data) -/
example : SpaceBlank { gw := 8, gh := 16, bpr := 1, data := Array.replicate 4096 0 } := by
  intro px py _ _
  simp only [glyphBit, Array.getD_eq_getD_getElem?, Array.getElem?_replicate]
  split <;> simp

/-- a call log (newest first, as `VT.out` keeps it) executed by the models -/
def textRun (c : VgaText.Cons) (fb : Array UInt16) (log : List Call) : Option (Array UInt16) :=
  log.foldr (fun call acc => acc.bind fun fb => textApply c fb call) (some fb)
def pixRun (c : VesaFb.Cons) (fb : Array UInt8) (log : List Call) : Option (Array UInt8) :=
  log.foldr (fun call acc => acc.bind fun fb => pixApply c fb call) (some fb)

/-- **refines_grid (text, call logs)** — a whole log of in-grid calls: the text console ends up
displaying `k.applyLog log`, never panics, nothing drawn outside. -/
theorem text_refines_grid_log (c : VgaText.Cons) (hclear : c.clearChar = 32) (log : List Call) :
    ∀ (fb : Array UInt16) (k : Console), TextOk c fb → WF k → TextShows c (view16 fb) k →
      (∀ call ∈ log, CallOk k.w k.h call ∧ CallColors c.paletteLen call) →
      ∃ fb', textRun c fb log = some fb' ∧ TextOk c fb' ∧ TextShows c (view16 fb') (k.applyLog log) ∧
        WF (k.applyLog log) ∧ (k.applyLog log).outside = k.outside :=
  log_induct (apply := textApply c) (Shows := fun fb k => TextShows c (view16 fb) k) (fun _ _ sh => ⟨sh.1, sh.2.1⟩)
    (fun fb k call ok wf sh hok hcol => text_refines_grid c fb ok hclear k wf sh call hok hcol) log

/-- **refines_grid (pixel, call logs)** — the same for the pixel console (text area a whole number
of glyph rows, blank space glyph). -/
theorem pix_refines_grid_log (c : VesaFb.Cons) (f : VesaFb.Font) (fok : FontOk f) (hsp : SpaceBlank f)
    (hfit : c.offsetY + c.rows * f.gh = c.height) (log : List Call) :
    ∀ (fb : Array UInt8) (k : Console), PixOk c f fb → WF k → PixShows c f (view8 fb) k →
      (∀ call ∈ log, CallOk k.w k.h call) →
      ∃ fb', pixRun c fb log = some fb' ∧ PixOk c f fb' ∧ PixShows c f (view8 fb') (k.applyLog log) ∧
        WF (k.applyLog log) ∧ (k.applyLog log).outside = k.outside := by
  intro fb k ok wf sh hall
  exact log_induct (apply := pixApply c) (Shows := fun fb k => PixShows c f (view8 fb) k) (Good := fun _ => True)
    (fun _ _ sh => ⟨sh.1, sh.2.1⟩)
    (fun fb k call ok wf sh hok _ => pix_refines_grid c f fb ok fok hsp k wf sh call hok (fun _ _ _ => hfit))
    log fb k ok wf sh (fun call hc => ⟨hall call hc, trivial⟩)

end Refines

end Firefly.C19
