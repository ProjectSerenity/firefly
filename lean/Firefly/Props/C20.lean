import Firefly.Model.Redirects
import Firefly.Proof.Redirects
/-!
# C20 — Kernel build finds every runtime redirect, exactly once, reproducibly

Statement (properties.jsonl): for every kernel source tree, the build tool's redirect table
contains exactly one entry per redirect annotation on a function declaration — source symbol
as written, destination the function's fully qualified import-path name — and nothing else:
annotations in test files, on non-functions or in ordinary comments are ignored.  Building the
same tree twice yields the same table in the same order, so the kernel image is reproducible.

Model: `Firefly.Redirects.findRedirectsWith π t` (`Model/Redirects.lean`) mirrors
`Context.FindRedirects`; `π` stands for the iteration order the Go run time would pick for a
`range` over a map and is consulted only if the generated fact `Gen.C20.rangesOverMap` says the
collection loop ranges over one.  Specification: `annotations t` lists, without any sorting or
iteration order, one element per directive comment in the doc group of a function declaration
of a non-test `.go` file.  All theorems are for every tree `t` (any depth and size).
-/
namespace Firefly.C20
open Firefly.Redirects

/-! ## Generated facts the proofs rest on (regenerated from /repo on every run) -/

/-- the directive the code matches is the one the property is about -/
theorem directive_constant : Gen.C20.redirectComment = "//go:redirect-from" := rfl

/-- destinations are qualified with the kernel's import path -/
theorem prefix_constant : Gen.C20.pkgPrefix = "github.com/ProjectSerenity/firefly/kernel" := rfl

/-- no loop on the way to `ctx.Redirects = append(…)` ranges over a Go map (go/types fact
extracted from `FindRedirects` and the functions it calls) -/
theorem no_map_range : Gen.C20.rangesOverMap = false := by decide

/-- **exactly_once** — whatever order the declarations of a file are visited in (any family of
permutations `π`, so also under Go map iteration), the table is, as a multiset, exactly the
annotations of the tree: one entry per directive comment on a function declaration of a
non-test `.go` file, `(trimmed remainder, pkgPrefix/dir.name)`, and nothing else. -/
theorem exactly_once (π : List Decl → List Decl) (hπ : ∀ ds, (π ds).Perm ds) (t : Tree) :
    (findRedirectsWith π t).Perm (annotations t) := by
  unfold findRedirectsWith
  apply findRedirectsOrd_perm
  intro ds
  unfold declOrder
  split
  · exact hπ ds
  · exact List.Perm.refl _

/-- every entry occurs in the table exactly as often as it is annotated -/
theorem exactly_once_count (π : List Decl → List Decl) (hπ : ∀ ds, (π ds).Perm ds) (t : Tree)
    (e : Redirect) : (findRedirectsWith π t).count e = (annotations t).count e :=
  (exactly_once π hπ t).count_eq e

/-- `NUM_REDIRECTS` (the table length handed to the boot assembly) is the number of annotations -/
theorem table_length (π : List Decl → List Decl) (hπ : ∀ ds, (π ds).Perm ds) (t : Tree) :
    (findRedirectsWith π t).length = (annotations t).length :=
  (exactly_once π hπ t).length_eq

/-- **nothing_else** — an entry is in the table if and only if some non-test `.go` file of the
tree (`isSourceFile`, at directories `ds` below the root) declares a function `fn` whose doc
group contains a comment `text` that starts with the directive, the entry's source is the rest
of that comment with surrounding white space removed, and its destination is
`pkgPrefix/ds….fn`.  So nothing in the table comes from a test file, a non-function, a body or
a free-standing comment. -/
theorem nothing_else (π : List Decl → List Decl) (hπ : ∀ ds, (π ds).Perm ds) (t : Tree) (e : Redirect) :
    e ∈ findRedirectsWith π t ↔
      ∃ ds f fn doc text, FileAt t ds f ∧ isSourceFile f.name = true ∧ Decl.func fn doc ∈ f.decls ∧
        text ∈ doc ∧ directiveSrc text = some e.1 ∧ e.2 = qualify ds fn := by
  rw [(exactly_once π hπ t).mem_iff, mem_annotations_iff]
  constructor
  · rintro ⟨ds, f, hf, hm⟩
    obtain ⟨hs, fn, doc, text, h⟩ := (mem_fileAnnotations_iff ds f e).1 hm
    exact ⟨ds, f, fn, doc, text, hf, hs, h⟩
  · rintro ⟨ds, f, fn, doc, text, hf, hs, h⟩
    exact ⟨ds, f, hf, (mem_fileAnnotations_iff ds f e).2 ⟨hs, fn, doc, text, h⟩⟩

/-- with the generated fact `no_map_range` the run time's choice `π` is never consulted -/
private theorem with_eq (π : List Decl → List Decl) (t : Tree) : findRedirectsWith π t = findRedirectsOrd id t := by
  unfold findRedirectsWith declOrder
  rw [no_map_range]
  rfl

/-- **ignored_content** — the table (entries *and* order) does not change when everything the
property says is ignored is deleted from the tree (`stripList`): the whole content of test files
and of files not named `*.go`, doc comments of declarations that are not functions, every
comment outside a top-level doc group (bodies, fields, free-standing, trailing), and doc
comments without the directive prefix. -/
theorem ignored_content (π : List Decl → List Decl) (t : Tree) :
    findRedirectsWith π (stripList t) = findRedirectsWith π t := by
  rw [with_eq, with_eq]
  exact findRedirectsOrd_id_strip t

/-- the same at the level of the specification: the annotations of a tree are those of the
stripped tree -/
theorem annotations_ignore (t : Tree) : annotations (stripList t) = annotations t :=
  listAnnotations_strip [] t

/-- an annotation is the directive prefix followed by the source symbol; the entry carries the
symbol with surrounding white space removed and the function qualified by its directory -/
theorem annotation_entry (dirs : List String) (fn text : String) :
    docRedirects dirs fn [text] =
      match directiveSrc text with
      | some src => [(src, pkgPath dirs ++ "." ++ fn)]
      | none => [] := by
  unfold docRedirects qualify
  cases h : directiveSrc text <;> simp [h]

/-- **deterministic** — the table is a function of the tree alone: two runs (two choices `π₁`,
`π₂` of the run time) produce the same list in the same order.  Proved from the generated fact
`rangesOverMap = false`; if the code ranges over a map again this proof breaks. -/
theorem deterministic (π₁ π₂ : List Decl → List Decl) (t : Tree) :
    findRedirectsWith π₁ t = findRedirectsWith π₂ t := by
  rw [with_eq, with_eq]

/-- **source_order** — the order of the table is walk order × declaration order × doc-comment
order. -/
theorem source_order (π : List Decl → List Decl) (t : Tree) :
    findRedirectsWith π t =
      (sourceFiles t).flatMap fun (dirs, f) =>
        f.decls.flatMap fun d =>
          match d with
          | .func fn doc => doc.filterMap fun text => (directiveSrc text).map fun src => (src, qualify dirs fn)
          | .other _ => [] := by
  rw [with_eq]
  rfl

/-- **listing_order_irrelevant** — the walk does not depend on the order in which the file
system lists a directory (names within a directory are distinct): same entries, same sorted
visit order, hence the same table on every machine. -/
theorem listing_order_irrelevant (t t' : Tree) (hp : t.Perm t') (hnd : (t.map Entry.name).Nodup)
    (π : List Decl → List Decl) : findRedirectsWith π t = findRedirectsWith π t' := by
  unfold findRedirectsWith findRedirectsOrd sourceFiles
  rw [sortedListing_congr [] t t' hp hnd]

/-- the same for any directory below the root -/
theorem listing_order_irrelevant_subdir (dirs : List String) (n : String) (es es' : List Entry)
    (hp : es.Perm es') (hnd : (es.map Entry.name).Nodup) :
    walkEntry dirs (.dir n es) = walkEntry dirs (.dir n es') := by
  unfold walkEntry
  rw [sortedListing_congr (dirs ++ [n]) es es' hp hnd]

/-- **canonical_determines** — at every depth at once: the table depends on the tree only
through its canonical form (`canonical`: every directory, at every depth, listed in name order).
Two trees that differ only in the order in which directories happen to be listed have the same
table. -/
theorem canonical_determines (π : List Decl → List Decl) (t t' : Tree) (h : canonical t = canonical t') :
    findRedirectsWith π t = findRedirectsWith π t' := by
  unfold findRedirectsWith findRedirectsOrd
  rw [← sourceFiles_canonical t, ← sourceFiles_canonical t', h]

/-! ## Negative witness for the defect that was repaired (D12) -/

/-- the smallest tree on which the visiting order matters: one file, two annotated functions -/
def twoFuncs : Tree :=
  [.file { name := "a.go", comments := [],
           decls := [.func "first" ["//go:redirect-from runtime.first"],
                     .func "second" ["//go:redirect-from runtime.second"]] }]

/-- **map_order_counterexample** — if the declarations of a file are visited in an order the run
time chooses (as `for node := range cmap` did), two runs can produce different tables: identity
and reversal are both permutations and disagree on `twoFuncs`. -/
theorem map_order_counterexample :
    findRedirectsOrd id twoFuncs ≠ findRedirectsOrd List.reverse twoFuncs := by decide +kernel

/-! ## Non-vacuity -/

example : findRedirects twoFuncs =
    [("runtime.first", "github.com/ProjectSerenity/firefly/kernel.first"),
     ("runtime.second", "github.com/ProjectSerenity/firefly/kernel.second")] := by decide +kernel

example : annotations twoFuncs = findRedirects twoFuncs := by decide +kernel

/-- a tree with a sub-directory, a test file, a non-function and a look-alike: one entry -/
example : findRedirects
    [.dir "mm" [.file { name := "a_test.go", comments := [], decls := [.func "t" ["//go:redirect-from runtime.inTest"]] },
                .file { name := "a.go", comments := ["//go:redirect-from runtime.free"],
                        decls := [.other ["//go:redirect-from runtime.onVar"],
                                  .func "alloc" ["// doc", "// see //go:redirect-from x", "//go:redirect-from \truntime.sysAlloc  "]] }]]
    = [("runtime.sysAlloc", "github.com/ProjectSerenity/firefly/kernel/mm.alloc")] := by decide +kernel

/-- a test file contributes nothing -/
example : findRedirects [.file { name := "a_test.go", comments := [], decls := [.func "t" ["//go:redirect-from runtime.x"]] }] = [] := by decide +kernel

/-- two listings of the same tree that differ two levels down have the same canonical form -/
example : canonical [.dir "mm" [.dir "vmm" [.file ⟨"b.go", [], []⟩, .file ⟨"a.go", [], []⟩], .file ⟨"z.go", [], []⟩]]
        = canonical [.dir "mm" [.file ⟨"z.go", [], []⟩, .dir "vmm" [.file ⟨"a.go", [], []⟩, .file ⟨"b.go", [], []⟩]]] := by rfl

/-- hypotheses of `exactly_once` and `listing_order_irrelevant` are satisfiable non-trivially -/
example : ∀ ds : List Decl, (List.reverse ds).Perm ds := fun ds => List.reverse_perm ds
example : ([Entry.dir "b" [], Entry.file ⟨"a.go", [], []⟩] : Tree).Perm [Entry.file ⟨"a.go", [], []⟩, Entry.dir "b" []] ∧
    (([Entry.dir "b" [], Entry.file ⟨"a.go", [], []⟩] : Tree).map Entry.name).Nodup :=
  ⟨List.Perm.swap _ _ _, by decide⟩

end Firefly.C20
