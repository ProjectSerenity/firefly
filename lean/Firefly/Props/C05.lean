import Firefly.Proof.VmmSetup
import Firefly.Proof.VmmMapFull
import Firefly.Gen.C05
/-!
# C05 — Kernel address space maps each loaded section exactly, with W^X permissions

"The address space the kernel builds for itself maps every page of every loaded section that lies
in the kernel's virtual range to the physical page it was loaded at, writable only if the section is
writable, executable only if the section is executable, and never user-accessible; sections outside
that range are left unmapped. Virtual regions that were reserved and mapped earlier in boot keep
their translations, and the new address space is the active one when initialisation returns."

Model: `Firefly.Vmm.setupPDTForKernel` and its parts (`visitSectionsG`, `copyReservations`,
`pdtInit`, `pdtMap`, `pdtActivate`).  The statements below are about the *mapping requests*
`setupPDTForKernel` issues to `kernelPDT.Map` (which pages, which frames, which flags, in which
order, and nothing else); what one request does to the address space is C04.
-/
namespace Firefly.C05
open Firefly.Vmm

/-- the model's constants (generated for C04) are the ones the code has now -/
theorem facts_current :
    Firefly.Gen.C05.flagPresent = Firefly.Gen.C04.flagPresent ∧ Firefly.Gen.C05.flagRW = Firefly.Gen.C04.flagRW ∧
    Firefly.Gen.C05.flagNoExecute = Firefly.Gen.C04.flagNoExecute ∧
    Firefly.Gen.C05.flagUserAccessible = Firefly.Gen.C04.flagUserAccessible ∧
    Firefly.Gen.C05.elfSectionWritable = Firefly.Gen.C04.elfSectionWritable ∧
    Firefly.Gen.C05.elfSectionExecutable = Firefly.Gen.C04.elfSectionExecutable ∧
    Firefly.Gen.C05.ptePhysPageMask = Firefly.Gen.C04.ptePhysPageMask ∧
    Firefly.Gen.C05.tempMappingAddr = Firefly.Gen.C04.tempMappingAddr ∧
    Firefly.Gen.C05.pdtVirtualAddr = Firefly.Gen.C04.pdtVirtualAddr ∧
    Firefly.Gen.C05.pageLevelShifts = Firefly.Gen.C04.pageLevelShifts ∧
    Firefly.Gen.C05.pageLevelBits = Firefly.Gen.C04.pageLevelBits ∧
    Firefly.Gen.C05.pageShift = Firefly.Gen.C04.pageShift := by decide

/-- **W^X, never user.** For every ELF flag word: the page flags derived for a section have Present,
have RW exactly when the section is writable, have NX exactly when it is not executable, and
contain nothing else (in particular never User). -/
theorem section_flags_wx (sf : W) :
    let fl := sectionFlags sf
    (fl &&& fPresent = fPresent) ∧
    ((fl &&& fRW ≠ 0) ↔ (sf &&& w Firefly.Gen.C04.elfSectionWritable ≠ 0)) ∧
    ((fl &&& fNX ≠ 0) ↔ (sf &&& w Firefly.Gen.C04.elfSectionExecutable = 0)) ∧
    (fl &&& fUser = 0) ∧ (fl &&& ~~~(fPresent ||| fRW ||| fNX) = 0) := by
  have hx : w Firefly.Gen.C04.elfSectionExecutable = 4#64 := by decide
  have hw : w Firefly.Gen.C04.elfSectionWritable = 1#64 := by decide
  simp only [hx, hw]
  rcases sectionFlags_cases sf with ⟨h4, h1, h⟩ | ⟨h4, h1, h⟩ | ⟨h4, h1, h⟩ | ⟨h4, h1, h⟩ <;> simp [h, h4, h1] <;> decide

/-- Request level: for every section list, offset, state and mapping function, the visitor of
`setupPDTForKernel` issues *exactly* the requests `allSectionCalls off secs` in order (stopping at
the first error) — per section with `addr ≥ off`, `sectionPageCount` consecutive pages from
`pageOf addr` paired with consecutive frames from `(addr-off) >> 12`, all with `sectionFlags`;
sections below `off` contribute no request. -/
theorem section_requests_exact (mp : MapFn) (off : W) (secs : List Section) (err : Nat) (st : St) :
    visitSectionsG mp off secs err st = seqCalls mp (allSectionCalls off secs) err st ∧
    (∀ s, sectionCalls off s =
      (run (pageOf s.addr) ((s.addr - off) >>> Firefly.Gen.C04.pageShift) (sectionPageCount s)).map
        fun (p, f) => (p, f, sectionFlags s.flags)) ∧
    (∀ page frame n i, i < n →
      (run page frame n)[i]? = some (page + BitVec.ofNat 64 i, frame + BitVec.ofNat 64 i)) :=
  ⟨visitSectionsG_eq mp off secs err st, fun _ => rfl, fun page frame n i hi => run_get page frame n i hi⟩

/-- sections outside the kernel's virtual range are left alone: they contribute no mapping request -/
theorem below_offset_no_request (off : W) (secs : List Section) :
    allSectionCalls off secs = allSectionCalls off (secs.filter fun s => !(s.addr < off)) ∧
    (∀ s, s.addr < off → allSectionCalls off [s] = []) := by
  constructor
  · simp [allSectionCalls, List.filter_filter]
  · intro s h; simp [allSectionCalls, h]

/-- every page the section touches is requested, and no other: the page count is
`⌊(addr+size-1)/4096⌋ - ⌊addr/4096⌋ + 1` (the last page is not missed, unaligned starts included) -/
theorem section_page_count (s : Section) (h1 : 1 ≤ s.size.toNat) (hw : s.addr.toNat + s.size.toNat ≤ 2 ^ 64) :
    sectionPageCount s = (s.addr.toNat + s.size.toNat - 1) / 4096 - s.addr.toNat / 4096 + 1 := by
  have hend : (s.addr + (s.size - 1)).toNat = s.addr.toNat + s.size.toNat - 1 := by
    rw [BitVec.toNat_add, BitVec.toNat_sub_of_le (by rw [BitVec.le_def]; simpa using h1)]
    simp; omega
  have hp1 := pageOf_toNat s.addr
  have hp2 : (pageOf (s.addr + (s.size - 1))).toNat = (s.addr.toNat + s.size.toNat - 1) / 4096 := by
    rw [pageOf_toNat, hend]
  have hle : pageOf s.addr ≤ pageOf (s.addr + (s.size - 1)) := by
    rw [BitVec.le_def, hp1, hp2]; apply Nat.div_le_div_right; omega
  unfold sectionPageCount
  simp only [hle, if_true]
  rw [BitVec.toNat_sub_of_le hle, hp1, hp2]

/-- **Activated.** When `setupPDTForKernel` succeeds, CR3 holds the address of the table whose root
is the first frame the allocator handed out (the new kernel table). -/
theorem activated (st : St) (off : W) (secs : List Section) (st' : St)
    (h : setupPDTForKernel st off secs = .ok (0, st')) :
    ∃ f rest, st.free = f :: rest ∧ st'.cr3 = frameAddr f := by
  unfold setupPDTForKernel at h
  split at h
  · simp [eAlloc] at h
  · rename_i f st1 halloc
    have hf : ∃ rest, st.free = f :: rest := by
      unfold allocFrame at halloc
      split at halloc
      · cases halloc
      · rename_i f' rest hfree; cases halloc; exact ⟨rest, hfree⟩
    obtain ⟨rest, hfree⟩ := hf
    refine ⟨f, rest, hfree, ?_⟩
    simp only at h
    split at h
    · cases h
    · rename_i err2 st2 _
      split at h
      · rename_i hne; cases h; exact absurd rfl hne
      · split at h
        · cases h
        · rename_i err3 st3 _
          split at h
          · rename_i hne; cases h; exact absurd rfl hne
          · split at h
            · cases h
            · rename_i err4 st4 _
              split at h
              · rename_i hne; cases h; exact absurd rfl hne
              · cases h; rfl

/-- **setup_refines — `setupPDTForKernel` at the level of address spaces.**  Boot address space well
formed (`Good`, CR3 = `A<<12`), guard not armed yet, temporary mapping not refused, section pages and
reserved pages outside the recursive slot, reserved pages not the temporary page.  The call never
faults.  On success: CR3 = `P<<12` with `P` the first frame the allocator handed out (= `kernelPDT`);
`P`'s tables are a well-formed tree; every reserved page was mapped at boot; and the new address
space is *exactly* the empty address space with the requests `setupCalls` (sections, then
reservations) applied in order.  On failure CR3 is unchanged and the error is the allocator's, the
guard's or `ErrInvalidMapping` (an unmapped reservation). -/
theorem setup_refines {st : St} {A : W} {ownA : Own} (g : Good st (A <<< 12) ownA) (hcr3 : st.cr3 = A <<< 12)
    (hfa : FrameOK A) (htf : st.tmpFail = false) (hprot : st.protect = false) (off : W) (secs : List Section)
    (husec : ∀ c ∈ allSectionCalls off secs, UserVA (pageAddr c.1))
    (hures : ∀ x ∈ resAddrs st.cursor (resCount st.cursor), UserVA x ∧ ¬SamePage x tempVA) :
    ∃ code st', setupPDTForKernel st off secs = .ok (code, st') ∧
      (code = 0 → ∃ P rest ownP', st.free = P :: rest ∧ st'.cr3 = P <<< 12 ∧ st'.kpdt = P ∧ FrameOK P ∧
        Owned st'.mem (P <<< 12) ownP' ∧
        (∀ x ∈ resAddrs st.cursor (resCount st.cursor), hwEntry st.mem (A <<< 12) x ≠ none) ∧
        ∀ va, UserVA va → hwEntry st'.mem (P <<< 12) va =
          applyCalls (fun _ => none) (setupCalls st.mem A off st.cursor secs) va) ∧
      (code ≠ 0 → st'.cr3 = st.cr3 ∧ (code = eAlloc ∨ code = eInvalidMapping ∨ code = eRWZero)) := by
  unfold setupPDTForKernel
  cases hfree : st.free with
  | nil =>
    refine ⟨eAlloc, st, by simp [allocFrame, hfree], fun h => by simp [eAlloc] at h, fun _ => ⟨rfl, Or.inl rfl⟩⟩
  | cons P rest =>
    simp only [allocFrame_cons hfree]
    let st1 : St := { st with free := rest, allocs := st.allocs + 1, kpdt := P }
    obtain ⟨⟨hfo, hpb, hpn, hpA⟩, hprest, pop⟩ := g.pop hfree
    have hcm : st.cr3 &&& hwMask = A <<< 12 := by rw [hcr3, shl12_and_hwMask hfa]
    have g1 : Good st1 (A <<< 12) ownA := pop st1 rfl rfl rfl
    have hz1 : (st1.protect && P == st1.zeroFrame) = false := by
      show (st.protect && P == st.zeroFrame) = false
      rw [hprot]; rfl
    obtain ⟨c2, st2, hi, out2⟩ := pdtInit_full (st := st1) g1 hcr3 hfa hfo hpb hpn hprest
      (by rw [hcm, frameN_shl12 hfa] at hpA; exact hpA) htf hz1
    rw [show ({ st with free := rest, allocs := st.allocs + 1, kpdt := P } : St) = st1 from rfl, hi]
    simp only
    rcases out2 with ⟨rfl, ownA2, ip⟩ | ⟨rfl, _, hcrf⟩
    rotate_left
    · exact ⟨eAlloc, st2, by simp [eAlloc], fun h => by simp [eAlloc] at h, fun _ => ⟨hcrf, Or.inl rfl⟩⟩
    simp only [ne_eq, not_true_eq_false, if_false]
    -- sections
    have hvs : visitSections P off secs 0 st2 = seqCalls (pdtMp P) (allSectionCalls off secs) 0 st2 :=
      visitSectionsG_eq _ off secs 0 st2
    obtain ⟨c3, st3, own3, h3, d3, gr3, ok3, err3⟩ :=
      pdtSeq_full (allSectionCalls off secs) st2 (ownRoot P) ip.dual husec
    rw [hvs, h3]
    simp only
    have r3 : SameRegs st1 st3 := ip.regs.trans gr3.regs
    have hcr3' : st3.cr3 = st.cr3 := r3.cr3
    by_cases hc3 : c3 = 0
    rotate_left
    · refine ⟨c3, st3, by simp [hc3], fun h => absurd h hc3, fun _ => ⟨hcr3', ?_⟩⟩
      rcases err3 hc3 with h | h
      · exact Or.inl h
      · exact Or.inr (Or.inr h)
    subst hc3
    simp only [not_true_eq_false, if_false]
    -- reservations
    have hcur : st3.cursor = st.cursor := r3.cursor
    have hn : (if st3.cursor < tempVA then
          ((tempVA - st3.cursor).toNat + (Firefly.Gen.C04.pageSize - 1)) / Firefly.Gen.C04.pageSize else 0) =
        resCount st.cursor := by rw [hcur]; rfl
    rw [hn, hcur]
    obtain ⟨c4, st4, own4, h4, d4, gr4, ok4, err4⟩ :=
      copyRes_full (resCount st.cursor) st.cursor st3 own3 d3 (fun x hx => (hures x hx).1)
    rw [h4]
    simp only
    by_cases hc4 : c4 = 0
    rotate_left
    · refine ⟨c4, st4, by simp [hc4], fun h => absurd h hc4, fun _ => ⟨(r3.trans gr4.regs).cr3, ?_⟩⟩
      rcases err4 hc4 with h | h | h
      · exact Or.inr (Or.inl h)
      · exact Or.inl h
      · exact Or.inr (Or.inr h)
    subst hc4
    simp only [not_true_eq_false, if_false]
    -- the active address space seen by the reservation loop is the boot one
    have hA3 : ∀ x, UserVA x → ¬SamePage x tempVA → hwEntry st3.mem (A <<< 12) x = hwEntry st.mem (A <<< 12) x := by
      intro x hux hnt
      rw [ip.dual.active_as d3 gr3 x hux, ip.active x hux, if_neg hnt]
    obtain ⟨hmapped, has4⟩ := ok4 rfl
    refine ⟨0, pdtActivate st4 P, rfl, fun _ => ⟨P, rest, own4, rfl, rfl, ?_, hfo, ?_, ?_, ?_⟩, fun h => absurd rfl h⟩
    · rw [pdtActivate_kpdt]; exact (r3.trans gr4.regs).kpdt
    · rw [pdtActivate_mem]; exact d4.op
    · intro x hx
      rw [← hA3 x (hures x hx).1 (hures x hx).2]; exact hmapped x hx
    · intro va hu
      rw [pdtActivate_mem, has4 va hu]
      unfold setupCalls
      rw [applyCalls_append]
      rw [resCall_congr (l := resAddrs st.cursor (resCount st.cursor)) fun x hx => hA3 x (hures x hx).1 (hures x hx).2]
      apply applyCalls_congr_at
      rw [ok3 rfl va hu]
      apply applyCalls_congr_at
      exact ip.empty va hu

/-- **sections_exact.**  Reading `setup_refines`: when no two requested pages coincide (sections do not
share a page with one another or with a reservation), page `i` of every section with `addr ≥ off`
is mapped — at every address of that page — by the entry `frame<<12 | sectionFlags`, with
`frame = ((addr-off) >> 12) + i` (the physical page it was loaded at) and flags Present, RW iff
writable, NX iff not executable, never User (`section_flags_wx`). -/
theorem sections_exact (as : AS) (m : Mem) (A off cursor : W) (secs : List Section)
    (hdist : (setupCalls m A off cursor secs).Pairwise (fun a b => ¬SamePage (pageAddr a.1) (pageAddr b.1)))
    (hres : as = applyCalls (fun _ => none) (setupCalls m A off cursor secs))
    (s : Section) (hs : s ∈ secs) (hoff : ¬ s.addr < off) (i : Nat) (hi : i < sectionPageCount s) (va : W)
    (hva : SamePage va (pageAddr (pageOf s.addr + BitVec.ofNat 64 i))) :
    as va = some (mkEntry (((s.addr - off) >>> Firefly.Gen.C04.pageShift) + BitVec.ofNat 64 i) (sectionFlags s.flags)) := by
  have hm := sectionCall_mem off secs s hs hoff i hi
  rw [hres, applyCalls_mem _ _ va hdist (List.mem_append_left _ hm) hva, if_neg]
  rw [mkEntry_low 1#64 (by decide)]; exact sectionFlags_present _

/-- **nothing_else.**  An address that lies on no requested page (no page of a section with
`addr ≥ off`, no reserved page) is not mapped in the new address space; in particular sections below
the kernel offset stay unmapped. -/
theorem nothing_else (as : AS) (m : Mem) (A off cursor : W) (secs : List Section)
    (hres : as = applyCalls (fun _ => none) (setupCalls m A off cursor secs)) (va : W)
    (hno : ∀ c ∈ setupCalls m A off cursor secs, ¬SamePage va (pageAddr c.1)) : as va = none := by
  rw [hres, applyCalls_not_mem _ _ va hno]

/-- **reservations_kept.**  Every reserved page that was mapped at boot by entry `e` is mapped in the
new address space to the same frame (`entry & frameMask = e & frameMask`), Present|RW. -/
theorem reservations_kept (as : AS) (m : Mem) (A off cursor : W) (secs : List Section)
    (hdist : (setupCalls m A off cursor secs).Pairwise (fun a b => ¬SamePage (pageAddr a.1) (pageAddr b.1)))
    (hres : as = applyCalls (fun _ => none) (setupCalls m A off cursor secs))
    (x : W) (hx : x ∈ resAddrs cursor (resCount cursor)) (e : W) (he : hwEntry m (A <<< 12) x = some e)
    (va : W) (hva : SamePage va (pageAddr (pageOf x))) :
    ∃ e', as va = some e' ∧ e' &&& hwMask = e &&& hwMask ∧ e' &&& 0xfff#64 = fPresent ||| fRW := by
  have hm : resCall m A x ∈ setupCalls m A off cursor secs :=
    List.mem_append_right _ (List.mem_map_of_mem hx)
  have hoffs : (x &&& 0xfff#64).toNat < 4096 := by rw [and_fff]; omega
  obtain ⟨hfo, hfr⟩ := frame_roundtrip e (x &&& 0xfff#64) hoffs
  refine ⟨mkEntry (((e &&& hwMask) + (x &&& 0xfff#64)) >>> Firefly.Gen.C04.pageShift) (fPresent ||| fRW), ?_, ?_, ?_⟩
  · have hcall : resCall m A x = (pageOf x, ((e &&& hwMask) + (x &&& 0xfff#64)) >>> Firefly.Gen.C04.pageShift, fPresent ||| fRW) := by
      simp only [resCall, he]
    rw [hcall] at hm
    rw [hres, applyCalls_mem _ _ va hdist hm hva, if_neg]
    exact mkEntry_prw_present _
  · rw [mkEntry_frame hfo flagsOK_prw, hfr]
  · rw [mkEntry_low 0xfff#64 (by decide)]; decide

/-! non-vacuity: the boot state satisfies the hypotheses of `setup_refines` -/
example : Good bootSt ((1#64) <<< 12) bootOwn ∧ bootSt.cr3 = (1#64) <<< 12 ∧ FrameOK 1#64 ∧ bootSt.protect = false :=
  ⟨boot_good, by decide, by unfold FrameOK; decide, rfl⟩
example : sectionPageCount { flags := 5, addr := 0xffff800000100ff0#64, size := 0x20#64 } = 2 := by decide
example : sectionFlags 5#64 = 3#64 ∧ sectionFlags 0#64 = 0x8000000000000001#64 := by decide

end Firefly.C05
