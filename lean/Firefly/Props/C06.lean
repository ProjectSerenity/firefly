import Firefly.Proof.VmmZero
import Firefly.Proof.MemUtil
import Firefly.Proof.VmmMapFull
import Firefly.Gen.C06
/-!
# C06 — Copy-on-write faults get a private copy; the shared zero frame is never writable

"Once the virtual memory manager is initialised, the shared zero-filled frame can never be mapped
writable through the mapping interface. A page fault on a present, read-only page marked
copy-on-write gives that page a freshly allocated writable frame whose contents equal what the page
showed before, leaves the shared frame and every other page's mapping untouched, invalidates the
page's TLB entry and resumes. Every other page fault, and any failure while resolving a
copy-on-write fault, ends in a kernel panic and never resumes the faulting code."

Model: `Firefly.Vmm.pageFault`, `gpFault`, `reserveZeroedFrame`, the guards in `mapOp` /
`mapTemporary` (`Firefly/Model/Vmm.lean`); `.ok` = the handler returns (the faulting code resumes),
`.error (.panic _)` = kernel panic.
-/
namespace Firefly.C06
open Firefly.Vmm

/-- the model's constants (generated for C04) are the ones the code has now -/
theorem facts_current :
    Firefly.Gen.C06.flagPresent = Firefly.Gen.C04.flagPresent ∧ Firefly.Gen.C06.flagRW = Firefly.Gen.C04.flagRW ∧
    Firefly.Gen.C06.flagCopyOnWrite = Firefly.Gen.C04.flagCopyOnWrite ∧
    Firefly.Gen.C06.ptePhysPageMask = Firefly.Gen.C04.ptePhysPageMask ∧
    Firefly.Gen.C06.tempMappingAddr = Firefly.Gen.C04.tempMappingAddr ∧
    Firefly.Gen.C06.pdtVirtualAddr = Firefly.Gen.C04.pdtVirtualAddr ∧
    Firefly.Gen.C06.pageLevelShifts = Firefly.Gen.C04.pageLevelShifts ∧
    Firefly.Gen.C06.pageLevelBits = Firefly.Gen.C04.pageLevelBits ∧
    Firefly.Gen.C06.pageLevels = Firefly.Gen.C04.pageLevels ∧
    Firefly.Gen.C06.invalidFrame = Firefly.Gen.C04.invalidFrame := by decide

/-- the flag constants the fault handler and the guard test are the architectural / documented bits,
stated against literals (Present 0, RW 1, User 2, CopyOnWrite 9, NoExecute 63, frame field 12–51) -/
theorem flags_architectural :
    Firefly.Gen.C06.flagPresent = 2 ^ 0 ∧ Firefly.Gen.C06.flagRW = 2 ^ 1 ∧
    Firefly.Gen.C06.flagUserAccessible = 2 ^ 2 ∧ Firefly.Gen.C06.flagHugePage = 2 ^ 7 ∧
    Firefly.Gen.C06.flagGlobal = 2 ^ 8 ∧ Firefly.Gen.C06.flagCopyOnWrite = 2 ^ 9 ∧
    Firefly.Gen.C06.flagNoExecute = 2 ^ 63 ∧ Firefly.Gen.C06.ptePhysPageMask = 0x000ffffffffff000 := by decide

/-- **The guard, at every mapping entry point.** Once `protectReservedZeroedPage` is set, `Map` of
the zero frame with the RW flag, `MapTemporary` of the zero frame, and the page loop of `MapRegion` /
`IdentityMapRegion` starting at the zero frame with RW all return the error and change nothing —
for every page, every other flag and every state. -/
theorem zero_guard (st : St) (hp : st.protect = true) :
    (∀ page flags, (flags &&& fRW) ≠ 0 → mapOp st page st.zeroFrame flags = .ok (eRWZero, st)) ∧
    mapTemporary st st.zeroFrame = .ok ((eRWZero, 0), st) ∧
    (∀ n page flags, (flags &&& fRW) ≠ 0 → mapLoop flags (n + 1) page st.zeroFrame st = .ok (eRWZero, st)) :=
  ⟨fun page flags h => mapOp_guard st page flags hp h, mapTemporary_guard st hp,
    fun n page flags h => mapLoop_guard st n page flags hp h⟩

/-- word-level form for `Map` on a page whose upper levels exist: every word of memory the call changes
is an entry that is not a writable mapping of the zero frame (general case: `zero_never_rw`). -/
theorem zero_guard_one_word {st : St} {R T1 T2 T3 : W} (page frame flags : W) (hw : Window st R)
    (p : Path st.mem R (pageAddr page) T1 T2 T3) (hp : st.protect = true) (st' : St)
    (h : mapOp st page frame flags = .ok (0, st')) :
    ∀ F j, st'.mem.rd F j ≠ st.mem.rd F j →
      st'.mem.rd F j = mkEntry frame flags ∧ ¬(frame = st.zeroFrame ∧ (flags &&& fRW) ≠ 0) := by
  have hnz := mapOp_ok_not_zero_rw st page frame flags st' hp h
  have hg : (st.protect && frame == st.zeroFrame && (flags &&& fRW) != 0) = false := by
    cases hc : (st.protect && frame == st.zeroFrame && (flags &&& fRW) != 0)
    · rfl
    · simp only [Bool.and_eq_true, beq_iff_eq, bne_iff_ne] at hc
      exact absurd ⟨hc.1.2, hc.2⟩ hnz
  rw [mapOp_present page frame flags hw p hg] at h
  cases h
  intro F j hne
  simp only [St.flush, St.wrLoc, rd_wr] at hne ⊢
  by_cases hl : frameN T3 = F ∧ kidx (pageAddr page) 3 = j
  · simp only [hl, and_self, if_true]; exact ⟨trivial, hnz⟩
  · simp only [hl, if_false] at hne; exact absurd rfl hne

/-- **zero_never_rw — over whole histories.**  `ZInv st R own`: the active address space is well formed,
the guard is armed, and no page translates to the zero frame with the RW bit.  For every history of
`Map`, page loops of `MapRegion`/`IdentityMapRegion` (`maps`), `Unmap`, `MapTemporary` and page
faults (frames < 2^40, flags outside the frame field, pages outside the recursive slot) that runs to
completion, the invariant holds again at the end — in particular no page maps the zero frame
writable, whatever the order of requests, the allocator's behaviour and the entries present. -/
theorem zero_never_rw {R : W} (ops : List KOp) (st : St) (own : Own) (z : ZInv st R own) (hd : ∀ op ∈ ops, op.dom)
    (st' : St) (h : runKs st ops = .ok st') : ∃ own', ZInv st' R own' :=
  ZInv.history ops st own z hd st' h

/-- the same for `PageDirectoryTable.Map` on an address space that is not active: its pages never map
the zero frame writable either, and the active address space keeps all its entries. -/
theorem zero_never_rw_inactive {st : St} {A P : W} {ownA ownP : Own} (d : Dual st A P ownA ownP)
    (page frame flags : W) (hu : UserVA (pageAddr page)) (hfo : FrameOK frame) (hfl : FlagsOK flags)
    (harm : st.protect = true) (hzf : FrameOK st.zeroFrame)
    (hinv : ∀ va', UserVA va' → ∀ e, hwEntry st.mem (P <<< 12) va' = some e →
      ¬(e &&& hwMask = st.zeroFrame <<< 12 ∧ e &&& fRW ≠ 0#64)) :
    ∃ code st' ownP', pdtMap st P page frame flags = .ok (code, st') ∧ Dual st' A P ownA ownP' ∧
      st'.protect = true ∧ st'.zeroFrame = st.zeroFrame ∧
      (∀ va', UserVA va' → ∀ e, hwEntry st'.mem (P <<< 12) va' = some e →
        ¬(e &&& hwMask = st'.zeroFrame <<< 12 ∧ e &&& fRW ≠ 0#64)) ∧
      (∀ va', UserVA va' → hwEntry st'.mem (A <<< 12) va' = hwEntry st.mem (A <<< 12) va') := by
  obtain ⟨code, st', ownP', h1, d', gr, _, a⟩ := pdtMap_refines page frame flags hu st ownP d
  have hinv' : NoRW st.zeroFrame (hwEntry st'.mem (P <<< 12)) :=
    NoRW.step hinv hzf a fun p' f' fl' e hc => by
      cases e; subst hc
      exact ⟨hfo, hfl, pdtMap_ok_not_zero_rw d.inact page frame flags st' harm h1⟩
  refine ⟨code, st', ownP', h1, d', by rw [gr.regs.protect]; exact harm, gr.regs.zeroFrame,
    by rw [gr.regs.zeroFrame]; exact hinv', d.active_as d' gr⟩

/-- **shared_zero_sequence.**  Any number of pages whose entries point to the shared all-zero frame
`zf` (RAM outside tables and allocator), faulted in any order, every fault returning: each page gets
its own frame `cp a` from the allocator, all of whose words are zero; distinct pages get distinct
frames; each page's entry is its old entry with CoW cleared, Present|RW set and the new frame; the
shared frame is still all-zero and still outside tables and allocator (`ZSeq` again); pages that were
not faulted (other than the temporary page) keep their entries. -/
theorem shared_zero_sequence {R : W} {zf : Nat} (addrs : List W) (st : St) (own : Own) (z : ZSeq st R own zf)
    (hd : ∀ a ∈ addrs, UserVA (pg a) ∧ ¬SamePage (pg a) tempVA ∧
      ∃ e, hwEntry st.mem R (pg a) = some e ∧ frameN (e &&& hwMask) = zf)
    (hpw : addrs.Pairwise (fun a b => ¬SamePage (pg a) (pg b)))
    (st' : St) (h : runFaults st addrs = .ok st') :
    ∃ (own' : Own) (cp : W → W), ZSeq st' R own' zf ∧
      (∀ a ∈ addrs, cp a ∈ st.free ∧ cp a ∉ st'.free ∧
        (∀ i, st'.mem.rd (cp a).toNat i = 0#64) ∧
        ∃ e, hwEntry st.mem R (pg a) = some e ∧ hwEntry st'.mem R (pg a) = some (cowEntry e (cp a))) ∧
      (∀ a ∈ addrs, ∀ b ∈ addrs, ¬SamePage (pg a) (pg b) → (cp a).toNat ≠ (cp b).toNat) ∧
      (∀ va', UserVA va' → (∀ a ∈ addrs, ¬SamePage va' (pg a)) → ¬SamePage va' tempVA →
        hwEntry st'.mem R va' = hwEntry st.mem R va') := by
  obtain ⟨own', cp, z', _, _, _, hcp, hdist, _, has⟩ := Firefly.Vmm.shared_zero_sequence addrs st own z hd hpw st' h
  refine ⟨own', cp, z', fun a ha => ?_, hdist, has⟩
  obtain ⟨c1, c2, _, c4, c5⟩ := hcp a ha
  exact ⟨c1, c2, c4, c5⟩

/-- **reserve_zeroed_frame — arming the guard.**  On a well-formed active address space whose guard is
not armed yet: either the allocator fails (error returned, guard still not armed), or the first
allocated frame `f` becomes `ReservedZeroedFrame`, all its words are zero, the guard is armed, the
address space is unchanged except that the temporary page ends unmapped, and the invariants of
`zero_never_rw` (`ZInv`, provided no page mapped `f` before) and of `shared_zero_sequence` (`ZSeq`)
hold. -/
theorem reserve_zeroed_frame {st : St} {R : W} {own : Own} (g : Good st R own) (hA : st.cr3 &&& hwMask = R)
    (htf : st.tmpFail = false) (hprot : st.protect = false) {f : W} {rest : List W} (hf : st.free = f :: rest)
    (hunmapped : ∀ va', UserVA va' → ∀ e, hwEntry st.mem R va' = some e → e &&& hwMask ≠ f <<< 12) :
    ∃ code st', reserveZeroedFrame st = .ok (code, st') ∧
      ((code = eAlloc ∧ st'.protect = false) ∨
       (code = 0 ∧ st'.protect = true ∧ st'.zeroFrame = f ∧
        ∃ own', ZSeq st' R own' f.toNat ∧ ZInv st' R own' ∧
          ∀ va', UserVA va' → hwEntry st'.mem R va' =
            if SamePage va' tempVA then none else hwEntry st.mem R va')) := by
  obtain ⟨⟨hfo, hfb, hfn, hfA⟩, hfrest, pop⟩ := g.pop hf
  let st1 : St := { st with free := rest, allocs := st.allocs + 1, zeroFrame := f }
  have g1 : Good st1 R own := pop st1 rfl rfl rfl
  obtain ⟨code, st2, own2, hmt, post, out⟩ :=
    temp_cycle g1 hA htf (show (st1.protect && f == st1.zeroFrame) = false by rw [show st1.protect = false from hprot]; rfl)
      hfo hfb hfn hfrest hfA
  unfold reserveZeroedFrame
  simp only [allocFrame_cons hf]
  rw [show ({ st with free := rest, allocs := st.allocs + 1, zeroFrame := f } : St) = st1 from rfl, hmt]
  rcases out with ⟨rfl, _⟩ | ⟨rfl, hmmuT, hbk2, _, cyc⟩
  · exact ⟨eAlloc, st2, by simp [eAlloc], Or.inl ⟨rfl, by rw [post.regs.protect]; exact hprot⟩⟩
  simp only [ne_eq, not_true_eq_false, if_false, if_true, tempVA_page]
  -- clear the frame through the temporary page, unmap it
  rw [memsetPage_of_mmu hmmuT hfo hbk2]
  obtain ⟨_, st4, hum, tc⟩ := cyc (st2.mem.setFrame f.toNat (fun _ => 0)) (fun _ => rfl)
    (fun G j hG => by rw [rd_setFrame, if_neg (Ne.symm hG)])
  simp only [hum]
  have hz4 : st4.zeroFrame = f := tc.grow.regs.zeroFrame
  have hcr4 : st4.cr3 &&& hwMask = R := by rw [tc.grow.regs.cr3]; exact hA
  have g5 : Good { st4 with protect := true } R own2 :=
    tc.good.mono rfl ⟨[], rfl⟩ (fun _ => rfl) (fun _ _ _ _ => rfl) rfl
  refine ⟨0, { st4 with protect := true }, rfl, Or.inr ⟨rfl, rfl, hz4, own2, ?_, ?_, tc.as⟩⟩
  · refine ⟨g5, hcr4, by rw [tc.grow.regs.backed]; exact hfb, tc.fresh,
      fun x hx => hfrest x (tc.grow.free_sub hx), fun i => ?_⟩
    show st4.mem.rd f.toNat i = 0#64
    rw [tc.filled]; simp
  · refine ⟨g5, hcr4, rfl, by show FrameOK st4.zeroFrame; rw [hz4]; exact hfo, ?_⟩
    intro va' hu' e he
    have he' : hwEntry st4.mem R va' = some e := he
    rw [tc.as va' hu'] at he'
    split at he'
    · cases he'
    · rintro ⟨h1, _⟩
      have : ({ st4 with protect := true } : St).zeroFrame = f := hz4
      rw [this] at h1
      exact hunmapped va' hu' e he' h1

/-- **copyFrame_eq_memcopy.** The model's "frame `fd` := contents of frame `fs`" step — what
`cow_private_copy`'s "the new frame holds what the page showed" rests on — *is*
`Memcopy(fs·4096, fd·4096, 4096)` as written (`Model/MemUtil.lean`; `memcopy_copies` in C04 states what
that function does), applied to the byte view of the model's memory: the two memories agree on every
byte. -/
theorem copyFrame_eq_memcopy (m : Mem) (fs fd : Nat) (pa : Nat) :
    Firefly.MemUtil.memcopy (byteView m) (fs * 4096) (fd * 4096) 4096#64 pa =
      byteView (m.setFrame fd (fun i => m.rd fs i)) pa :=
  Firefly.Vmm.copyFrame_eq_memcopy m fs fd pa

/-- `Memcopy` copies (restated here because C06's "contents equal" clause depends on it) -/
theorem memcopy_copies (mem : Firefly.MemUtil.Bytes) (src dst : Nat) (size : BitVec 64) (i : Nat) :
    Firefly.MemUtil.memcopy mem src dst size i =
      if dst ≤ i ∧ i < dst + size.toNat then mem (src + (i - dst)) else mem i :=
  Firefly.MemUtil.memcopy_copies_core mem src dst size i

/-- **Every other page fault panics.** If the handler returns at all, the walk found a leaf entry
that is present, read-only and copy-on-write, a frame was available and the temporary mapping was
not refused; contrapositive: any other entry state (missing at any level, writable, not CoW), an
empty allocator or a refused temporary mapping never resumes the faulting code — the only other
outcomes of the model are `panic` and the simulated MMU fault. For every state, address, error code. -/
theorem otherwise_panics (st : St) (addr : W) (st' : St) (h : pageFault st addr = .ok ((), st')) :
    ∃ loc, walk faultCb (pageAddr (pageOf addr)) none st = .ok (some loc, st) ∧
      hasFlags (st.rdLoc loc) fPresent = true ∧ hasFlags (st.rdLoc loc) fRW = false ∧
      hasFlags (st.rdLoc loc) fCoW = true ∧ st.free ≠ [] ∧ st.tmpFail = false :=
  pageFault_ok_inv st addr st' h

/-- The recovered fault word by word, when the tables of the temporary-mapping page already exist
(the general case is `cow_private_copy`), for every state, address, entry flags and frame contents: the handler returns; the
allocator's frame `copy` is consumed; `copy` holds exactly the old frame's 512 words; the leaf entry
becomes `cowEntry e copy` (= `e` with CoW cleared, Present|RW set, frame field `copy`); the old
(shared) frame's contents are untouched; every word of memory other than frame `copy`, the page's
leaf entry and the temporary page's leaf entry is unchanged, and the temporary page's entry is left
non-present; flushes: temporary page (map), temporary page (unmap), the faulting page. -/
theorem cow_present_exact {st : St} {R T1 T2 T3 U1 U2 U3 : W} (addr : W)
    (hA : st.cr3 &&& hwMask = R) (hw : Window st R)
    (pf : Path st.mem R (pageAddr (pageOf addr)) T1 T2 T3)
    (pt : Path st.mem R tempVA U1 U2 U3)
    (hpres : st.mem.rd (frameN T3) (kidx (pageAddr (pageOf addr)) 3) &&& 1#64 ≠ 0#64)
    (hrw : hasFlags (st.mem.rd (frameN T3) (kidx (pageAddr (pageOf addr)) 3)) fRW = false)
    (hcow : hasFlags (st.mem.rd (frameN T3) (kidx (pageAddr (pageOf addr)) 3)) fCoW = true)
    (hold : st.mem.backed (frameN (st.mem.rd (frameN T3) (kidx (pageAddr (pageOf addr)) 3) &&& hwMask)) = true)
    {copy : W} {rest : List W} (hf : st.free = copy :: rest) (hco : FrameOK copy)
    (hcb : st.mem.backed copy.toNat = true) (htf : st.tmpFail = false)
    (hz : (st.protect && copy == st.zeroFrame) = false)
    (hc : copy.toNat ≠ frameN R ∧ copy.toNat ≠ frameN T1 ∧ copy.toNat ≠ frameN T2 ∧ copy.toNat ≠ frameN T3 ∧
      copy.toNat ≠ frameN U1 ∧ copy.toNat ≠ frameN U2 ∧ copy.toNat ≠ frameN U3)
    (hu : frameN U3 ≠ frameN R ∧ frameN U3 ≠ frameN U1 ∧ frameN U3 ≠ frameN U2 ∧ frameN U3 ≠ frameN T1 ∧
      frameN U3 ≠ frameN T2 ∧ ¬(frameN U3 = frameN T3 ∧ kidx tempVA 3 = kidx (pageAddr (pageOf addr)) 3) ∧
      frameN U3 ≠ frameN (st.mem.rd (frameN T3) (kidx (pageAddr (pageOf addr)) 3) &&& hwMask))
    (ho : copy.toNat ≠ frameN (st.mem.rd (frameN T3) (kidx (pageAddr (pageOf addr)) 3) &&& hwMask) ∧
      frameN T3 ≠ frameN (st.mem.rd (frameN T3) (kidx (pageAddr (pageOf addr)) 3) &&& hwMask)) :
    let e := st.mem.rd (frameN T3) (kidx (pageAddr (pageOf addr)) 3)
    let old := frameN (e &&& hwMask)
    ∃ st', pageFault st addr = .ok ((), st') ∧ st'.free = rest ∧
      (∀ i, st'.mem.rd copy.toNat i = st.mem.rd old i) ∧
      st'.mem.rd (frameN T3) (kidx (pageAddr (pageOf addr)) 3) = cowEntry e copy ∧
      cowEntry e copy &&& hwMask = copy <<< 12 ∧
      (∀ i, st'.mem.rd old i = st.mem.rd old i) ∧
      (∀ F j, F ≠ copy.toNat → ¬(F = frameN U3 ∧ j = kidx tempVA 3) →
        ¬(F = frameN T3 ∧ j = kidx (pageAddr (pageOf addr)) 3) → st'.mem.rd F j = st.mem.rd F j) ∧
      st'.mem.rd (frameN U3) (kidx tempVA 3) &&& 1#64 = 0#64 ∧
      st'.flushes = st.flushes ++ [tempVA, tempVA, pageAddr (pageOf addr)] := by
  intro e old
  have h := pageFault_cow addr hA hw pf pt hpres hrw hcow hold hf hco hcb htf hz ⟨hc.1, hc.2.2.2⟩ hu
  refine ⟨_, h, rfl, fun i => ?_, ?_, setFrame_frame _ hco, fun i => ?_, fun F j hF hU hT => ?_, ?_, rfl⟩
  · rw [cowState_rd, if_neg fun hh => hc.2.2.2.1 hh.1.symm, if_neg fun hh => hc.2.2.2.2.2.2 hh.1.symm, if_pos rfl]
  · rw [cowState_rd, if_pos ⟨rfl, rfl⟩]
  · rw [cowState_rd, if_neg fun hh => ho.2 hh.1, if_neg fun hh => hu.2.2.2.2.2.2 hh.1, if_neg ho.1]
  · rw [cowState_rd, if_neg fun hh => hT ⟨hh.1.symm, hh.2.symm⟩, if_neg fun hh => hU ⟨hh.1.symm, hh.2.symm⟩,
      if_neg fun hh => hF hh.symm]
  · rw [cowState_rd, if_neg fun hh => hu.2.2.2.2.2.1 ⟨hh.1.symm, hh.2.symm⟩, if_pos ⟨rfl, rfl⟩]
    exact clearFlags_present_low _

/-- **cow_private_copy — the copy-on-write fault, every case.**  Well-formed active address space
(`Good`, CR3 = its root); the faulting page (outside the recursive slot, not the temporary page) has a
present, read-only, copy-on-write entry `e`; the allocator's next frame is `copy`; the temporary
mapping is not refused (`tmpFail`, zero-frame guard).  Then — whether or not the temporary page's
tables exist yet — the handler either panics because the allocator ran out while creating those
tables, or returns, and then (`CowPost`): the page's entry is `e − CoW + Present|RW` with frame
`copy`, the temporary page is unmapped, *every other page's entry is unchanged*; if the page's old
frame is RAM outside the tables and the allocator, `copy` holds exactly its 512 words and the old
(shared) frame is untouched; memory outside the page tables and `copy` is untouched; flushes are
temp, temp, page; the address space is well formed again. -/
theorem cow_private_copy {st : St} {R : W} {own : Own} (g : Good st R own) (hA : st.cr3 &&& hwMask = R) (addr : W)
    (hu : UserVA (pageAddr (pageOf addr))) (hnt : ¬SamePage (pageAddr (pageOf addr)) tempVA)
    {e : W} (he : hwEntry st.mem R (pageAddr (pageOf addr)) = some e)
    (hrw : hasFlags e fRW = false) (hcow : hasFlags e fCoW = true)
    {copy : W} {rest : List W} (hf : st.free = copy :: rest) (htf : st.tmpFail = false)
    (hz : (st.protect && copy == st.zeroFrame) = false) :
    pageFault st addr = .error (.panic (200 + eAlloc)) ∨
    ∃ st' own', pageFault st addr = .ok ((), st') ∧
      CowPost st st' R own own' (pageAddr (pageOf addr)) e copy rest :=
  pageFault_full g hA addr hu hnt he hrw hcow hf htf hz

/-- the general-protection-fault handler always panics -/
theorem gpf_panics (st : St) : ∃ c, gpFault st = .error (.panic c) := ⟨_, gpFault_panics st⟩

/-! non-vacuity: the armed boot state satisfies the invariant `ZInv` (and `ZSeq` for zero frame 6);
a state with the guard armed; a recoverable fault that returns -/

/-- the boot state with the guard armed and frame 6 as zero frame, made by hand (`reserveZeroedFrame bootSt` itself
would take frame 2, the first the allocator has) -/
def zbootSt : St := { bootSt with protect := true, zeroFrame := 6#64 }

private theorem zboot_good : Good zbootSt 0x1000#64 bootOwn :=
  boot_good.mono rfl ⟨[], rfl⟩ (fun _ => rfl) (fun _ _ _ _ => rfl) rfl

example : ZInv zbootSt 0x1000#64 bootOwn :=
  ⟨zboot_good, by decide, rfl, by unfold FrameOK; decide,
    fun va' hu' e he => by rw [show zbootSt.mem = bootSt.mem from rfl, boot_empty va' hu'] at he; cases he⟩

example : ZSeq zbootSt 0x1000#64 bootOwn 6 :=
  ⟨zboot_good, by decide, by decide, by simp [bootOwn], by
    intro f hf
    simp only [zbootSt, bootSt, List.mem_cons, List.not_mem_nil, or_false] at hf
    rcases hf with rfl | rfl | rfl | rfl <;> decide,
   fun i => by simp [zbootSt, bootSt, Mem.rd, rdLog]⟩

/-- root 1 (511→1, 0→2, 510→6); 2[0]→3, 3[0]→4, 4[0] = frame 5 Present|CoW; 6[511]→7, 7[511]→8;
frame 5 holds data; the allocator will hand out frame 9 -/
def exCow : St :=
  { mem := { base := 0, n := 16,
             log := [.word 1 511 0x1003#64, .word 1 0 0x2003#64, .word 2 0 0x3003#64, .word 3 0 0x4003#64,
                     .word 4 0 0x5201#64, .word 1 510 0x6003#64, .word 6 511 0x7003#64, .word 7 511 0x8003#64,
                     .word 5 3 0xabcd#64] },
    cr3 := 0x1000#64, free := [9#64] }

example : (pageFault exCow 0x18#64).toOption.map (fun r => (r.2.mem.rd 4 0, r.2.mem.rd 9 3, r.2.free)) =
    some (0x9003#64, 0xabcd#64, []) := by decide
example : (match pageFault { exCow with free := [] } 0x18#64 with | .error (.panic 204) => true | _ => false) = true := by decide
example : ∃ st : St, st.protect = true ∧ (3#64 &&& fRW) ≠ 0 :=
  ⟨{ mem := { base := 0, n := 0, log := [] }, cr3 := 0, protect := true }, rfl, by decide⟩

end Firefly.C06
