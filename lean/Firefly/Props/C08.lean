import Firefly.Model.Spin
import Firefly.Model.SpinCfg
import Firefly.Proof.Spin
import Firefly.Proof.SpinInv
import Firefly.Proof.SpinRun
import Firefly.Proof.SpinLocked
/-!
# C08 — Spinlock gives mutual exclusion; try-acquire never lies

Statement (properties.jsonl): at most one task holds a spinlock at any time: a blocking acquire
returns only while no one else holds the lock, a try-acquire returns true exactly when it took the
lock and false without side effects when someone else holds it, and after a release the lock can
be taken again. Work done inside the lock by one holder is visible to the next holder.  For every
interleaving of blocking acquires, try-acquires and releases by any number of tasks.

All theorems are about the machine of `Model/Spin.lean` running the **generated** programs
`Gen.C08.acquireAsm` (from `spinlock_amd64.s`), `acquireGo`, `tryGo`, `releaseGo` (from
`spinlock.go`): for every configuration `cfg` (address of the lock word, nil or non-nil
`yieldFn`), every number of threads `n`, every schedule (`Reachable cfg n s`), every value the
yield function leaves in the registers.  Interleaving is sequentially consistent; x86-TSO and real
parallelism are outside the model (trusted: XCHG is a full barrier, `sync/atomic` is sequentially
consistent).  Starvation freedom is not claimed (a test-and-set lock has none).

`Owner t` (Proof/Spin.lean): `t` is a holder (`t.held`: Acquire returned / TryToAcquire returned
true, Release not yet called), or has won the exchange inside Acquire/TryToAcquire and not yet
returned, or has called Release and not yet executed its store.
-/
namespace Firefly.C08
open Firefly.Spin Firefly.Gen.C08

/-- **tie_intact** — the fact generator could translate the current source: every instruction,
prefix and operand of `spinlock_amd64.s`, every routine the Go methods call, and every client of the
lock is in the model.  When it cannot (an unknown mnemonic, a new TEXT symbol, a Go method that calls
another routine, …) the generated file carries the reason in `Gen.C08.tieBroken` and this theorem —
with everything about the programs — stops checking: the tie is broken explicitly, by name. -/
theorem tie_intact : Gen.C08.tieBroken = [] := by decide

/-- **canonical_program_is_source_program** — `Gen.C08.acquireAsm`, the program all theorems below are
about, is the source program `Gen.C08.rawAsm` (the instructions of `spinlock_amd64.s` in source
order) re-linearised: under `Gen.C08.canonOrigin` the entries correspond and every instruction of
`acquireAsm` other than an unconditional jump is the same instruction of `rawAsm` with the same
successors, where `JZ t` / `JNZ t` are read as one branch node with (if-ZF, if-not-ZF) successors and
unconditional jumps only redirect edges (`Model/SpinCfg.lean`).  The fact generator's re-lineariser —
which makes the proofs independent of block layout and jump polarity — is therefore checked on every
run, not trusted. -/
theorem canonical_program_is_source_program :
    sameGraph Gen.C08.rawAsm Gen.C08.acquireAsm Gen.C08.canonOrigin = true := by decide

/-- **mutex** — in every reachable state at most one thread is a holder. -/
theorem mutex {cfg : Config} {n : Nat} {s : State} (hr : Reachable cfg n s)
    {i j : Nat} {ti tj : Thread} (hi : s.threads[i]? = some ti) (hj : s.threads[j]? = some tj)
    (hhi : ti.held = true) (hhj : tj.held = true) : i = j :=
  (reachable_inv hr).uniq i j ti tj hi hj (Or.inl hhi) (Or.inl hhj)

/-- **mutex_owners** — stronger: at most one thread *owns* the lock, counting threads that have
won the exchange but not yet returned and threads in `Release` before their store. -/
theorem mutex_owners {cfg : Config} {n : Nat} {s : State} (hr : Reachable cfg n s)
    {i j : Nat} {ti tj : Thread} (hi : s.threads[i]? = some ti) (hj : s.threads[j]? = some tj)
    (hoi : Owner ti) (hoj : Owner tj) : i = j :=
  (reachable_inv hr).uniq i j ti tj hi hj hoi hoj

/-- **lock_word** — the lock word is always 0 or 1, and it is 1 exactly when some thread owns the
lock (a holder, a winner that has not returned yet, or a releaser that has not stored yet). -/
theorem lock_word {cfg : Config} {n : Nat} {s : State} (hr : Reachable cfg n s) :
    (s.sh.lock = 0 ∨ s.sh.lock = 1) ∧
    (s.sh.lock = 1 ↔ ∃ (i : Nat) (t : Thread), s.threads[i]? = some t ∧ Owner t) := by
  have hI := reachable_inv hr
  exact ⟨hI.word, hI.own1, fun ⟨i, t, hi, ho⟩ => hI.own0 i t hi ho⟩

/-- **acquire_returns_only_when_free** — for a step of thread `i` inside `archAcquireSpinlock`
(instruction `pc` of the generated program):
(1) `RET` is executed only by a thread that owns the lock, and only `RET` leaves the function;
(2) ownership is gained only by instruction 3, `XCHGL 0(AX), BX`, executed while the lock word was
    0 — so no other thread owned the lock at that moment — and it leaves the word at 1;
(3) ownership, once gained, is kept until the return (and the word stays 1). -/
theorem acquire_returns_only_when_free {cfg : Config} {n : Nat} {s s' : State} (hr : Reachable cfg n s)
    {i : Nat} {ch : Choice} {t t' : Thread} {m : Method} {rpc pc : Nat}
    (hi : s.threads[i]? = some t) (hph : t.ph = .asm m rpc pc)
    (hs : step cfg s i ch = some s') (hi' : s'.threads[i]? = some t') :
    (acquireAsm[pc]? = some .ret → Owner t) ∧
    (∀ m' pc', t'.ph = .go m' pc' → acquireAsm[pc]? = some .ret) ∧
    (¬ Owner t → Owner t' →
      acquireAsm[pc]? = some (.xchgl (.mem .AX 0) (.reg .BX)) ∧ s.sh.lock = 0 ∧ s'.sh.lock = 1 ∧
      ∀ (j : Nat) (tj : Thread), s.threads[j]? = some tj → ¬ Owner tj) ∧
    (Owner t → Owner t' ∧ s'.sh.lock = 1) := by
  have hI := reachable_inv hr
  have hL := hI.loc i t hi
  have ho := hI.own0 i t hi
  obtain ⟨hv, he⟩ := tstep_asm hph (step_at hs hi hi')
  obtain ⟨-, -, -, -, -, hn⟩ := asm_step cfg s.sh t rpc pc m hv hph hL hI.word
  rw [← he] at hn
  refine ⟨owner_at_ret hph hL, ?_⟩
  rcases hn with ⟨_, hp', ⟨hk, hO⟩ | ⟨rfl, h0, h1, hO'⟩⟩ | ⟨rfl, _, hk, hO, hO'⟩
  · exact ⟨fun _ _ h => Phase.noConfusion (hp'.symm.trans h), fun hn h' => absurd (hO.1 h') hn,
      fun h => ⟨hO.2 h, hk.trans (ho h)⟩⟩
  · refine ⟨fun _ _ h => Phase.noConfusion (hp'.symm.trans h), fun _ _ => ⟨rfl, h0, h1, fun j tj hj hoj => ?_⟩,
      fun h => by have := ho h; omega⟩
    have := hI.own0 j tj hj hoj
    omega
  · exact ⟨fun _ _ _ => rfl, fun hn => absurd hO hn, fun h => ⟨hO', hk.trans (ho h)⟩⟩

/-- **try_exact** — a step of thread `i` inside `TryToAcquire` (generated body `tryGo`):
at index 0 it atomically reads the lock word into `tmp` and leaves 1 there — when the word was
already 1 the shared state is unchanged (1 rewritten over 1); at index 1 it returns
`tmp == 0` without touching shared state: `true` exactly when its swap read 0, and then the caller
is a holder and the only one; `false` leaves the caller's `held` as it was.  No step of
`TryToAcquire` changes any other thread. -/
theorem try_exact {cfg : Config} {n : Nat} {s s' : State} (hr : Reachable cfg n s)
    {i : Nat} {ch : Choice} {t t' : Thread} {pc : Nat}
    (hi : s.threads[i]? = some t) (hph : t.ph = .go .try_ pc)
    (hs : step cfg s i ch = some s') (hi' : s'.threads[i]? = some t') :
    (pc = 0 ∨ pc = 1) ∧
    (pc = 0 → t'.ph = .go .try_ 1 ∧ t'.tmp = s.sh.lock ∧ s'.sh.lock = 1 ∧ s'.sh.ctr = s.sh.ctr ∧
      t'.held = t.held ∧ (s.sh.lock ≠ 0 → s'.sh = s.sh)) ∧
    (pc = 1 → t'.ph = .idle ∧ t'.ret = some (t.tmp == 0) ∧ s'.sh = s.sh ∧
      (t.tmp = 0 → t'.held = true ∧
        ∀ (j : Nat) (tj : Thread), s'.threads[j]? = some tj → tj.held = true → j = i) ∧
      (t.tmp ≠ 0 → t'.held = t.held)) ∧
    (∀ j, j ≠ i → s'.threads[j]? = s.threads[j]?) := by
  have hI := reachable_inv hr
  have hL := hI.loc i t hi
  simp only [Local, hph] at hL
  have he := tstep_go hph (step_at hs hi hi')
  refine ⟨by omega, ?_, ?_, fun j hne => step_other hs hne⟩
  · rintro rfl
    obtain ⟨hsh, rfl⟩ := Prod.mk.inj (he.trans (goStep_try_0 ..))
    refine ⟨rfl, rfl, hsh ▸ rfl, hsh ▸ rfl, rfl, fun hne => ?_⟩
    rw [hsh, ← hI.word.resolve_left hne]
  · rintro rfl
    obtain ⟨hsh, rfl⟩ := Prod.mk.inj (he.trans (goStep_try_1 ..))
    refine ⟨rfl, rfl, hsh, fun h0 => ⟨by simp [h0], fun j tj hj hhj => ?_⟩, fun hne => ?_⟩
    · exact mutex (Reachable.step i ch hr hs) hj hi' hhj (by simp [h0])
    · have : (t.tmp == 0) = false := by simpa using hne
      simp [this]

/-- **release_reacquirable** — the store of `Release` leaves the lock word 0; and in every
reachable state whose lock word is 0, any idle thread `i` that runs alone takes the lock in a
bounded number of steps: 3 moves through `TryToAcquire` (which returns `true`), 10 moves through
`Acquire` — afterwards it is a holder and the word is 1. -/
theorem release_reacquirable {cfg : Config} {n : Nat} {s : State} (hr : Reachable cfg n s)
    {i : Nat} {t : Thread} (hi : s.threads[i]? = some t) :
    (∀ ch s' t', t.ph = .go .release 0 → step cfg s i ch = some s' → s'.threads[i]? = some t' →
      s'.sh.lock = 0 ∧ t'.ph = .go .release 1) ∧
    (s.sh.lock = 0 → t.ph = .idle →
      (∃ s' t', runSched cfg s (solo i tryMoves) = some s' ∧ s'.threads[i]? = some t' ∧
        t'.ph = .idle ∧ t'.held = true ∧ t'.ret = some true ∧ s'.sh.lock = 1) ∧
      (∃ s' t', runSched cfg s (solo i acquireMoves) = some s' ∧ s'.threads[i]? = some t' ∧
        t'.ph = .idle ∧ t'.held = true ∧ s'.sh.lock = 1)) := by
  have hI := reachable_inv hr
  constructor
  · intro ch s' t' hph hs hi'
    obtain ⟨hsh, rfl⟩ := Prod.mk.inj (tstep_go hph (step_at hs hi hi'))
    exact ⟨hsh ▸ rfl, rfl⟩
  · intro h0 hph
    have hh : t.held = false := by
      cases h : t.held
      · rfl
      · have := hI.own0 i t hi (Or.inl h); omega
    constructor
    · obtain ⟨t', hrun, h1, h2, h3⟩ := try_alone cfg s.sh t h0 hph
      exact ⟨_, t', runSched_solo cfg i tryMoves s t _ t' hi hrun, get_set_self hi, h1, h2, h3, rfl⟩
    · obtain ⟨t', hrun, h1, h2⟩ := acquire_alone cfg s.sh t h0 hph hh
      exact ⟨_, t', runSched_solo cfg i acquireMoves s t _ t' hi hrun, get_set_self hi, h1, h2, rfl⟩

/-- **handover_visible** — with a plain protected counter that holders read and then write back
incremented inside their critical sections, the counter always equals the number of completed
increments (no lost update: every holder saw the writes of all previous holders), and a value a
holder has read and not yet written back is still the current one.  Proved under sequentially
consistent interleaving. -/
theorem handover_visible {cfg : Config} {n : Nat} {s : State} (hr : Reachable cfg n s) :
    s.sh.ctr = s.sh.incs ∧
    ∀ (i : Nat) (t : Thread) (v : Nat), s.threads[i]? = some t → t.loc = some v → v = s.sh.ctr ∧ t.held = true :=
  ⟨(reachable_inv hr).ctr, (reachable_inv hr).cs⟩

/-- **deadlock_free** — in every reachable state no thread has faulted and every thread can make
a step (nothing ever blocks: waiting is spinning); and if the thread that owns the lock keeps
stepping (finishing its call, then calling `Release`) the lock word becomes 0 within 7 of its own
moves, whatever state the other threads are in.  (Starvation freedom is not claimed.) -/
theorem deadlock_free {cfg : Config} {n : Nat} {s : State} (hr : Reachable cfg n s)
    {i : Nat} {t : Thread} (hi : s.threads[i]? = some t) :
    t.ph ≠ .fault ∧
    (∃ ch s', step cfg s i ch = some s') ∧
    (Owner t → ∃ chs s', chs.length ≤ 7 ∧ runSched cfg s (solo i chs) = some s' ∧ s'.sh.lock = 0) := by
  have hI := reachable_inv hr
  have hL := hI.loc i t hi
  refine ⟨?_, ?_, ?_⟩
  · intro h; simp [Local, h] at hL
  · obtain ⟨ch, ⟨sh', t'⟩, h⟩ := can_step cfg s.sh t hL
    exact ⟨ch, { sh := sh', threads := s.threads.set i t' }, by simp [step, hi, h]⟩
  · intro ho
    obtain ⟨chs, sh', t', hlen, hrun, h0⟩ := owner_can_free cfg s.sh t hL ho
    exact ⟨chs, _, hlen, runSched_solo cfg i chs s t sh' t' hi hrun, h0⟩

/-- **spin_refines_abstract_lock** — forward simulation from the spin-lock machine (regenerated
programs, any number of threads, any schedule, clients that Release only while holding) to the
abstract lock that C09's `Model/Locked.lean` builds on (`absStep`: `holder : Option Nat`; `acq i`
enabled only while `holder = none`; `rel i` only for the holder).  The visible event of a machine
step is read off the lock word (`evOf`: 0→nonzero is `acq i`, nonzero→0 is `rel i`, else `tau`); the
abstraction `Abs s h` says that `h` is the unique `Owner`.
(1) initially nobody holds; (2) every step of every thread is matched by the abstract lock on its
event — the winning `XCHGL` / successful `TryToAcquire` swap by `acq`, the `Release` store by `rel`,
everything else by a stutter — and re-establishes the abstraction; (3) hence the event trace of
every execution is a trace of the abstract lock; (4) a thread that is inside its critical section
(`held`) is the abstract holder; (5) every step of the Locked machine moves its `holder` field by
such an abstract-lock step (the interface is the same). -/
theorem spin_refines_abstract_lock (cfg : Config) (n : Nat) :
    Abs (init n) none ∧
    (∀ {s s' : State} {i : Nat} {ch : Choice} {h : Option Nat}, Reachable cfg n s → Abs s h →
      step cfg s i ch = some s' → ∃ h', absStep h (evOf s s' i) = some h' ∧ Abs s' h') ∧
    (∀ {evs : List LockEv} {s : State}, Exec cfg (init n) evs s →
      ∃ hd, absRun none evs = some hd ∧ Abs s hd) ∧
    (∀ {s : State} {h : Option Nat} {i : Nat} {t : Thread}, Reachable cfg n s → Abs s h →
      s.threads[i]? = some t → t.held = true → h = some i) ∧
    (∀ {σ ρ O : Type} (S : Locked.Sys σ ρ O) (s s' : Locked.State σ ρ O) (i : Nat),
      Locked.step S s i = some s' →
      absStep s.holder (.acq i) = some s'.holder ∨ absStep s.holder (.rel i) = some s'.holder ∨
      (s.holder = some i ∧ s'.holder = some i)) :=
  ⟨(own_init cfg n).abs,
   fun hr ha hs => (step_own (reachable_abs hr ha) hs).imp fun _ h' => ⟨h'.1, h'.2.abs⟩,
   fun h => (exec_own h).imp fun _ h' => ⟨h'.1, h'.2.abs⟩,
   fun hr ha hi hh => ((reachable_abs hr ha).thr _ _ hi).2.1 (.inl hh),
   fun S s s' i h => locked_step_is_abslock S s s' i h⟩

/-- **spin_lock_substitutes** — the composition.  `cstep` (Proof/SpinLocked.lean) is C09's machine
with the REAL lock program in place of the abstract lock: every thread loops `Acquire()`,
micro-steps of its client's next operation on the shared object, `Release()`; micro-steps are taken
between the return of `Acquire` and the call of `Release`, with no reference to an abstract holder.
Every reachable state of that machine (any object, any clients, any number of threads, any schedule)
projects (`proj`) to a reachable state of the machine of `Model/Locked.lean`; therefore every safety
property proved for all reachable states of the Locked machine — `C09.linearizable`, and through it
`no_duplicate`, `freed_is_reusable`, `totals_after_quiescence` — holds of the projection, with the
spin lock of `/repo` substituted for the abstract lock. -/
theorem spin_lock_substitutes {σ ρ O : Type} (S : Locked.Sys σ ρ O) (cfg : Config) (n : Nat) (s0 : σ)
    {c : CState σ ρ O} (h : CReachable S cfg n s0 c) :
    Locked.Reachable S s0 (proj c) ∧
    ∀ P : Locked.State σ ρ O → Prop, (∀ s, Locked.Reachable S s0 s → P s) → P (proj c) :=
  ⟨(creachable_proj S cfg n s0 h).2, fun _ hP => hP _ (creachable_proj S cfg n s0 h).2⟩

/-- **clients_disciplined** — the tie between the code and the client shape `cstep` assumes.
`Gen.C08.clients` is REGENERATED on every run: the lock skeleton (control flow + lock calls) of
every function under `kernel/` that calls `Acquire`/`Release`/`TryToAcquire` on any field or
variable of type `sync.Spinlock` (`Gen.C08.lockDecls`; in `Gen/C08.lean` as it stands: `BitmapAllocator.AllocFrame`
and `FreeFrame`).  (1) every one of them passes the lock-discipline checker of `Model/Locked.lean`;
(2) hence (soundness of the checker) on every control-flow path of every client, for any loop
iteration counts, the function leaves by `return`/end of body and its lock calls are exactly
`Acquire` then `Release` — taken once, released exactly once on every return path, never released
un-acquired; (3) this is the shape the composed machine accepts: `cstep` lets a thread call
`Acquire` only while outside (idle, not holding, no operation in progress), take micro-steps and
call `Release` only between the return of `Acquire` and the call of `Release`, and nothing else. -/
theorem clients_disciplined :
    (∀ c ∈ Gen.C08.clients, Locked.disciplined c.2 = true) ∧
    (∀ c ∈ Gen.C08.clients, ∀ (tr : List Locked.Ev) (x : Locked.Exit), Locked.Runs c.2 tr x →
      (x = .fall ∨ x = .ret) ∧ lockCalls tr = [.acq, .rel]) ∧
    (∀ {σ ρ O : Type} (S : Locked.Sys σ ρ O) (cfg : Config) (c c' : CState σ ρ O) (i : Nat),
      (cstep S cfg c i (.lock .callAcquire) = some c' →
        ∃ t, c.spin.threads[i]? = some t ∧ t.ph = .idle ∧ t.held = false ∧ (c.cl i).cur = none) ∧
      (cstep S cfg c i (.lock .callRelease) = some c' →
        ∃ t, c.spin.threads[i]? = some t ∧ t.ph = .idle ∧ t.held = true) ∧
      (cstep S cfg c i .micro = some c' →
        ∃ t, c.spin.threads[i]? = some t ∧ t.ph = .idle ∧ t.held = true) ∧
      cstep S cfg c i (.lock .callTry) = none) := by
  have h1 : ∀ c ∈ Gen.C08.clients, Locked.disciplined c.2 = true := by decide
  exact ⟨h1, fun c hc tr x hr => disciplined_calls c.2 (h1 c hc) hr, fun S cfg c c' i =>
    -- so per thread the lock calls alternate `Acquire`, `Release`, starting with `Acquire`
    ⟨fun h => (cstep_callAcquire S cfg c c' i h).1, fun h => (cstep_callRelease S cfg c c' i h).1,
      fun h => (cstep_micro S cfg c c' i h).1, rfl⟩⟩

/-- the scan found the clients (the statement above is not about an empty list) -/
example : Gen.C08.clients.length ≥ 2 ∧ Gen.C08.lockDecls.length ≥ 1 := by decide

/-! ## Non-vacuity: concrete schedules of the generated programs -/

private theorem reach_of_run {cfg : Config} {n : Nat} {sched : List (Nat × Choice)} (p : State → Bool)
    (h : (runSched cfg (init n) sched).any p = true) : ∃ s, Reachable cfg n s ∧ p s = true := by
  cases hrun : runSched cfg (init n) sched with
  | none => simp [hrun] at h
  | some s => exact ⟨s, runSched_reachable sched Reachable.init hrun, by simpa [hrun] using h⟩

/-- lock word at 4096, a non-nil yield function -/
def exCfg : Config := { lockAddr := 4096, yieldFn := 8192 }

def inAsm (t : Thread) : Bool := match t.ph with | .asm .. => true | _ => false

/-- Thread 0 takes the lock with TryToAcquire; thread 1 calls Acquire, loses the exchange, spins,
calls the yield function (which clobbers its registers) and keeps spinning: the lock word is 1,
thread 0 is the holder, thread 1 is inside the assembly loop. -/
example : ∃ s, Reachable exCfg 2 s ∧
    (s.sh.lock == 1 && s.threads[0]?.any (·.held) && s.threads[1]?.any (fun t => inAsm t && !t.held)) = true :=
  reach_of_run _ (by decide :
    (runSched exCfg (init 2) (solo 0 tryMoves ++ solo 1 (.callAcquire :: .run :: List.replicate 20 (.havoc 7 7 7 7 false)))).any _ = true)

/-- Hand-over: thread 0 acquires, increments the protected counter, releases; thread 1 (with
`yieldFn = nil`, as in the kernel) then acquires through the assembly path and increments what it
reads: the counter is 2 = completed increments. -/
example : ∃ s, Reachable { lockAddr := 4096, yieldFn := 0 } 2 s ∧
    (s.sh.ctr == 2 && s.sh.incs == 2 && s.sh.lock == 1 && s.threads[1]?.any (·.held)) = true :=
  reach_of_run _ (by decide :
    (runSched { lockAddr := 4096, yieldFn := 0 } (init 2)
      (solo 0 (acquireMoves ++ [.csRead, .csWrite] ++ releaseMoves) ++
       solo 1 (acquireMoves ++ [.csRead, .csWrite]))).any _ = true)

/-- A TryToAcquire on a held lock returns false and changes nothing shared. -/
example : ∃ s, Reachable exCfg 2 s ∧
    (s.sh.lock == 1 && s.threads[1]?.any (fun t => t.ret == some false && !t.held) && s.threads[0]?.any (·.held)) = true :=
  reach_of_run _ (by decide :
    (runSched exCfg (init 2) (solo 0 acquireMoves ++ solo 1 tryMoves)).any _ = true)

/-- a shared counter whose only operation is `tmp := x; x := tmp + 1` in two micro-steps -/
def exSys : Locked.Sys Nat Nat Unit :=
  { sem := fun _ => { init := 0, steps := [fun (x, _r) => (x, x), fun (_x, r) => (r + 1, r)] },
    client := fun _ h => if h.length < 1 then some () else none }

private theorem creach_of_run {σ ρ O : Type} {S : Locked.Sys σ ρ O} {cfg : Config} {n : Nat} {s0 : σ}
    {sched : List (Nat × CMove)} (p : CState σ ρ O → Bool)
    (h : (crunSched S cfg (cinit n s0) sched).any p = true) : ∃ c, CReachable S cfg n s0 c ∧ p c = true := by
  cases hrun : crunSched S cfg (cinit n s0) sched with
  | none => simp [hrun] at h
  | some c => exact ⟨c, crunSched_reachable S cfg n s0 sched CReachable.init hrun, by simpa [hrun] using h⟩

/-- The composed machine is not vacuous: two threads each run one operation through the real lock
program (thread 1 loses the exchange and spins while thread 0 is inside); the projection is a
reachable state of the Locked machine with both operations logged, the counter at 2, the lock free. -/
example : ∃ c, CReachable exSys exCfg 2 0 c ∧
    ((proj c).sh == 2 && (proj c).log.length == 2 && (proj c).holder == none &&
     ((proj c).threads 1).hist.length == 1) = true :=
  creach_of_run _ (by decide :
    (crunSched exSys exCfg (cinit 2 0)
      ([(0, .lock .callAcquire)] ++ List.replicate 9 (0, .lock .run) ++
       [(1, .lock .callAcquire)] ++ List.replicate 12 (1, .lock (.havoc 7 7 7 7 false)) ++
       [(0, .micro), (0, .micro), (0, .lock .callRelease), (0, .lock .run), (0, .lock .run)] ++
       List.replicate 18 (1, .lock .run) ++
       [(1, .micro), (1, .micro), (1, .lock .callRelease), (1, .lock .run), (1, .lock .run)])).any _ = true)

end Firefly.C08
