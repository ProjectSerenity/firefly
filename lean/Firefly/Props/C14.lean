import Firefly.Model.Acpi
import Firefly.Spec.Acpi
import Firefly.Proof.Acpi
/-!
# C14 — Only checksum-valid ACPI tables are registered, found via the right root pointer

Statement (properties.jsonl): hardware detection finds the ACPI root pointer wherever it sits on
a 16-byte boundary of the BIOS search area, accepts it only if its checksum is valid, and follows
the 32-bit root table for revision-0 firmware and the 64-bit one otherwise. Every table the root
table lists, plus the DSDT that a checksum-valid FADT points to, is registered under its signature
if and only if the bytes of the table sum to zero; tables with a bad checksum are reported and
skipped without stopping enumeration.

All theorems are about the executable model `Firefly.Acpi` (Model/Acpi.lean), instantiated with
the constants in `Firefly.Gen.C14` that the harness prints from the compiled Go code, and hold for
**every** firmware memory image `m : Nat → UInt8`, every window `[low, hi)` and every root table.
The vocabulary (`ValidRsdpAt`, `rootOf`, `considered`, `SumsToZero`) is in Spec/Acpi.lean.
-/
namespace Firefly.C14
open Firefly.Acpi Firefly.Gen.C14

/-- The search constants of the compiled code are the BIOS area `0xe0000 … 0xfffff`, scanned in
16-byte steps, and pages are 4 KiB. -/
theorem window_is_bios_area :
    rsdpLocationLow = 0xe0000 ∧ rsdpLocationHi = 0xfffff ∧ rsdpAlignment = 16 ∧ pageShift = 12 := by decide

/-- The number of bytes the compiled code sums for a root pointer, measured by the harness on the
real `locateRSDT`: 20 for revision 0, 36 otherwise — whatever the structure's own `Length` field
says (0, 20, 36, 292). -/
theorem checksum_lengths_fixed :
    rsdpChecksumLen = 20 ∧ extRsdpChecksumLen = 36 ∧ extRsdpChecksumLenLength0 = 36 ∧
    extRsdpChecksumLenLength20 = 36 ∧ extRsdpChecksumLenLength292 = 36 := by decide

/-- `validTable` accepts exactly when the plain sum of the bytes is 0 mod 256. -/
theorem checksum_is_byte_sum (m : Mem) (a n : Nat) :
    validTable m a n = true ↔ SumsToZero m a n :=
  validTable_iff m a n

/-- A table passes `mapACPITable`'s check iff its `Length` bytes sum to zero. -/
theorem table_ok_iff_sums_to_zero (m : Mem) (a : Nat) :
    tableOK m a = true ↔ SumsToZero m a (rdLE m (a + 4) 4) :=
  tableOK_iff m a

/-- **rsdp_found** — the lowest checksum-valid root pointer on the 16-byte grid of the window is
the one returned, together with the root table its revision designates (32-bit RSDT address for
revision 0, 64-bit XSDT address otherwise). -/
theorem rsdp_found (m : Mem) (low hi k : Nat) (hk : low + 16 * k < hi)
    (hv : ValidRsdpAt m (low + 16 * k)) (hlow : ∀ j, j < k → ¬ ValidRsdpAt m (low + 16 * j)) :
    locateRSDT m low hi = .found (rootOf m (low + 16 * k)).1 (rootOf m (low + 16 * k)).2 :=
  (locateRSDT_found_iff m low hi _ _).2 ⟨k, hk, hv, hlow, rfl⟩

/-- **rsdp_decoys_never** — whatever the probe returns comes from a checksum-valid root pointer
that lies on the grid inside the window and has no valid one below it; in particular a structure
with the right signature but a bad checksum (a decoy) is never accepted, nor is anything off the
16-byte grid or at or above `hi`. -/
theorem rsdp_decoys_never (m : Mem) (low hi root : Nat) (x : Bool)
    (h : locateRSDT m low hi = .found root x) :
    ∃ k, low + 16 * k < hi ∧ ValidRsdpAt m (low + 16 * k) ∧
      (∀ j, j < k → ¬ ValidRsdpAt m (low + 16 * j)) ∧ (root, x) = rootOf m (low + 16 * k) :=
  (locateRSDT_found_iff m low hi root x).1 h

/-- **rsdp_none_missing** — the probe fails (`errMissingRSDP`, `probeForACPI` returns nil) exactly
when no grid position of the window holds a checksum-valid root pointer. -/
theorem rsdp_none_missing (m : Mem) (low hi : Nat) :
    locateRSDT m low hi = .missing ↔ ∀ k, low + 16 * k < hi → ¬ ValidRsdpAt m (low + 16 * k) := by
  unfold locateRSDT
  simp only [scan_missing_iff, lt_nslots_iff, checkSlot_eq_none_iff]

/-- **considered_iff** — the tables the enumeration looks at are exactly the root table's entries
and the DSDT behind every listed checksum-valid FADT. -/
theorem considered_iff (m : Mem) (root : Nat) (x : Bool) (a : Nat) :
    a ∈ considered m root x ↔
      a ∈ entries m root x ∨
      ∃ f, f ∈ entries m root x ∧ tableOK m f = true ∧ sigAt m f = fadtSignature ∧
        a = dsdtPtr m (rd m (root + 8)) f := by
  unfold considered
  simp only [List.mem_flatMap, mem_ite_pair, Bool.and_eq_true, beq_iff_eq]
  constructor
  · rintro ⟨e, he, rfl | ⟨⟨h1, h2⟩, rfl⟩⟩
    · exact Or.inl he
    · exact Or.inr ⟨e, he, h1, h2, rfl⟩
  · rintro (he | ⟨f, hf, h1, h2, rfl⟩)
    · exact ⟨a, he, Or.inl rfl⟩
    · exact ⟨f, hf, Or.inr ⟨⟨h1, h2⟩, rfl⟩⟩

/-- **registered_iff** — with a checksum-valid root table and distinct signatures among the
checksum-valid tables under consideration, `tableMap[s]` is the table at `a` iff `a` is listed by
the root table (or is the DSDT of a listed checksum-valid FADT), carries signature `s`, and its
bytes sum to zero. Position in the root table and bad tables before or after play no role. -/
theorem registered_iff (m : Mem) (root : Nat) (x : Bool) (hroot : tableOK m root = true)
    (hdist : ∀ a b, a ∈ considered m root x → b ∈ considered m root x →
      tableOK m a = true → tableOK m b = true → sigAt m a = sigAt m b → a = b)
    (s a : Nat) :
    (enumerateTables m root x).2.tables.lookup s = some a ↔
      a ∈ considered m root x ∧ sigAt m a = s ∧ SumsToZero m a (lenAt m a) := by
  refine ⟨lookup_tables_sound m root x hroot, fun ⟨ha, hs, hok⟩ => ?_⟩
  obtain ⟨b, hb⟩ := lookup_tables_complete m root x hroot ha hs hok
  obtain ⟨hb1, hb2, hb3⟩ := lookup_tables_sound m root x hroot hb
  rw [hb, hdist b a hb1 ha ((tableOK_iff m b).2 hb3) ((tableOK_iff m a).2 hok) (hb2.trans hs.symm)]

/-- **registered_dom_iff** — without any distinctness assumption: a signature is registered iff
some table under consideration carries it and sums to zero, and what is registered under it is
always such a table (the last one enumerated wins). -/
theorem registered_dom_iff (m : Mem) (root : Nat) (x : Bool) (hroot : tableOK m root = true) (s : Nat) :
    ((∃ a, (enumerateTables m root x).2.tables.lookup s = some a) ↔
      ∃ a, a ∈ considered m root x ∧ sigAt m a = s ∧ SumsToZero m a (lenAt m a)) ∧
    (∀ a, (enumerateTables m root x).2.tables.lookup s = some a →
      a ∈ considered m root x ∧ sigAt m a = s ∧ SumsToZero m a (lenAt m a)) :=
  ⟨⟨fun ⟨a, h⟩ => ⟨a, lookup_tables_sound m root x hroot h⟩,
    fun ⟨_, ha, hs, hok⟩ => lookup_tables_complete m root x hroot ha hs hok⟩,
   fun _ => lookup_tables_sound m root x hroot⟩

/-- `tableMap` is a map: at most one entry per signature. -/
theorem tableMap_keys_unique (m : Mem) (root : Nat) (x : Bool) :
    ((enumerateTables m root x).2.tables.map (·.1)).Nodup := by
  by_cases hroot : tableOK m root = true
  · rw [enumerateTables_ok m root x hroot]
    exact foldl_register_keys_nodup m _ [] (by simp)
  · rw [enumerateTables_bad m root x (by simpa using hroot)]
    simp

/-- **bad_checksum_skipped_not_fatal** — with a checksum-valid root table the enumeration always
completes (`DriverInit` returns nil), and the tables skipped with a log line are exactly the
tables under consideration whose bytes do not sum to zero — one line each, in order, none lost.
(That every *other* table is still registered is `registered_iff`, which holds whatever the
position of the bad ones.) -/
theorem bad_checksum_skipped_not_fatal (m : Mem) (root : Nat) (x : Bool) (hroot : tableOK m root = true) :
    (enumerateTables m root x).1 = .ok ∧
    (enumerateTables m root x).2.skipped = (considered m root x).filter (fun a => !tableOK m a) := by
  rw [enumerateTables_ok m root x hroot]
  exact ⟨rfl, rfl⟩

/-- A root table with a bad checksum is the only thing that stops the driver: nothing is
registered and `errTableChecksumMismatch` is returned. -/
theorem root_bad_checksum_fatal (m : Mem) (root : Nat) (x : Bool) (hroot : tableOK m root = false) :
    (enumerateTables m root x).1 = .checksumMismatch ∧ (enumerateTables m root x).2.tables = [] ∧
    (enumerateTables m root x).2.skipped = [] := by
  rw [enumerateTables_bad m root x hroot]
  exact ⟨rfl, rfl, rfl⟩

/-- **entry_width** — the RSDT is read as `(Length-36)/4` little-endian 32-bit entries, the XSDT
as `(Length-36)/8` little-endian 64-bit entries, both starting right behind the 36-byte header
(root tables at least as long as their header; `rsdp_found` ties the flag to the revision). -/
theorem entry_width (m : Mem) (root : Nat) (hlen : 36 ≤ lenAt m root) :
    entries m root false =
      (List.range ((lenAt m root - 36) / 4)).map (fun i =>
        rd m (root + 36 + 4 * i) + 256 * rd m (root + 36 + 4 * i + 1) + 65536 * rd m (root + 36 + 4 * i + 2)
          + 16777216 * rd m (root + 36 + 4 * i + 3)) ∧
    entries m root true =
      (List.range ((lenAt m root - 36) / 8)).map (fun i =>
        rd m (root + 36 + 8 * i) + 256 * rd m (root + 36 + 8 * i + 1) + 65536 * rd m (root + 36 + 8 * i + 2)
          + 16777216 * rd m (root + 36 + 8 * i + 3) + 4294967296 * (
        rd m (root + 36 + 8 * i + 4) + 256 * rd m (root + 36 + 8 * i + 5) + 65536 * rd m (root + 36 + 8 * i + 6)
          + 16777216 * rd m (root + 36 + 8 * i + 7))) := by
  unfold entries
  simp only [payloadLen_eq m root hlen, show sizeofSDTHeader = 36 from rfl, Bool.false_eq_true, if_false, if_true,
    Nat.shiftRight_eq_div_pow]
  exact ⟨List.map_congr_left fun i _ => rdLE_four m _, List.map_congr_left fun i _ => by rw [rdLE_eight, rdLE_four]⟩

/-- **maps_header_then_table** — every table looked at is mapped twice, in this order: its
36-byte header, then `Length` bytes from the same frame; root table first. -/
theorem maps_header_then_table (m : Mem) (root : Nat) (x : Bool) (hroot : tableOK m root = true) :
    (enumerateTables m root x).2.maps =
      (root :: considered m root x).flatMap (fun a => [(a / 4096, 36), (a / 4096, lenAt m a)]) := by
  rw [enumerateTables_ok m root x hroot]
  have e : hdrMaps m = fun a => [(a / 4096, 36), (a / 4096, lenAt m a)] := by
    funext a; simp [hdrMaps, pageShift, sizeofSDTHeader, Nat.shiftRight_eq_div_pow]
  simp [e]

/-! ## Non-vacuity: a concrete image (decoy in slot 0, valid revision-0 root pointer in slot 2,
RSDT at 64 listing a good table `AAAA` at 112 and a corrupted table `BBBB` at 160) -/

def exBytes : List Nat := [82, 83, 68, 32, 80, 84, 82, 32, 19, 79, 69, 77, 73, 68, 33, 0, 64, 0, 0, 0, 0, 0, 0, 0, 0, 0, 0, 0, 0, 0, 0, 0, 82, 83, 68, 32, 80, 84, 82, 32, 18, 79, 69, 77, 73, 68, 33, 0, 64, 0, 0, 0, 0, 0, 0, 0, 0, 0, 0, 0, 0, 0, 0, 0, 82, 83, 68, 84, 44, 0, 0, 0, 1, 168, 79, 69, 77, 73, 68, 33, 79, 69, 77, 84, 65, 66, 76, 69, 1, 0, 0, 0, 2, 0, 0, 0, 3, 0, 0, 0, 112, 0, 0, 0, 160, 0, 0, 0, 0, 0, 0, 0, 65, 65, 65, 65, 36, 0, 0, 0, 1, 249, 79, 69, 77, 73, 68, 33, 79, 69, 77, 84, 65, 66, 76, 69, 1, 0, 0, 0, 2, 0, 0, 0, 3, 0, 0, 0, 0, 0, 0, 0, 0, 0, 0, 0, 0, 0, 0, 0, 66, 66, 66, 66, 36, 0, 0, 0, 1, 246, 79, 69, 77, 73, 68, 33, 79, 69, 77, 84, 65, 66, 76, 69, 1, 0, 0, 0, 2, 0, 0, 0, 3, 0, 0, 0, 0, 0, 0, 0, 0, 0, 0, 0, 0, 0, 0, 0]
def exMem : Mem := fun a => UInt8.ofNat (exBytes.getD a 0)

example : ¬ ValidRsdpAt exMem 0 ∧ ¬ ValidRsdpAt exMem 16 ∧ ValidRsdpAt exMem 32 := by decide +kernel
example : (List.range 8).map (fun i => rd exMem (0 + i)) = rsdPtrSignature := by decide +kernel
example : locateRSDT exMem 0 64 = .found 64 false := by decide +kernel
example : locateRSDT exMem 0 32 = .missing := by decide +kernel
/-- the three tables of the image are summed once each; the examples below share the results -/
private theorem ex_root : tableOK exMem 64 = true := by decide +kernel
private theorem ex_good : tableOK exMem 112 = true := by decide +kernel
private theorem ex_bad : tableOK exMem 160 = false := by decide +kernel
private theorem ex_entries : entries exMem 64 false = [112, 160] := by decide +kernel
private theorem ex_sig : sigAt exMem 112 = 1094795585 := by decide +kernel

private theorem ex_considered : considered exMem 64 false = [112, 160] := by
  simp [considered, ex_entries, ex_good, ex_bad, ex_sig, fadtSignature]

example : tableOK exMem 64 = true ∧ 36 ≤ lenAt exMem 64 ∧ entries exMem 64 false = [112, 160] :=
  ⟨ex_root, by decide +kernel, ex_entries⟩
example : tableOK exMem 112 = true ∧ tableOK exMem 160 = false := ⟨ex_good, ex_bad⟩
example : (enumerateTables exMem 64 false).2.tables = [(1094795585, 112)] ∧
    (enumerateTables exMem 64 false).2.skipped = [160] := by
  rw [enumerateTables_ok _ _ _ ex_root, ex_considered]
  simp [register, ex_good, ex_bad, ex_sig, Acpi.insert]
example : ∀ a b, a ∈ considered exMem 64 false → b ∈ considered exMem 64 false →
    tableOK exMem a = true → tableOK exMem b = true → sigAt exMem a = sigAt exMem b → a = b := by
  have key : ∀ a ∈ considered exMem 64 false, tableOK exMem a = true → a = 112 := by
    intro a ha h
    rw [ex_considered, List.mem_cons, List.mem_singleton] at ha
    rcases ha with rfl | rfl
    · rfl
    · rw [ex_bad] at h; cases h
  intro a b ha hb' h1 h2 _
  rw [key a ha h1, key b hb' h2]

end Firefly.C14
