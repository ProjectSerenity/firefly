import Firefly.Proof.PmmInit
import Firefly.Proof.PmmHistory
/-!
# C03 — Frame accounting: all usable RAM allocatable, bad frees rejected, no crash

Statement (properties.jsonl): for every memory map, initialising the physical memory manager
either succeeds or reports out-of-memory, never crashes; after success exactly the usable frames
(available RAM minus kernel image minus early-boot allocations) can be allocated before
out-of-memory is reported, and the reported free/reserved totals agree with that at every step.
Freeing a frame that is unmanaged or already free is rejected with an error and changes nothing,
while freeing an allocated frame makes exactly that frame allocatable again.
-/
namespace Firefly.C03
open Firefly.Pmm Firefly.Gen.Pmm

/-- the frames of `m` the property calls usable, in the property's own words: wholly inside a region
reported available, not part of the kernel image `[ksA, keA)`, not among the early allocations `fs` -/
def Usable (m : List Region) (ksA keA : Nat) (fs : List Nat) (g : Nat) : Prop :=
  (∃ r ∈ m, r.typ = memAvailable ∧ r.addr ≤ g * 4096 ∧ (g + 1) * 4096 ≤ r.addr + r.len) ∧
  ¬ (ksA / 4096 ≤ g ∧ g * 4096 < keA) ∧ g ∉ fs

/-- **init_total_and_exact** — for every sorted memory map with fewer than 2^32 frames and every
kernel placement (page-aligned start, image inside one available region), after any number `k` of
successful early allocations, initialising the bitmap allocator (vmm seams succeeding) ends in `ok`
or out-of-memory and never crashes; on `ok` the early allocator has made exactly `k` + metadata-page
allocations `fs`, the representation invariant holds, and the free set is exactly the usable
frames. Together with `stats`/`drain_count` this gives: exactly the usable frames can be allocated
before out-of-memory is reported. -/
theorem init_total_and_exact (m : List Region) (ksA keA : Nat) (hs : SortedMap m)
    (hp : KernelPlaced m ksA keA) (hsm : nSum (poolsOf m) < 4294967296) (k : Nat) (b : Boot)
    (fs0 : List Nat) (hrun : bootRun m k (bootInit ksA keA) = some (b, fs0)) :
    ((bitmapInit m b true none).outcome = .ok ∨ (bitmapInit m b true none).outcome = .oom) ∧
    ((bitmapInit m b true none).outcome = .ok →
      ∃ fs, bootRun m (k + requiredBytes (poolsOf m) / pageSize) (bootInit ksA keA)
              = some ((bitmapInit m b true none).boot, fs) ∧
        Inv (bitmapInit m b true none).bm ∧
        ∀ g, isFree (bitmapInit m b true none).bm g ↔ Usable m ksA keA fs g) := by
  obtain ⟨h1, h2⟩ := init_spec m ksA keA hs hp hsm k b fs0 hrun
  refine ⟨h1, fun hok => ?_⟩
  obtain ⟨fs, hf1, hf2, hf3⟩ := h2 hok
  refine ⟨fs, hf1, hf2, fun g => ?_⟩
  rw [hf3 g, managed_iff_available, bootInit_kernel_iff hp.nonempty]
  rfl

/-- **stats** — in every state satisfying the invariant the reported totals equal the number of
free frames: `total - reserved = |free set|`. -/
theorem stats (bm : Bitmap) (hI : Inv bm) :
    bm.total - bm.reserved = (freeList bm).length ∧ bm.reserved ≤ bm.total ∧
    ∀ f, f ∈ freeList bm ↔ isFree bm f := by
  rw [length_freeList hI]; exact ⟨hI.acct, hI.le, mem_freeList hI⟩

/-- **drain_count** — exactly `total - reserved` consecutive allocations succeed and the next one
reports out-of-memory. -/
theorem drain_count (bm : Bitmap) (hI : Inv bm) :
    (∀ r ∈ (allocN bm (bm.total - bm.reserved)).2, r ≠ none) ∧
    (alloc (allocN bm (bm.total - bm.reserved)).1).2 = none :=
  ⟨(Firefly.Pmm.drain_count hI _ rfl).1, (Firefly.Pmm.drain_count hI _ rfl).2.1⟩

/-- **bad_free_rejected** — freeing an unmanaged frame or a frame that is free is rejected and
changes nothing. -/
theorem bad_free_rejected (bm : Bitmap) (hI : Inv bm) (f : Nat) :
    (poolForFrame bm.pools f = none → free bm f = (bm, .notManaged)) ∧
    (isFree bm f → free bm f = (bm, .doubleFree)) := by
  constructor
  · intro h; simp [free, h]
  · intro hf
    rcases free_spec hI f with ⟨hnm, _⟩ | ⟨_, e⟩ | ⟨_, hnf, _⟩
    · exact absurd (managed_of_isFree hf) hnm
    · exact e
    · exact absurd hf hnf

/-- **good_free_accepted** — freeing a managed frame that is not free succeeds, makes exactly that
frame allocatable again, and moves one frame from reserved to free in the totals. -/
theorem good_free_accepted (bm : Bitmap) (hI : Inv bm) (f : Nat) (i : Nat)
    (hm : poolForFrame bm.pools f = some i) (hf : ¬ isFree bm f) :
    ∃ bm', free bm f = (bm', .ok) ∧ Inv bm' ∧ bm'.total = bm.total ∧ bm'.reserved + 1 = bm.reserved ∧
      ∀ g, isFree bm' g ↔ (isFree bm g ∨ g = f) := by
  rcases free_spec hI f with ⟨hnm, _⟩ | ⟨hfr, _⟩ | ⟨_, _, bm', e, h2, _, h4, h5, h6⟩
  · rw [poolForFrame_eq_none_iff.2 hnm] at hm; cases hm
  · exact absurd hfr hf
  · exact ⟨bm', e, h2, h4, h5, h6⟩

/-- **ops_never_crash** — in a state satisfying the invariant `FreeFrame` does not index outside a
bitmap (the model's explicit `panic` result is unreachable).  The model of `AllocFrame` has no `panic`
result to exclude: the pool and the word it indexes are the ones its own scan found (`allocScan_some`,
`scanWords_some`). -/
theorem ops_never_crash (bm : Bitmap) (hI : Inv bm) (f : Nat) : (free bm f).2 ≠ .panic := by
  rcases free_spec hI f with ⟨_, e⟩ | ⟨_, e⟩ | ⟨_, _, _, e, _⟩ <;> rw [e] <;> exact fun h => nomatch h

/-- **init_error_paths** — when one of the two vmm seams fails, initialisation returns that error
(or out-of-memory if the early allocator runs dry first); it never reports success in that case. -/
theorem init_error_paths (m : List Region) (b : Boot) (mf : Option Nat) :
    (bitmapInit m b false mf).outcome = .reserveErr ∧
    ((metaPages m mf (requiredBytes (poolsOf m) / pageSize) 0 b).2 ≠ .ok →
      (bitmapInit m b true mf).outcome = .oom ∨ (bitmapInit m b true mf).outcome = .mapErr) := by
  refine ⟨rfl, fun h => ?_⟩
  rw [bitmapInit_outcome_of_fail m b mf h]
  rcases metaPages_cases m mf (requiredBytes (poolsOf m) / pageSize) 0 b with ⟨_, _, _, e⟩ | e | e
  · exact absurd (congrArg Prod.snd e) h
  · exact Or.inl e
  · exact Or.inr e.1

/-! ## Non-vacuity -/

def exMap : List Region :=
  [{ addr := 0x800, len := 0x3900, typ := 1 }, { addr := 0x5000, len := 0x1000, typ := 2 },
   { addr := 0x10000, len := 65 * 4096, typ := 1 }]

example : SortedMap exMap := by unfold SortedMap exMap; decide
example : KernelPlaced exMap 0x10000 0x12345 :=
  ⟨by decide, by decide, ⟨{ addr := 0x10000, len := 65 * 4096, typ := 1 }, by simp [exMap], by decide, by decide, by decide⟩⟩
example : nSum (poolsOf exMap) = 68 := by decide
example : (bitmapInit exMap (bootInit 0x10000 0x12345) true none).outcome = .ok := by decide
example : (bitmapInit exMap (bootInit 0x10000 0x12345) true none).bm.total -
    (bitmapInit exMap (bootInit 0x10000 0x12345) true none).bm.reserved = 64 := by decide

end Firefly.C03
