import Firefly.Proof.VmmSetup
import Firefly.Proof.VmmWindow
import Firefly.Proof.MemUtil
import Firefly.Proof.VmmMapFull
/-!
# C04 — Page-table operations implement exactly the requested address translation

"After any sequence of map, unmap, region-map and identity-map requests, translating a virtual
address yields the frame most recently mapped for its page plus the page offset, with exactly the
requested permission bits in the hardware entry, or reports it unmapped if the page was never mapped
or has been unmapped; translations of all other pages are unchanged, newly created page-table levels
start empty, and the TLB entry of every changed page is invalidated. Performing the operation on an
address space that is not active leaves the active one bit-for-bit as it was. If a frame for a new
page-table level cannot be allocated the operation returns that error and no other page's
translation changes."

Vocabulary (definitions in `Firefly/Proof/Vmm*.lean`, model in `Firefly/Model/Vmm.lean`):
`mmu`/`mmuWalk` is the hardware walk; `Window st R` says the recursive window of the active root
shows the address space rooted at `R`; `Chain m R va L T` says `T` is the level-`L` table of `va`'s
path; `Path m R va T1 T2 T3` says the three upper levels of `va` exist; `E va L` is the entry
address `walk` computes at level `L`; `kidx va L` the table index of `va` at level `L`.
-/
namespace Firefly.C04
open Firefly.Vmm Firefly.Gen.C04

/-- The entry addresses `walk` computes by its add / shift-left recurrence from `pdtVirtualAddr`, in
closed form, for every virtual address: level `L` has `4-L` leading index fields 511 (the recursive
slot), then the indices of `va` above level `L`, and byte offset `8 · index L`. -/
theorem recursive_window_addresses (va : W) :
    (E va 0).toNat = 2 ^ 64 - 2 ^ 12 + 8 * kidx va 0 ∧
    (E va 1).toNat = 2 ^ 64 - 2 ^ 21 + 2 ^ 12 * kidx va 0 + 8 * kidx va 1 ∧
    (E va 2).toNat = 2 ^ 64 - 2 ^ 30 + 2 ^ 21 * kidx va 0 + 2 ^ 12 * kidx va 1 + 8 * kidx va 2 ∧
    (E va 3).toNat = 2 ^ 64 - 2 ^ 39 + 2 ^ 30 * kidx va 0 + 2 ^ 21 * kidx va 1 + 2 ^ 12 * kidx va 2 + 8 * kidx va 3 :=
  ⟨E0_toNat va, E1_toNat va, E2_toNat va, E3_toNat va⟩

/-- **The recursive-mapping trick is sound.** If the active root's last entry points to `R` and `R`'s
last entry to itself, then for every `va` and level `L`: when `T` is the level-`L` table on `va`'s
path, the entry address computed by `walk` dereferences — through the hardware walk from CR3 — to
word `kidx va L` of exactly that table. -/
theorem recursive_window {st : St} {R : W} (hw : Window st R) (va : W) (L : Nat) (T : W) (hL : L ≤ 3)
    (hc : Chain st.mem R va L T) (hb : st.mem.backed (frameN T) = true) :
    ptePtr st (E va L) = some (frameN T, kidx va L) :=
  ptePtr_E hw va L T hL hc hb

/-- **Translate.** Through the window, `Translate va` returns exactly what the hardware finds when it
walks the tables of `R` (`frame·4096 + va mod 4096` of the leaf entry), or `ErrInvalidMapping` when a
level is not present; it changes nothing. (`Sane`: the tables on the path are RAM, no huge bits.) -/
theorem translate_correct {st : St} {R : W} (hw : Window st R) (va : W) (hs : Sane st.mem R va) :
    translate st va =
      .ok ((match mmuWalk st.mem va [39, 30, 21, 12] R with
            | some pa => (0, pa)
            | none => (eInvalidMapping, 0)), st) :=
  translate_eq_hw hw va hs

/-- `Map` on a page whose three upper levels exist, at the level of individual memory words: exactly
one word of physical memory changes, to `frame<<12 | flags`; the hardware's resulting translation of
the page; the flush list; no allocation.  (The general case is `map_refines`.) -/
theorem map_present_exact {st : St} {R T1 T2 T3 : W} (page frame flags : W) (hw : Window st R)
    (p : Path st.mem R (pageAddr page) T1 T2 T3)
    (hd : frameN T3 ≠ frameN R ∧ frameN T3 ≠ frameN T1 ∧ frameN T3 ≠ frameN T2)
    (hf : FrameOK frame) (hfl : FlagsOK flags)
    (hg : (st.protect && frame == st.zeroFrame && (flags &&& fRW) != 0) = false) :
    ∃ st', mapOp st page frame flags = .ok (0, st') ∧
      (∀ F j, st'.mem.rd F j =
        if F = frameN T3 ∧ j = kidx (pageAddr page) 3 then (frame <<< 12) ||| flags else st.mem.rd F j) ∧
      mmuWalk st'.mem (pageAddr page) [39, 30, 21, 12] R =
        (if flags &&& 1#64 = 0#64 then none else some ((frame <<< 12) + (pageAddr page &&& 0xfff#64))) ∧
      st'.flushes = st.flushes ++ [pageAddr page] ∧ st'.free = st.free ∧ st'.cr3 = st.cr3 := by
  refine ⟨_, mapOp_present page frame flags hw p hg, ?_, ?_, rfl, rfl, rfl⟩
  · intro F j
    simp only [St.flush, St.wrLoc, rd_wr', mkEntry_eq]
  · have := mmuWalk_leaf_written p (mkEntry frame flags) hd
    simp only [St.flush, St.wrLoc]
    rw [this, mkEntry_low 1#64 (by decide), mkEntry_frame hf hfl]

/-- **Allocation failure changes nothing.** The page's path exists down to level `L < 3`, the
level-`L` entry is empty and the allocator fails: `Map` returns the allocator's error and the state
(every word of memory, so every translation of every page) is exactly as before. -/
theorem map_alloc_failure {st : St} {R : W} (page frame flags : W) (hw : Window st R) (L : Nat) (hL : L < 3) (T : W)
    (hc : Chain st.mem R (pageAddr page) L T) (hb : st.mem.backed (frameN T) = true)
    (hp : st.mem.rd (frameN T) (kidx (pageAddr page) L) &&& 1#64 = 0#64)
    (hh : st.mem.rd (frameN T) (kidx (pageAddr page) L) &&& 128#64 = 0#64)
    (hf : st.free = [])
    (hg : (st.protect && frame == st.zeroFrame && (flags &&& fRW) != 0) = false) :
    mapOp st page frame flags = .ok (eAlloc, st) := by
  rw [mapOp_unguarded hg]
  exact walk_reach hw _ 0 (fun _ _ _ hL hp hh => mapCb_present hL hp hh) (by omega) hc hb (mapCb_allocfail hL hp hh hf) (Or.inl rfl)

/-- **Creating one new level** (any of the three upper levels, any state): `Map`'s callback links the
allocator's frame `f` with Present|RW into the empty level-`L` entry and clears *exactly* frame `f` —
the Memset address it computes from the entry's own virtual address resolves to `f` through the
window — the window stays intact and the path continues through the (empty) new table. -/
theorem map_new_level_step {st : St} {R : W} (va : W) (L : Nat) (hL : L < 3) (T : W) (hw : Window st R)
    (hc : Chain st.mem R va L T) (hb : st.mem.backed (frameN T) = true)
    (hp : st.mem.rd (frameN T) (kidx va L) &&& 1#64 = 0#64) (hh : st.mem.rd (frameN T) (kidx va L) &&& 128#64 = 0#64)
    {f : W} {rest : List W} (hf : st.free = f :: rest) (hfo : FrameOK f) (hfb : st.mem.backed f.toNat = true)
    (hA : f.toNat ≠ frameN (st.cr3 &&& hwMask)) (hR : f.toNat ≠ frameN R)
    (hfc : ∀ k T', k ≤ L → Chain st.mem R va k T' → f.toNat ≠ frameN T')
    (hlocA : ¬(frameN T = frameN (st.cr3 &&& hwMask) ∧ kidx va L = 511))
    (hlocR : ¬(frameN T = frameN R ∧ kidx va L = 511))
    (hlc : ∀ k T', k < L → Chain st.mem R va k T' → ¬(frameN T = frameN T' ∧ kidx va L = kidx va k))
    (page frame flags : W) (err : Nat) :
    mapCb page frame flags L (E va L) (frameN T, kidx va L) err st =
      .ok ((true, err), allocStep st f rest (frameN T, kidx va L)) ∧
    Window (allocStep st f rest (frameN T, kidx va L)) R ∧
    Chain (allocStep st f rest (frameN T, kidx va L)).mem R va (L + 1) (f <<< 12) ∧
    (∀ j, (allocStep st f rest (frameN T, kidx va L)).mem.rd f.toNat j = 0) :=
  have h := newLevel va L hL T hw hc hb hp hh hf hfo hfb hA hR hfc hlocA hlocR hlc page frame flags err
  ⟨h.1, h.2.1, ⟨T, Chain.map L T hc h.2.2.1, h.2.2.2⟩, fun j => by rw [rd_allocStep, if_pos rfl]; rfl⟩

/-- **`Map` creating the leaf table** (one new level, whole operation): the path exists down to the
level-2 table whose entry is empty, the allocator hands out a fresh frame `f`.  `Map` succeeds; `f`
is consumed; afterwards the hardware translates the page to `(frame, flags)`; the new table `f` is
empty except for the page's entry; the page is flushed. -/
theorem map_new_leaf_table {st : St} {R T1 T2 : W} (page frame flags : W) (hw : Window st R)
    (l0 : Link st.mem R (kidx (pageAddr page) 0) T1) (l1 : Link st.mem T1 (kidx (pageAddr page) 1) T2)
    (hb2 : st.mem.backed (frameN T2) = true)
    (hp : st.mem.rd (frameN T2) (kidx (pageAddr page) 2) &&& 1#64 = 0#64)
    (hh : st.mem.rd (frameN T2) (kidx (pageAddr page) 2) &&& 128#64 = 0#64)
    {f : W} {rest : List W} (hf : st.free = f :: rest) (hfo : FrameOK f) (hfb : st.mem.backed f.toNat = true)
    (hfd : f.toNat ≠ frameN (st.cr3 &&& hwMask) ∧ f.toNat ≠ frameN R ∧ f.toNat ≠ frameN T1 ∧ f.toNat ≠ frameN T2)
    (htd : frameN T2 ≠ frameN (st.cr3 &&& hwMask) ∧ frameN T2 ≠ frameN R ∧ frameN T2 ≠ frameN T1)
    (hfr : FrameOK frame) (hfl : FlagsOK flags)
    (hg : (st.protect && frame == st.zeroFrame && (flags &&& fRW) != 0) = false) :
    ∃ st', mapOp st page frame flags = .ok (0, st') ∧ st'.free = rest ∧
      st'.flushes = st.flushes ++ [pageAddr page] ∧
      mmuWalk st'.mem (pageAddr page) [39, 30, 21, 12] R =
        (if flags &&& 1#64 = 0#64 then none else some ((frame <<< 12) + (pageAddr page &&& 0xfff#64))) ∧
      (∀ j, j ≠ kidx (pageAddr page) 3 → st'.mem.rd f.toNat j = 0) := by
  obtain ⟨hm, hpath⟩ := mapOp_new_leaf_table page frame flags hw l0 l1 hb2 hp hh hf hfo hfb hfd htd hg
  have hfN : frameN (f <<< 12) = f.toNat := frameN_shl12 hfo
  refine ⟨_, hm, rfl, rfl, ?_, ?_⟩
  · have := mmuWalk_leaf_written hpath (mkEntry frame flags)
      (by rw [hfN]; exact ⟨hfd.2.1, hfd.2.2.1, hfd.2.2.2⟩)
    rw [hfN] at this
    simp only [St.flush, St.wrLoc]
    rw [this, mkEntry_low 1#64 (by decide), mkEntry_frame hfr hfl]
  · intro j hj
    simp only [St.flush, St.wrLoc, allocStep, rd_wr, rd_setFrame]
    rw [if_neg (fun h => hj h.2.symm)]
    simp

/-- **All other pages unchanged** by a store to one page-table word: the hardware translation of any
`va'` whose path never reads that word is the same before and after.  (With `map_present_exact` /
`unmap_refines`: the stored word is the leaf entry of the mapped page; in a tree of tables only the
page itself reads it.) -/
theorem other_pages_unchanged (m : Mem) (R : W) (F j : Nat) (v : W) (va' : W)
    (htop : m.rd (frameN R) (kidx va' 0) &&& 128#64 = 0#64)
    (hav : ∀ L T, L ≤ 3 → Chain m R va' L T → ¬(F = frameN T ∧ j = kidx va' L)) :
    mmuWalk (m.wr F j v) va' [39, 30, 21, 12] R = mmuWalk m va' [39, 30, 21, 12] R := by
  have hbk : ∀ f, (m.wr F j v).backed f = m.backed f := fun _ => rfl
  have rdeq : ∀ L T, L ≤ 3 → Chain m R va' L T →
      (m.wr F j v).rd (frameN T) (hwIdx va' (39 - 9 * L)) = m.rd (frameN T) (hwIdx va' (39 - 9 * L)) := by
    intro L T hL hc; rw [hwIdx_kidx, rd_wr, if_neg (hav L T hL hc)]
  refine Chain.down (P := fun L T => mmuWalk (m.wr F j v) va' (sh L) T = mmuWalk m va' (sh L) T) (fun T hc => ?_)
    (fun L T hL hc ih => ?_) (Nat.zero_le 3) (show Chain m R va' 0 R from rfl)
  · exact mmuWalk_last_congr hbk va' 12 T (rdeq 3 T (by omega) hc)
  · rw [sh_cons (by omega : L ≤ 3), sh_cons (by omega : L + 1 ≤ 3)]
    apply mmuWalk_cons_congr hbk va' _ _ _ T (rdeq L T (by omega) hc)
    intro hb hp hh
    rw [hwIdx_kidx] at hp hh ⊢
    -- the hardware ignores the huge bit of a top-level entry; a path needs it clear
    have hnh : m.rd (frameN T) (kidx va' L) &&& 128#64 = 0#64 := by
      cases L with
      | zero => cases hc; exact htop
      | succ L => exact hh (by omega)
    rw [← sh_cons (by omega : L + 1 ≤ 3)]
    exact ih _ ⟨hb, hp, hnh, rfl⟩

/-- **Unmap**, page present down to its leaf table: the present bit of the leaf entry is cleared
(every other bit of every word of memory is kept), the hardware no longer translates the page, the
page is flushed, nothing is allocated. -/
theorem unmap_refines {st : St} {R T1 T2 T3 : W} (page : W) (hw : Window st R)
    (p : Path st.mem R (pageAddr page) T1 T2 T3)
    (hd : frameN T3 ≠ frameN R ∧ frameN T3 ≠ frameN T1 ∧ frameN T3 ≠ frameN T2) :
    ∃ st', unmapOp st page = .ok (0, st') ∧
      (∀ F j, st'.mem.rd F j =
        if F = frameN T3 ∧ j = kidx (pageAddr page) 3 then st.mem.rd F j &&& ~~~1#64 else st.mem.rd F j) ∧
      mmuWalk st'.mem (pageAddr page) [39, 30, 21, 12] R = none ∧
      st'.flushes = st.flushes ++ [pageAddr page] ∧ st'.free = st.free := by
  refine ⟨_, unmapOp_present page hw p, ?_, ?_, rfl, rfl⟩
  · intro F j
    simp only [St.flush, St.wrLoc, rd_wr', clearFlags, show fPresent = 1#64 by decide]
    split
    · rename_i h; rw [h.1, h.2]
    · rfl
  · have := mmuWalk_leaf_written p (clearFlags (st.mem.rd (frameN T3) (kidx (pageAddr page) 3)) fPresent) hd
    simp only [St.flush, St.wrLoc]
    rw [this, if_pos (clearFlags_present_low _)]

/-- **Unmap of a page whose level `L < 3` is missing** reports `ErrInvalidMapping` and changes nothing. -/
theorem unmap_unmapped {st : St} {R : W} (page : W) (hw : Window st R) (L : Nat) (hL : L < 3) (T : W)
    (hc : Chain st.mem R (pageAddr page) L T) (hb : st.mem.backed (frameN T) = true)
    (hp : st.mem.rd (frameN T) (kidx (pageAddr page) L) &&& 1#64 = 0#64) :
    unmapOp st page = .ok (eInvalidMapping, st) :=
  walk_reach hw _ 0 (fun _ _ _ hL hp hh => unmapCb_present hL hp hh) (by omega) hc hb (unmapCb_absent hL hp) (Or.inl rfl)

/-- `PageDirectoryTable.Map` on an inactive table whose path for the page exists, word by word: every
word of physical memory except the leaf entry in the inactive table's own leaf table is bit-identical
afterwards (the active root's last entry has been swapped and restored); flushes: swapped entry,
page, restored entry.  (The general case is `inactive_leaves_active_bit_identical`.) -/
theorem inactive_present_exact {st : St} {A P T1 T2 T3 : W} (h : Inactive st A P)
    (page frame flags : W) (p : Path st.mem (P <<< 12) (pageAddr page) T1 T2 T3)
    (hd : A.toNat ≠ frameN T1 ∧ A.toNat ≠ frameN T2 ∧ A.toNat ≠ frameN T3)
    (hg : (st.protect && frame == st.zeroFrame && (flags &&& fRW) != 0) = false) :
    ∃ st', pdtMap st P page frame flags = .ok (0, st') ∧
      (∀ F j, ¬(F = frameN T3 ∧ j = kidx (pageAddr page) 3) → st'.mem.rd F j = st.mem.rd F j) ∧
      st'.mem.rd (frameN T3) (kidx (pageAddr page) 3) = mkEntry frame flags ∧
      st'.flushes = st.flushes ++ [frameAddr A + lastEntryOff, pageAddr page, frameAddr A + lastEntryOff] ∧
      st'.cr3 = st.cr3 := by
  obtain ⟨st', h1, h2, h3, h4⟩ := pdtMap_inactive_present h page frame flags p hd hg
  refine ⟨st', h1, ?_, ?_, h3, h4⟩
  · intro F j hne; rw [h2, if_neg hne]
  · rw [h2, if_pos ⟨rfl, rfl⟩]

/-- **map_refines — `Map` in every case.**  `Good st R own`: the tables reachable from `R` form a tree
(ghost map `own`), seen through the active root's recursive window, and the frames the allocator
will hand out are RAM, < 2^40, pairwise distinct and outside the tree.  For every such state, every
page outside the recursive slot, every frame and every flag word, `Map` never faults and:
* on success (code 0) the abstract address space is the old one updated at the page to the entry
  `frame<<12 | flags` (absent if the flags lack Present) — *all other pages unchanged* — and the
  flush list is `[page]`;
* on any error nothing is flushed and *no page's translation changes*; the error is the allocator's
  (the allocator is then empty — possibly after some new, empty levels were created) or the
  zero-frame guard's (state untouched);
* every table created by the call is all-zero except the entry on the page's path; memory outside
  the tree is untouched; the tree only grows, by frames taken from the front of the allocator;
  the state is `Good` again (so the statement composes over histories). -/
theorem map_refines {st : St} {R : W} {own : Own} (g : Good st R own) (page frame flags : W)
    (hu : UserVA (pageAddr page)) :
    ∃ code st' own', mapOp st page frame flags = .ok (code, st') ∧ Good st' R own' ∧
      (code = 0 → st'.flushes = st.flushes ++ [pageAddr page] ∧
        ∀ va', UserVA va' → hwEntry st'.mem R va' =
          if SamePage va' (pageAddr page) then
            (if mkEntry frame flags &&& 1#64 = 0#64 then none else some (mkEntry frame flags))
          else hwEntry st.mem R va') ∧
      (code ≠ 0 → st'.flushes = st.flushes ∧ (∀ va', UserVA va' → hwEntry st'.mem R va' = hwEntry st.mem R va') ∧
        ((code = eAlloc ∧ st'.free = []) ∨
         (code = eRWZero ∧ st' = st ∧ st.protect = true ∧ frame = st.zeroFrame ∧ (flags &&& fRW) ≠ 0))) ∧
      (∀ F L pre j, own F = none → own' F = some (L, pre) → st'.mem.rd F j ≠ 0#64 → j = kidx (pageAddr page) L) ∧
      (∀ F j, own' F = none → st'.mem.rd F j = st.mem.rd F j) ∧
      (∀ F x, own F = some x → own' F = some x) ∧ (∃ used, st.free = used ++ st'.free) ∧ SameRegs st st' := by
  obtain ⟨code, st', own', h1, post, out⟩ := mapOp_full g page frame flags hu
  refine ⟨code, st', own', h1, post.good, ?_, ?_, post.newz, fun F j h => post.foot F j h id, post.ext, post.sub, post.regs⟩
  · intro hc
    rcases out with (⟨_, h2, h3⟩ | ⟨h1', _⟩) | ⟨h1', _⟩
    · exact ⟨h2, h3⟩
    · rw [h1'] at hc; simp [eAlloc] at hc
    · rw [h1'] at hc; simp [eRWZero] at hc
  · intro hc
    rcases out with (⟨h1', _⟩ | ⟨h1', h2, h3, h4⟩) | ⟨h1', h2, h3, h4, h5⟩
    · exact absurd h1' hc
    · exact ⟨h3, h4, Or.inl ⟨h1', h2⟩⟩
    · subst h2; exact ⟨rfl, fun _ _ => rfl, Or.inr ⟨h1', rfl, h3, h4, h5⟩⟩

/-- **unmap_full — `Unmap` in every case**: either the page's leaf table exists — then the present bit
of its entry is cleared, the page is absent afterwards, all other pages are unchanged, the page is
flushed, nothing is allocated and memory outside the tree is untouched — or a level is missing — then
`ErrInvalidMapping` is returned, the page was already absent and the state is unchanged. -/
theorem unmap_full {st : St} {R : W} {own : Own} (g : Good st R own) (page : W) (hu : UserVA (pageAddr page)) :
    ∃ code st', unmapOp st page = .ok (code, st') ∧
      ((code = 0 ∧ Good st' R own ∧ SameRegs st st' ∧ st'.free = st.free ∧
          st'.flushes = st.flushes ++ [pageAddr page] ∧
          (∀ F j, own F = none → st'.mem.rd F j = st.mem.rd F j) ∧
          (∀ F L pre j, own F = some (L, pre) → st'.mem.rd F j ≠ st.mem.rd F j →
            L = 3 ∧ pre = idxs (pageAddr page) 3 ∧ j = kidx (pageAddr page) 3) ∧
          ∀ va', UserVA va' → hwEntry st'.mem R va' =
            if SamePage va' (pageAddr page) then none else hwEntry st.mem R va') ∨
       (code = eInvalidMapping ∧ st' = st ∧ hwEntry st.mem R (pageAddr page) = none)) :=
  unmapOp_full g page hu

/-- **Translate, abstractly**: for every address outside the recursive slot, `Translate` returns the
abstract entry's frame address plus the page offset, or `ErrInvalidMapping` if the page is absent,
and changes nothing. -/
theorem translate_abstract {st : St} {R : W} {own : Own} (g : Good st R own) (va : W) (hu : UserVA va) :
    translate st va =
      .ok ((match hwEntry st.mem R va with
            | some e => (0, (e &&& hwMask) + (va &&& 0xfff#64))
            | none => (eInvalidMapping, 0)), st) :=
  translate_abs g va hu

/-- **history — every sequence of `Map` / `Unmap` requests.**  From every well-formed state, for every
list of requests on pages outside the recursive slot (any frames, any flags, allocator running out
anywhere): no request faults, the state stays well formed, and the address space the hardware sees
afterwards is the fold of the abstract updates (`absStep`): the most recent successful `Map` of a
page wins, a page unmapped or never mapped is absent, a request never affects another page, a failed
request affects nothing. -/
theorem history {R : W} (ops : List Op) (st : St) (own : Own) (g : Good st R own)
    (hu : ∀ op ∈ ops, UserVA (pageAddr op.page)) :
    ∃ codes st' own', runOps st ops = .ok (codes, st') ∧ codes.length = ops.length ∧ Good st' R own' ∧
      SameRegs st st' ∧
      ∀ va', UserVA va' → hwEntry st'.mem R va' = absRun (hwEntry st.mem R) ops codes va' := by
  induction ops generalizing st own with
  | nil => exact ⟨[], st, own, rfl, rfl, g, SameRegs.refl _, fun _ _ => rfl⟩
  | cons op ops ih =>
    obtain ⟨c, st1, own1, h1, g1, gr1, _, a1⟩ := runOp_refines op (hu op List.mem_cons_self) st own g
    obtain ⟨cs, st2, own2, h2, hl, g2, r2, a2⟩ := ih st1 own1 g1 (fun o ho => hu o (List.mem_cons_of_mem _ ho))
    refine ⟨c :: cs, st2, own2, ?_, by simp [hl], g2, gr1.regs.trans r2, fun va' hu' => ?_⟩
    · simp only [runOps, h1, h2]
    · rw [a2 va' hu']
      simp only [absRun]
      exact absRun_congr_at ops cs va' (a1 va' hu')

/-- the fold is decided from the end: the last request on a page determines its entry -/
theorem history_last_wins (as : AS) (ops : List Op) (cs : List Nat) (op : Op) (c : Nat) (h : cs.length = ops.length) :
    absRun as (ops ++ [op]) (cs ++ [c]) = absStep (absRun as ops cs) op c := by
  induction ops generalizing as cs with
  | nil => cases cs with
    | nil => rfl
    | cons _ _ => simp at h
  | cons o ops ih =>
    cases cs with
    | nil => simp at h
    | cons c' cs => simp only [List.cons_append, absRun]; exact ih _ cs (by simpa using h)

/-- **inactive_leaves_active_bit_identical — `PageDirectoryTable.Map` on a table that is not active,
every case.**  `Dual st A P ownA ownP`: the active address space (root frame `A`) and the inactive one
(root frame `P`) are both well formed and share no table; the allocator's frames belong to neither.
Then for every page outside the recursive slot, every frame and flags, whatever number of new levels
the call creates and wherever the allocator fails: the call never faults; *every word of memory that
is not part of the inactive table's own tree is bit-identical afterwards* — all tables of the active
address space, the active root's last entry (swapped and restored) included; CR3 is unchanged; the
inactive address space changes exactly as `map_refines` says; flushes are swapped entry, (page,)
restored entry; both address spaces are again well formed and disjoint. -/
theorem inactive_leaves_active_bit_identical {st : St} {A P : W} {ownA ownP : Own} (d : Dual st A P ownA ownP)
    (page frame flags : W) (hu : UserVA (pageAddr page)) :
    ∃ code st' ownP', pdtMap st P page frame flags = .ok (code, st') ∧ Dual st' A P ownA ownP' ∧
      (∀ F x, ownP F = some x → ownP' F = some x) ∧
      (∀ F j, ownP' F = none → st'.mem.rd F j = st.mem.rd F j) ∧
      (∀ F x, ownA F = some x → ∀ j, st'.mem.rd F j = st.mem.rd F j) ∧
      SameRegs st st' ∧ (∃ used, st.free = used ++ st'.free) ∧
      PdtOutcome st st' A P (pageAddr page) (mkEntry frame flags) code frame flags := by
  obtain ⟨code, st', ownP', h1, d', gr, out⟩ := pdtMap_full d page frame flags hu
  exact ⟨code, st', ownP', h1, d', gr.ext, fun F j h => gr.foot F j h id, fun _ _ hF j => d'.active_rd gr hF j,
    gr.regs, gr.sub, out⟩

/-- the same for `PageDirectoryTable.Unmap` on an inactive table: no fault, every word outside the
inactive tree (all active tables, entry 511 swapped and restored) bit-identical, the inactive address
space loses the page or `ErrInvalidMapping` is returned and nothing changes. -/
theorem inactive_unmap_leaves_active_bit_identical {st : St} {A P : W} {ownA ownP : Own}
    (d : Dual st A P ownA ownP) (page : W) (hu : UserVA (pageAddr page)) :
    ∃ code st', pdtUnmap st P page = .ok (code, st') ∧ Dual st' A P ownA ownP ∧
      (∀ F j, ownP F = none → st'.mem.rd F j = st.mem.rd F j) ∧ SameRegs st st' ∧ st'.free = st.free ∧
      ((code = 0 ∧ ∀ va', UserVA va' → hwEntry st'.mem (P <<< 12) va' =
          if SamePage va' (pageAddr page) then none else hwEntry st.mem (P <<< 12) va') ∨
       (code = eInvalidMapping ∧ hwEntry st.mem (P <<< 12) (pageAddr page) = none ∧
          ∀ va', UserVA va' → hwEntry st'.mem (P <<< 12) va' = hwEntry st.mem (P <<< 12) va')) := by
  have g1 := d.good_swapped
  obtain ⟨code, st2, hm, out⟩ := unmapOp_full g1 page hu
  have post : Good st2 (P <<< 12) ownP ∧ Grow (swapSt st A P) st2 ownP ownP ∧ st2.free = st.free := out.grow g1
  obtain ⟨h1, h2, h3, hin, hout⟩ := withPdt_core d (fun s => unmapOp s page) hm post.1 post.2.1
  refine ⟨code, restoreSt st2 A, h1, h2, fun F j h => h3.foot F j h id, h3.regs, post.2.2, ?_⟩
  rcases out with ⟨rfl, _, _, _, _, _, _, f3⟩ | ⟨rfl, rfl, f3⟩
  · left; exact ⟨rfl, fun va' hu' => by rw [hout va' hu', f3 va' hu', hin va' hu']⟩
  · right
    refine ⟨rfl, ?_, fun va' hu' => by rw [hout va' hu', hin va' hu']⟩
    rw [← hin _ hu]; exact f3

/-- **Region mapping maps exactly the pages of the region**: the page loop of `MapRegion` /
`IdentityMapRegion` is `Map` applied, in order, to `n` consecutive pages paired with `n` consecutive
frames (stopping at the first error), and `n = ⌈size / 4096⌉`. -/
theorem region_pages (flags : W) (n : Nat) (page frame : W) (st : St) :
    mapLoop flags n page frame st = seqMap flags (run page frame n) st ∧
    (run page frame n).length = n ∧
    (∀ i, i < n → (run page frame n)[i]? = some (page + BitVec.ofNat 64 i, frame + BitVec.ofNat 64 i)) ∧
    (∀ size : W, roundWraps size = false → (roundUp size >>> pageShift).toNat = (size.toNat + 4095) / 4096) :=
  ⟨mapLoop_eq_seqMap flags n page frame st, run_length page frame n, fun i hi => run_get page frame n i hi,
    roundUp_pages⟩

/-- **region_refines — the page loop of `MapRegion` / `IdentityMapRegion` at the level of address
spaces** (with `region_pages`: that loop is `seqMap` over `n = ⌈size/4096⌉` consecutive pages and
frames): it never faults, the address space stays well formed, and afterwards it is the old address
space with the first `k` requests applied in order — `k` is all of them on success; on the
allocator's (or the guard's) error the pages before the failing one are mapped and nothing else
changed. -/
theorem region_refines {R : W} (fl : W) (l : List (W × W)) (st : St) (own : Own) (g : Good st R own)
    (hu : ∀ x ∈ l, UserVA (pageAddr x.1)) :
    ∃ code st' own' k, seqMap fl l st = .ok (code, st') ∧ Good st' R own' ∧ SameRegs st st' ∧ k ≤ l.length ∧
      (∀ F x, own F = some x → own' F = some x) ∧
      (∀ F j, own' F = none → st'.mem.rd F j = st.mem.rd F j) ∧
      (∀ va', UserVA va' → hwEntry st'.mem R va' = applyCalls (hwEntry st.mem R) (withFlags fl (l.take k)) va') ∧
      (code = 0 → k = l.length) ∧ (code ≠ 0 → code = eAlloc ∨ code = eRWZero) := by
  obtain ⟨code, st', own', k, h, g', gr, rest⟩ := seqMap_full fl l st own g hu
  exact ⟨code, st', own', k, h, g', gr.regs, rest.1, gr.ext, fun F j h => gr.foot F j h id, rest.2⟩

/-- **pdt_init_refines — `PageDirectoryTable.Init` of a fresh frame** (RAM, < 2^40, not a table, not in
the allocator, not the active root; temporary mapping not refused): either the temporary mapping
cannot get its tables (allocator error returned, CR3 unchanged), or `P` becomes a well-formed, empty
address space (one all-zero table whose last entry maps itself, Present|RW) disjoint from the active
one, whose entries are unchanged except that the temporary page ends unmapped. -/
theorem pdt_init_refines {st : St} {A P : W} {ownA : Own} (g : Good st (A <<< 12) ownA) (hcr3 : st.cr3 = A <<< 12)
    (hfa : FrameOK A) (hfo : FrameOK P) (hpb : st.mem.backed P.toNat = true) (hpn : ownA P.toNat = none)
    (hpf : ∀ f ∈ st.free, f.toNat ≠ P.toNat) (hpa : P.toNat ≠ A.toNat) (htf : st.tmpFail = false)
    (hz : (st.protect && P == st.zeroFrame) = false) :
    ∃ code st', pdtInit st P = .ok (code, st') ∧
      ((code = 0 ∧ ∃ ownA', InitPost st st' A P ownA ownA') ∨
       (code = eAlloc ∧ st'.free = [] ∧ st'.cr3 = st.cr3)) :=
  pdtInit_full g hcr3 hfa hfo hpb hpn hpf hpa htf hz

/-! ## `kernel.Memset` / `kernel.Memcopy` (mem_util.go) — inside the model, not assumed -/

/-- **memset_fills.** `Memset` as written (`target[0] = value`, then doubling `copy` calls with a 64-bit
index), for every memory, address, value and every size ≤ 2^63: it terminates; exactly the `size`
bytes at `addr` become `value`; every other byte is unchanged; the loop body runs `it` times with
`2^(it-1) < size ≤ 2^it` — ⌈log2 size⌉ doublings, at most 63.  (`size = 0`: nothing happens.) -/
theorem memset_fills (mem : Firefly.MemUtil.Bytes) (addr : Nat) (v : Firefly.MemUtil.Byte) (size : BitVec 64)
    (hs : size.toNat ≤ 2 ^ 63) :
    ∃ mem' it, Firefly.MemUtil.memset mem addr v size = .done mem' it ∧
      (∀ i, mem' i = if addr ≤ i ∧ i < addr + size.toNat then v else mem i) ∧
      (size ≠ 0 → size.toNat ≤ 2 ^ it ∧ (it ≠ 0 → 2 ^ (it - 1) < size.toNat)) ∧ it ≤ 63 :=
  Firefly.MemUtil.memset_fills_core mem addr v size hs

/-- the domain bound is sharp: for `size = 2^63 + 1` the index wraps to 0 and the loop never ends -/
theorem memset_needs_size_le_2_63 :
    (match Firefly.MemUtil.memset (fun _ => 0) 0 0 (BitVec.ofNat 64 (2 ^ 63 + 1)) with
      | .hang => true | .done _ _ => false) = true := by
  decide

/-- **memcopy_copies.** `Memcopy(src, dst, size)`: the `size` bytes at `dst` become the bytes that were at
`src` (Go's `copy` reads the source first), every other byte is unchanged; `size = 0`: nothing. -/
theorem memcopy_copies (mem : Firefly.MemUtil.Bytes) (src dst : Nat) (size : BitVec 64) (i : Nat) :
    Firefly.MemUtil.memcopy mem src dst size i =
      if dst ≤ i ∧ i < dst + size.toNat then mem (src + (i - dst)) else mem i :=
  Firefly.MemUtil.memcopy_copies_core mem src dst size i

/-- **clearTable_eq_memset.** The model's "clear frame `f`" step — what `map_refines`' "new tables are
all-zero", `pdt_init_refines` and `reserve_zeroed_frame` rest on — *is* `Memset(f·4096, 0, 4096)` as
written, applied to the byte view of the model's memory: it terminates after 12 doublings and the two
memories agree on every byte. -/
theorem clearTable_eq_memset (m : Mem) (f : Nat) :
    ∃ mem' it, Firefly.MemUtil.memset (byteView m) (f * 4096) 0 4096#64 = .done mem' it ∧ it = 12 ∧
      ∀ pa, mem' pa = byteView (m.setFrame f (fun _ => 0)) pa :=
  Firefly.Vmm.clearTable_eq_memset m f

/-- **flags_architectural.** The kernel's flag constants and frame mask, as regenerated from the compiled
package, are the x86-64 page-table entry bits — stated against *literals*, so a constant that drifts
(e.g. an alias inserted into the `iota` block) breaks this theorem: Present bit 0, RW 1, User 2,
WriteThrough 3, NoCache 4, Accessed 5, Dirty 6, HugePage 7, Global 8, CopyOnWrite 9 (software),
NoExecute 63, frame field bits 12–51; 4 levels of 9 bits at shifts 39/30/21/12. -/
theorem flags_architectural :
    Firefly.Gen.C04.flagPresent = 2 ^ 0 ∧ Firefly.Gen.C04.flagRW = 2 ^ 1 ∧
    Firefly.Gen.C04.flagUserAccessible = 2 ^ 2 ∧ Firefly.Gen.C04.flagWriteThroughCaching = 2 ^ 3 ∧
    Firefly.Gen.C04.flagDoNotCache = 2 ^ 4 ∧ Firefly.Gen.C04.flagAccessed = 2 ^ 5 ∧
    Firefly.Gen.C04.flagDirty = 2 ^ 6 ∧ Firefly.Gen.C04.flagHugePage = 2 ^ 7 ∧
    Firefly.Gen.C04.flagGlobal = 2 ^ 8 ∧ Firefly.Gen.C04.flagCopyOnWrite = 2 ^ 9 ∧
    Firefly.Gen.C04.flagNoExecute = 2 ^ 63 ∧ Firefly.Gen.C04.ptePhysPageMask = 0x000ffffffffff000 ∧
    Firefly.Gen.C04.pageLevels = 4 ∧ Firefly.Gen.C04.pageLevelBits = [9, 9, 9, 9] ∧
    Firefly.Gen.C04.pageLevelShifts = [39, 30, 21, 12] ∧ Firefly.Gen.C04.pageShift = 12 := by decide

/-- D13 (domain boundary): `SetFrame` does not mask the frame number: frame 2^40 spills into bit 52
and the hardware frame field reads 0.  Frame numbers < 2^40 (`FrameOK`) are a hypothesis above. -/
theorem setframe_needs_40_bits :
    frameOf (setFrame 0 (w (2 ^ 40))) = 0 ∧ setFrame 0 (w (2 ^ 40)) &&& ~~~physMask ≠ 0 := by decide

/-! ## non-vacuity: a concrete state with a recursive root and a mapped path -/

/-- root = frame 1 (entry 511 → itself, entry 0 → frame 2), frame 2 [0] → 3, frame 3 [0] → 4 -/
def exSt : St :=
  { mem := { base := 0, n := 16,
             log := [.word 1 511 0x1003#64, .word 1 0 0x2003#64, .word 2 0 0x3003#64, .word 3 0 0x4003#64] },
    cr3 := 0x1000#64 }

example : Window exSt 0x1000#64 :=
  ⟨⟨by decide, by decide, by decide, by decide⟩, ⟨by decide, by decide, by decide, by decide⟩⟩
example : Path exSt.mem 0x1000#64 (pageAddr 0) 0x2000#64 0x3000#64 0x4000#64 :=
  ⟨⟨by decide, by decide, by decide, by decide⟩, ⟨by decide, by decide, by decide, by decide⟩,
   ⟨by decide, by decide, by decide, by decide⟩, by decide⟩
example : FrameOK 77#64 ∧ FlagsOK 3#64 := by unfold FrameOK FlagsOK; decide
example : (mapOp exSt 0 77#64 3#64).toOption.map (·.1) = some 0 := by decide


/-- the hypothesis of `map_refines` / `history` holds of the boot state (`Proof/VmmMapFull.lean`): every
history from boot is covered -/
example : Good bootSt 0x1000#64 bootOwn := boot_good

example : UserVA (pageAddr 0x12345#64) := by unfold UserVA; decide

end Firefly.C04
