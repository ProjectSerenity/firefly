import Firefly.Spec.C16
import Firefly.Proof.RingLemmas
import Firefly.Proof.PrefixLemmas
import Firefly.Proof.HalLemmas
/-!
# C16 — Device bring-up: ordered probing, first console/TTY win, no boot log lost

Statement (properties.jsonl): drivers are probed in non-decreasing detection order whatever order
they were registered in; a driver whose initialisation fails is reported on the log and never
becomes active, and only the first console and first terminal to initialise become the active pair.
Whichever of the two comes up first, the terminal ends up attached to the console, active, and
receiving kernel log output, and everything logged before that moment (up to the early buffer's
capacity, oldest dropped first) appears on it exactly once, in order, ahead of later output.

Models: `Model/Ring.lean` (kfmt/ringbuf.go + the drain of SetOutputSink), `Model/Prefix.lean`
(kfmt/prefix_writer.go), `Model/Hal.lean` (hal/hal.go). `sort.Sort` is the parameter `sort`,
assumed (`SortedPerm`) to return a permutation in non-decreasing detection order; the harness
checks that assumption on every run. All theorems quantify over every ring start position, every
driver list, every failing subset and every chunking of the log output before and after.
-/
namespace Firefly.C16
open Firefly.Ring Firefly.Prefix Firefly.Hal Firefly.C16.Spec

/-- **ring_is_last_N** — for every history of writes and partial reads (any read-buffer sizes)
starting from an empty ring at any index, (1) every read returned exactly the oldest unread bytes
of the plain "keep the last `cap` bytes" queue, and (2) draining afterwards with *any* positive
buffer size yields exactly that queue's content — the not-yet-read suffix of the written stream
truncated to its last `ringBufferSize-1` bytes, in order — and leaves the ring empty. -/
theorem ring_is_last_N (p : Nat) (hp : p < N) (ops : List RingOp) (k : Nat) (hk : 0 < k) :
    let run := runRing (emptyAt p) ops
    let spec := runQueue [] ops (run.2.map List.length)
    (run.1.drain k (N + 1)).1 = spec.1 ∧ run.2 = spec.2 ∧ (run.1.drain k (N + 1)).2.contents = [] := by
  intro run spec
  obtain ⟨h1, h2, h3⟩ := runRing_refines ops (emptyAt p) (emptyAt_wf p hp)
  rw [emptyAt_contents] at h2 h3
  obtain ⟨d1, d2, _⟩ := drain_spec k hk (N + 1) run.1 h1 (len_lt_succ_N _ h1)
  exact ⟨d1.trans h2, h3, d2⟩

/-- only writes, then `SetOutputSink`'s drain: the sink receives the last `cap` bytes written -/
theorem ring_writes_then_drain (p : Nat) (hp : p < N) (chunks : List (List UInt8)) (k : Nat) (hk : 0 < k) :
    ((chunks.foldl Ring.write (emptyAt p)).drain k (N + 1)).1 = lastN cap chunks.flatten := by
  have hwf := write_wf (emptyAt p) chunks.flatten (emptyAt_wf p hp)
  rw [foldl_write, (drain_spec k hk (N + 1) _ hwf (len_lt_succ_N _ hwf)).1,
    write_contents _ _ (emptyAt_wf p hp), emptyAt_contents, List.nil_append]

/-- a read never returns more than the buffer holds, makes progress whenever it can, and reports
EOF exactly when nothing is unread -/
theorem ring_read_bounded (rb : Ring) (h : rb.WF) (k : Nat) :
    (rb.read k).out.length ≤ k ∧ (0 < k → rb.contents ≠ [] → (rb.read k).out ≠ []) ∧
    ((rb.read k).eof = true ↔ rb.contents = []) := by
  have r := read_spec rb k h
  refine ⟨r.length ▸ r.le, ?_, r.eof_iff⟩
  intro hk hne he
  have := r.progress hk hne
  rw [← r.length, he] at this
  simp at this

/-- the compiled buffer size is a power of two (the code masks indices with `size-1`) and one slot stays free -/
theorem ring_capacity : N = 2 ^ Firefly.Gen.C16.ringBufferBits ∧ cap + 1 = N :=
  ⟨N_eq_pow, by have := N_ge_two; unfold cap; omega⟩

/-- **prefix_lines** — for every sequence of `Write`s (every chunking) the sink sees the input with
the prefix in front of the first byte of every line and nowhere else, and the writer ends at a line
start exactly when the input so far ends with a newline. -/
theorem prefix_lines (pw : PW) (ps : List (List UInt8)) :
    (pwStream pw ps).1 = prefixStream pw.pfx pw.atStart ps.flatten ∧
    (pwStream pw ps).2.atStart = lineState pw.atStart ps.flatten ∧
    (pwStream pw ps).2.pfx = pw.pfx :=
  pwStream_spec pw ps

theorem prefix_chunking_irrelevant (pw : PW) (ps qs : List (List UInt8)) (h : ps.flatten = qs.flatten) :
    (pwStream pw ps).1 = (pwStream pw qs).1 := by
  rw [(prefix_lines pw ps).1, (prefix_lines pw qs).1, h]

/-- `Write` reports the number of input bytes, not counting prefixes -/
theorem prefix_write_count (pw : PW) (p : List UInt8) : (pw.write p).n = p.length := by
  unfold PW.write; simp [(loop_spec ..).2.2]

/-- **probe_order** — whatever the registration order, `Probe` is called once per registered driver,
in the order `sort.Sort` produced, hence in non-decreasing detection order; `DriverInit` is called
exactly for the drivers whose probe found hardware, in the same order. -/
theorem probe_order (sort : List Driver → List Driver) (p : Nat) (hp : p < N) (before after : List (List UInt8))
    (regs : List Driver) (hs : SortedPerm regs (sort regs)) :
    let st := bringUp sort p before regs after
    st.probes = (sort regs).map (·.id) ∧
    (st.probes).Perm (regs.map (·.id)) ∧
    (sort regs).Pairwise (fun a b => a.order ≤ b.order) ∧
    st.inits = ((sort regs).filter (·.probeOk)).map (·.id) := by
  have b := bringUp_spec sort p hp before regs after
  exact ⟨b.probes, b.probes ▸ hs.1.map _, hs.2, b.inits⟩

/-- **first_wins** — the active console / TTY are the first console / TTY in probe order whose probe
and initialisation both succeeded (none if there is none), and the active-driver list is exactly the
drivers that came up, in probe order. -/
theorem first_wins (sort : List Driver → List Driver) (p : Nat) (hp : p < N) (before after : List (List UInt8))
    (regs : List Driver) :
    let st := bringUp sort p before regs after
    st.activeConsole = (firstOf .console (sort regs)).map (·.id) ∧
    st.activeTTY = (firstOf .tty (sort regs)).map (·.id) ∧
    st.activeDrivers = activeIds (sort regs) := by
  have b := bringUp_spec sort p hp before regs after
  exact ⟨b.console, b.tty, b.drivers⟩

/-- **failed_never_active** — every active driver, the active console and the active TTY are
registered drivers whose probe and initialisation succeeded (so a driver that failed either is in
none of them), and every initialisation failure is on the log as `init failed: <msg>\n`, each of
its lines behind that driver's prefix. -/
theorem failed_never_active (sort : List Driver → List Driver) (p : Nat) (hp : p < N)
    (before after : List (List UInt8)) (regs : List Driver) (hs : SortedPerm regs (sort regs)) :
    let st := bringUp sort p before regs after
    (∀ i ∈ st.activeDrivers, ∃ d ∈ regs, d.id = i ∧ succ d = true) ∧
    (∀ i, st.activeConsole = some i → ∃ d ∈ regs, d.id = i ∧ succ d = true ∧ d.kind = .console) ∧
    (∀ i, st.activeTTY = some i → ∃ d ∈ regs, d.id = i ∧ succ d = true ∧ d.kind = .tty) ∧
    (∀ d ∈ regs, d.probeOk = true → ∀ msg, d.initErr = some msg →
      ∃ pre post s, st.logged = pre ++ prefixStream (halPrefix d) s (ascii "init failed: " ++ msg ++ [10]) ++ post) := by
  intro st
  have b := bringUp_spec sort p hp before regs after
  have hmem : ∀ d, d ∈ sort regs → d ∈ regs := fun d h => hs.1.mem_iff.1 h
  have first : ∀ k (o : Option Nat), o = (firstOf k (sort regs)).map (·.id) → ∀ i, o = some i →
      ∃ d ∈ regs, d.id = i ∧ succ d = true ∧ d.kind = k := by
    intro k o ho i hi
    rw [ho, Option.map_eq_some_iff] at hi
    obtain ⟨d, hf, rfl⟩ := hi
    exact ⟨d, hmem d (firstOf_some hf).1, rfl, (firstOf_some hf).2⟩
  refine ⟨?_, first _ _ b.console, first _ _ b.tty, ?_⟩
  · intro i hi
    rw [b.drivers] at hi
    simp only [activeIds, List.mem_map, List.mem_filter] at hi
    obtain ⟨d, ⟨hd, hsu⟩, rfl⟩ := hi
    exact ⟨d, hmem d hd, rfl, hsu⟩
  · intro d hd hpo msg hmsg
    have hd' : d ∈ sort regs := hs.1.mem_iff.2 hd
    obtain ⟨l1, l2, hl⟩ := List.append_of_mem hd'
    have hlog : driverLog d = prefixStream (halPrefix d) true d.initLog.flatten ++
        prefixStream (halPrefix d) (lineState true d.initLog.flatten) (ascii "init failed: " ++ msg ++ [10]) := by
      simp only [driverLog, hpo, if_true, tailOf, hmsg]
      rw [prefixStream_append]
    refine ⟨before.flatten ++ (l1.map driverLog).flatten ++ prefixStream (halPrefix d) true d.initLog.flatten,
      (l2.map driverLog).flatten ++ after.flatten, lineState true d.initLog.flatten, ?_⟩
    rw [b.logged, hl]
    simp only [List.map_append, List.map_cons, List.flatten_append, List.flatten_cons, hlog, List.append_assoc]

/-- **linked_both_orders** — if some console and some TTY come up — in either order — then at the
end the first such TTY is the kernel's output sink, is attached to the first such console and is in
the Active state; if either is missing, output still goes to the early buffer and no TTY was touched. -/
theorem linked_both_orders (sort : List Driver → List Driver) (p : Nat) (hp : p < N)
    (before after : List (List UInt8)) (regs : List Driver) :
    let st := bringUp sort p before regs after
    (∀ c t, firstOf .console (sort regs) = some c → firstOf .tty (sort regs) = some t →
      st.sink = some t.id ∧ st.activeTTY = some t.id ∧ st.ttyAttached = some c.id ∧ st.ttyState = stateActive) ∧
    ((firstOf .console (sort regs) = none ∨ firstOf .tty (sort regs) = none) →
      st.sink = none ∧ st.ttyAttached = none ∧ st.ttyState = stateInactive ∧ st.ttyRecv = []) := by
  intro st
  have b := bringUp_spec sort p hp before regs after
  refine ⟨?_, ?_⟩
  · intro c t hc ht
    have hs : st.sink = some t.id := by rw [b.inv.sink, b.console, b.tty, hc, ht]; rfl
    obtain ⟨a1, a2, _, _⟩ := b.inv.linked hs
    refine ⟨hs, by rw [b.tty, ht]; rfl, ?_, a2⟩
    rw [a1, b.console, hc]; rfl
  · intro h
    have hs : st.sink = none := by
      rw [b.inv.sink, b.console, b.tty]
      rcases h with h | h <;> rw [h] <;> simp
    obtain ⟨n1, _, _, n4, n5⟩ := b.inv.unlinked hs
    exact ⟨hs, n4, n5, n1⟩

/-- **log_exactly_once** — the log as a whole is the output before bring-up, then every probed
driver's output line-prefixed in probe order, then the output after; if the pair was linked at the
moment `n` bytes had been logged, the terminal received exactly (the last `ringBufferSize-1` of
those `n` bytes) ++ (every byte logged later) — each once, in order — and the early buffer is empty;
if no pair came up, no terminal received anything and the early buffer still holds the last
`ringBufferSize-1` bytes of the log. Holds for every chunking of all three phases. -/
theorem log_exactly_once (sort : List Driver → List Driver) (p : Nat) (hp : p < N)
    (before after : List (List UInt8)) (regs : List Driver) :
    let st := bringUp sort p before regs after
    st.logged = before.flatten ++ ((sort regs).map driverLog).flatten ++ after.flatten ∧
    (∀ t, st.sink = some t → ∃ n, st.linkedAt = some n ∧ n ≤ st.logged.length ∧
      st.ttyRecv = ttyStream (st.logged.take n) (st.logged.drop n) ∧ st.ring.contents = []) ∧
    (st.sink = none → st.ttyRecv = [] ∧ st.ring.contents = lastN cap st.logged) := by
  have b := bringUp_spec sort p hp before regs after
  refine ⟨b.logged, fun t ht => ?_, fun hs => ?_⟩
  · obtain ⟨_, _, a3, n, a4, a5, a6⟩ := b.inv.linked ht
    exact ⟨n, a4, a5, a6, a3⟩
  · obtain ⟨n1, _, n3, _, _⟩ := b.inv.unlinked hs
    exact ⟨n1, n3⟩

/-- **attached_once** — the terminal is attached (`AttachTo`) and activated (`SetState(Active)`)
exactly once, at the link, and never again — however many further consoles and terminals initialise
afterwards — and not at all if no pair comes up. (`tty.VT.AttachTo` re-allocates a blank buffer and
homes the cursor, so a second attach would make the terminal forget the boot log.) -/
theorem attached_once (sort : List Driver → List Driver) (p : Nat) (hp : p < N)
    (before after : List (List UInt8)) (regs : List Driver) :
    let st := bringUp sort p before regs after
    st.ttyAttachCalls = (if st.sink.isSome then 1 else 0) ∧
    st.ttySetStateCalls = (if st.sink.isSome then 1 else 0) :=
  (bringUp_spec sort p hp before regs after).inv.once

/-- **terminal_shows_log** — with the shipped terminal as the TTY: a terminal that was blank when
attached (`attached_once`: it is attached once) and behaves like the reference terminal of C17 on
the bytes it receives shows, at the end, exactly the reference terminal fed with (the last
`ringBufferSize-1` bytes logged before the link) ++ (every byte logged after it): no byte of the boot
log is missing, repeated or out of order on the terminal, whatever the console geometry, scrollback
and tab width. (That the shipped `tty.VT` refines the reference terminal is C17; that its console
shows the terminal's viewport is C18.) -/
theorem terminal_shows_log (sort : List Driver → List Driver) (p : Nat) (hp : p < N)
    (before after : List (List UInt8)) (regs : List Driver) (w h sb tab : Nat) :
    let st := bringUp sort p before regs after
    ∀ t, st.sink = some t → ∃ n, st.linkedAt = some n ∧
      shown w h sb tab st.ttyRecv = shown w h sb tab (ttyStream (st.logged.take n) (st.logged.drop n)) := by
  intro st t ht
  obtain ⟨_, hl, _⟩ := log_exactly_once sort p hp before after regs
  obtain ⟨n, h1, _, h3, _⟩ := hl t ht
  exact ⟨n, h1, by rw [h3]⟩

/-- **link_moment** — "that moment": the terminal becomes the sink right after the status line of
the driver whose arrival completes the (first console, first TTY) pair — `linkCount` drivers into
the probe order, whichever of the two kinds that driver is — so the bytes subject to the
early-buffer capacity are exactly the output before bring-up plus the complete output of those
drivers, and nothing logged later passes through the buffer. -/
theorem link_moment (sort : List Driver → List Driver) (p : Nat) (hp : p < N)
    (before after : List (List UInt8)) (regs : List Driver) :
    (bringUp sort p before regs after).linkedAt =
      (linkCount (sort regs) false false).map fun j =>
        (before.flatten ++ (((sort regs).take j).map driverLog).flatten).length := by
  rw [(bringUp_spec sort p hp before regs after).linkedAt]
  unfold linkMoment
  cases linkCount (sort regs) false false <;> simp

/-- the detection-order constants of the compiled code are ordered as their names say and fit an int8 -/
theorem detect_order_constants :
    Firefly.Gen.C16.detectOrderEarly < Firefly.Gen.C16.detectOrderBeforeACPI ∧
    Firefly.Gen.C16.detectOrderBeforeACPI < Firefly.Gen.C16.detectOrderACPI ∧
    Firefly.Gen.C16.detectOrderACPI < Firefly.Gen.C16.detectOrderLast ∧
    -128 ≤ Firefly.Gen.C16.detectOrderEarly ∧ Firefly.Gen.C16.detectOrderLast ≤ 127 := by decide

/-! ## non-vacuity -/

/-- an insertion sort on detection order: a concrete `sort` satisfying the assumption -/
def insertByOrder (d : Driver) : List Driver → List Driver
  | [] => [d]
  | x :: xs => if d.order < x.order then d :: x :: xs else x :: insertByOrder d xs
def sortByOrder (l : List Driver) : List Driver := l.foldr insertByOrder []

def exCons : Driver := { id := 0, order := 0, kind := .console, probeOk := true, name := ascii "c", major := 1, minor := 0, patch := 0, initLog := [ascii "up\n"], initErr := none }
def exTty : Driver := { id := 1, order := -128, kind := .tty, probeOk := true, name := ascii "t", major := 1, minor := 2, patch := 3, initLog := [], initErr := none }
def exBad : Driver := { id := 2, order := -127, kind := .tty, probeOk := true, name := ascii "b", major := 0, minor := 0, patch := 0, initLog := [ascii "x"], initErr := some (ascii "boom") }

/-- the assumption on `sort` is satisfiable on a list registered out of order … -/
example : (sortByOrder [exCons, exTty, exBad]).map (·.id) = [1, 2, 0] := by decide
example : ((sortByOrder [exCons, exTty, exBad]).map (·.order)) = [-128, -127, 0] := by decide
/-- … the TTY comes up first, the console last, and they end up linked; the failing TTY is not active -/
example : let st := bringUp sortByOrder 2040 [ascii "early"] [exCons, exTty, exBad] [ascii "late"]
    st.sink = some 1 ∧ st.activeConsole = some 0 ∧ st.ttyAttached = some 0 ∧ st.activeDrivers = [1, 0] ∧
    st.probes = [1, 2, 0] := by decide +kernel
/-- a history with writes and partial reads, and a prefix writer mid-line, exist -/
example : (runRing (emptyAt 5) [.write [1, 2, 3], .read 2, .write [4], .read 0]).2 = [[1, 2], []] := by decide +kernel
example : (5 : Nat) < N := by unfold N; decide
example : (pwStream { pfx := [80], bap := 0 } [[1, 10, 2], [3, 10]]).1 = [80, 1, 10, 80, 2, 3, 10] := by decide +kernel

end Firefly.C16
