import Firefly.Props.C03
/-!
# C01 — Physical frames are handed out exclusively and only from free RAM

Statement (properties.jsonl): once the physical memory manager has been initialised from a
bootloader memory map, every frame it hands out lies wholly inside a region the bootloader
reported as available, is not part of the loaded kernel image, was not already consumed by the
early-boot allocator, and is not currently held by any other caller. A frame can be handed out
again only after it has been freed.

The theorems are about the executable model `Firefly.Pmm` (tied to the Go code by the
correspondence run). `Inv` is the allocator's representation invariant, `isFree` the abstraction to
the set of free frames; `Firefly.C03.init_*` show that initialisation establishes `Inv` with
`isFree` = available RAM − kernel image − early allocations.
-/
namespace Firefly.C01
open Firefly.Pmm

/-- **alloc_refines** — `AllocFrame` returns a frame that was free, removes exactly that frame from
the free set and keeps the invariant; it reports out-of-memory only when no frame is free, and then
changes nothing. -/
theorem alloc_refines (bm : Bitmap) (hI : Inv bm) :
    (∀ bm' f, alloc bm = (bm', some f) →
      isFree bm f ∧ Inv bm' ∧ ∀ g, isFree bm' g ↔ (isFree bm g ∧ g ≠ f)) ∧
    (∀ bm', alloc bm = (bm', none) → bm' = bm ∧ ∀ g, ¬ isFree bm g) := by
  rcases alloc_spec hI with ⟨e, h2⟩ | ⟨_, _, e, h1, h2, _, _, _, h6⟩ <;> rw [e]
  · exact ⟨nofun, fun bm' h => by cases h; exact ⟨rfl, h2⟩⟩
  · exact ⟨fun bm' f h => by cases h; exact ⟨h1, h2, h6⟩, nofun⟩

/-- **free_refines** — a successful `FreeFrame` adds exactly the given (previously not free) frame
to the free set and keeps the invariant. -/
theorem free_refines (bm bm' : Bitmap) (f : Nat) (hI : Inv bm) (h : free bm f = (bm', .ok)) :
    ¬ isFree bm f ∧ Inv bm' ∧ ∀ g, isFree bm' g ↔ (isFree bm g ∨ g = f) := by
  rcases free_spec hI f with ⟨_, e⟩ | ⟨_, e⟩ | ⟨_, hnf, _, e, h2, _, _, _, h6⟩ <;> rw [e] at h <;> cases h
  exact ⟨hnf, h2, h6⟩

/-- **exclusive** — for every history of allocate/free calls (callers free only frames they hold;
other frees are of free or unmanaged frames and are rejected), from any state satisfying the
invariant: every frame handed out belongs to the set `U` of frames that were free at the start and
is not held by any caller at that moment; out-of-memory is reported only when every frame of `U` is
held. In particular a frame is handed out a second time only after a successful free of it. -/
theorem exclusive (bm : Bitmap) (hI : Inv bm) (ops : List Op) (hc : Contract bm [] ops) :
    TraceOk (isFree bm) (runOps bm [] ops).2.2 :=
  (run_ok ops (sim_init hI) hc).1

/-- the held list at the end of a history is duplicate free and disjoint from the free set, and
together they are exactly the initial free set: no frame is lost or duplicated. -/
theorem conservation (bm : Bitmap) (hI : Inv bm) (ops : List Op) (hc : Contract bm [] ops) :
    let r := runOps bm [] ops
    r.2.1.Nodup ∧ (∀ f, isFree bm f ↔ (isFree r.1 f ∨ f ∈ r.2.1)) ∧ (∀ f ∈ r.2.1, ¬ isFree r.1 f) := by
  have h := (run_ok ops (sim_init hI) hc).2
  exact ⟨h.nodup, h.split, h.disj⟩

/-- **handed_out_only_from_usable** — the property end to end: initialise the allocator from any
sorted memory map and kernel placement after `k` early allocations; then for every history of
allocate/free calls every frame handed out lies wholly inside a region reported available, is not
part of the kernel image, was not consumed by the early-boot allocator, and is not currently held
by another caller. -/
theorem handed_out_only_from_usable (m : List Region) (ksA keA : Nat) (hs : SortedMap m)
    (hp : KernelPlaced m ksA keA) (hsm : nSum (poolsOf m) < 4294967296) (k : Nat) (b : Boot)
    (fs0 : List Nat) (hrun : bootRun m k (bootInit ksA keA) = some (b, fs0))
    (hok : (bitmapInit m b true none).outcome = .ok) (ops : List Op)
    (hc : Contract (bitmapInit m b true none).bm [] ops) :
    ∃ fs, bootRun m (k + requiredBytes (poolsOf m) / Firefly.Gen.Pmm.pageSize) (bootInit ksA keA)
            = some ((bitmapInit m b true none).boot, fs) ∧
      TraceOk (Firefly.C03.Usable m ksA keA fs) (runOps (bitmapInit m b true none).bm [] ops).2.2 := by
  obtain ⟨fs, h1, h2, h3⟩ := (Firefly.C03.init_total_and_exact m ksA keA hs hp hsm k b fs0 hrun).2 hok
  exact ⟨fs, h1, (exclusive _ h2 ops hc).congr h3⟩

/-- **any_map_order** — the bitmap allocator does not depend on the order in which the memory map
lists its regions: for any map of pairwise non-overlapping regions (ascending, descending or
shuffled) the freshly set-up pools satisfy the invariant, so `alloc_refines`, `free_refines`,
`exclusive` and `conservation` apply to them, and every frame handed out in any history is a whole
frame of an available region and not held by anybody else. (`SortedMap` is needed only where the
early allocator comes in: C02, `C03.init_total_and_exact` and the end-to-end statement above.) -/
theorem any_map_order (m : List Region) (hd : DisjointMap m) (hsm : nSum (poolsOf m) < 4294967296)
    (ops : List Op) (hc : Contract (bm0 m) [] ops) :
    Inv (bm0 m) ∧ TraceOk (managed (ranges (poolsOf m))) (runOps (bm0 m) [] ops).2.2 := by
  have hI := bm0_inv_any hd hsm
  exact ⟨hI, (exclusive _ hI ops hc).congr (bm0_isFree m)⟩

/-- non-vacuity: a map that lists a higher region before a lower one -/
def exDescending : List Region :=
  [{ addr := 0x200000, len := 0x40000, typ := 1 }, { addr := 0x9000, len := 0x8800, typ := 1 },
   { addr := 0x100000, len := 0x3000, typ := 2 }]
example : DisjointMap exDescending ∧ ¬ SortedMap exDescending ∧ nSum (poolsOf exDescending) < 4294967296 := by
  refine ⟨by unfold DisjointMap exDescending; decide, by unfold SortedMap exDescending; decide, by decide⟩

end Firefly.C01
