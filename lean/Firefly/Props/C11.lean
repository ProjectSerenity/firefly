import Firefly.Proof.AmlLex
import Firefly.Proof.AmlNameRt
import Firefly.Proof.AmlNsSpec
import Firefly.Proof.AmlObjRt
import Firefly.Proof.AmlDeclRt
import Firefly.Proof.AmlFlat
import Firefly.Proof.AmlMulti
import Firefly.Model.AmlProg
import Firefly.Model.AmlNs
import Firefly.Gen.C11
/-!
# C11 — Well-formed AML is parsed into a namespace that matches the program

"For every well-formed AML table, parsing succeeds and the resulting namespace mirrors the program:
each named object … is found at the absolute path ACPI scoping rules give it … with its declared kind
and arguments in order. Constants, strings, buffers and field offsets/widths carry the encoded
values, and every method invocation … has exactly the declared number of arguments attached."

The whole-parser statement `parse_encode : parseAML (encode p) = .ok t ∧ nsOf t = namespaceOf p` is
**not** proved for the whole grammar subset (DESIGN §5: a multi-week proof over four interacting passes) — and it is
*false* of the current code for the six program shapes recorded as known findings.

What is and what is not proved for ALL inputs (everything else is decided per generated program by the
executable specification `AmlProg.namespaceOf` and the differential oracle of `./check C11`:
`nsOf (tree of the real parser) = namespaceOf program`, plus model = implementation on the whole object pool):

| statement                                                                                   | status                         |
|---------------------------------------------------------------------------------------------|--------------------------------|
| lexical round trips: integer constants, PkgLength, name strings, strings, package ends      | theorems (all encodings)       |
| object-level round trips: `parseSimpleArg` stores the encoded constant / string / name path | theorems                       |
| END TO END, one table of `Name(NAME, integer)` declarations                                 | theorem `flat_programs_agree` (stage: `flat_parse`) |
| END TO END, one table of `Device(NAME){…}` / `ThermalZone(NAME){…}` / `Processor(NAME, id, addr, len){…}` / `PowerResource(NAME, level, order){…}` nested to ANY depth around `Name(NAME, integer)`, `Name(NAME, "string")`, `Event(NAME)`, `Mutex(NAME, sync)` | theorem `nested_programs_agree` (stage: `nested_parse`) |
| END TO END, any NUMBER of such tables loaded one after the other                            | theorem `multi_table_programs_agree` |
| `Scope(…){…}` (re-opening an existing scope, absolute or relative)                          | NOT a theorem — oracle only    |
| `Method` bodies, method invocations and their argument counts                               | NOT a theorem — oracle only    |
| `OperationRegion`, `Field`/`IndexField`/`BankField` units (offsets, widths)                 | NOT a theorem — oracle only    |
| `Name` with buffer or package data (buffers and packages are deferred blocks parsed by the strict pass) | NOT a theorem — oracle only (the constant round trips above are the proved part) |
| names with a root prefix, `^` prefixes or more than one segment in a declaration            | NOT a theorem — oracle only (`name_roundtrip` is the proved part) |
| the specification's namespace is a tree; the facts this check was built against             | theorems                       |

The three end-to-end theorems are about the parser MODEL (`Model/AmlParser.lean`); every run of `./check C11` replays the
model against the Go parser on the generated programs and on the deterministic cases that are the non-vacuity examples
below.
-/
namespace Firefly.C11
open Firefly.AmlLex Firefly.AmlProg Firefly.AmlNs

/-- **Integer constants round-trip** (`Lex.const_roundtrip`): for every table `d`, position `base`,
width `n` and value `v`: if the `n` bytes at `base` are the little-endian encoding `encConst v n` and
lie below `pkgEnd`, `parseNumConstant n` returns `v mod 256^n`, succeeds, and advances by exactly `n`. -/
theorem const_roundtrip (d : Bytes) (v n base pe : Nat)
    (henc : ∀ i, i < n → d[base + i]? = (encConst v n)[i]?) (hfit : base + n ≤ pe) :
    parseNumConstant d n { offset := base, pkgEnd := pe } =
      .ok ((v % 256 ^ n, PRes.ok), { offset := base + n, pkgEnd := pe }) :=
  AmlLex.const_rt d v n base pe henc hfit

/-- largest value + 1 a PkgLength of `w` bytes can carry (6 bits, then 4 + 8·(w−1) bits) -/
def pkgBound (w : Nat) : Nat := if w ≤ 1 then 64 else 2 ^ (4 + 8 * (w - 1))

/-- **PkgLength round-trips in all four encodings** (`Lex.pkglen_roundtrip`): for every table, position,
width `1 ≤ w ≤ 4` and value `v < pkgBound w`: if the `w` bytes at `base` are `encPkgLength v w` and lie
below `pkgEnd`, `parsePkgLength` returns exactly `v`, succeeds, and advances by exactly `w`. -/
theorem pkglen_roundtrip (d : Bytes) (v w base pe : Nat) (hw : 1 ≤ w ∧ w ≤ 4) (hv : v < pkgBound w)
    (henc : ∀ i, i < w → d[base + i]? = (encPkgLength v w)[i]?) (hfit : base + w ≤ pe) :
    parsePkgLength d { offset := base, pkgEnd := pe } =
      .ok ((v, PRes.ok), { offset := base + w, pkgEnd := pe }) :=
  AmlParser.F.pkglen_rt d v w base pe hw hv henc hfit

/-- **Name strings round-trip in all four encodings** (`Lex.name_roundtrip`): for every table `d` (shorter than
2^32), position `base`, package end `pe ≤ len d` and every name — with or without the root prefix `\`, with any number
of parent prefixes `^`, and with no segment (NullName), one (NameSeg), two (DualNamePath) or 3…255 segments
(MultiNamePath) of four bytes each (`NameOK`: a lone segment starts with `A`–`Z` or `_`): if the bytes of
`encNameP n` sit at `base` and end below `pe`, then `parseNameString` succeeds, advances by exactly their number, and
returns the slice that starts at `base` and covers exactly these bytes (the NullName terminator excluded, as in Go:
`Scope(\)` yields the one-byte path `\`).  So the path the parser stores for a declaration is the path the program
wrote, for every name the encoder can produce. -/
theorem name_roundtrip (d : Bytes) (n : NameP) (base pe : Nat) (hsz : d.size < 4294967296) (hpe : pe ≤ d.size)
    (hok : NameOK (n.segs.map segBytes))
    (henc : ∀ i, i < (encNameP n).length → d[base + i]? = (encNameP n)[i]?) (hfit : base + (encNameP n).length ≤ pe) :
    parseNameString d { offset := base, pkgEnd := pe } =
      .ok (({ data := some base, len := (encNameP n).length - (if n.segs = [] then 1 else 0) }, PRes.ok),
        { offset := base + (encNameP n).length, pkgEnd := pe }) := by
  rw [AmlLex.name_roundtrip d n.root n.carets (n.segs.map segBytes) base pe hsz hpe hok henc hfit]
  simp only [List.map_eq_nil_iff]
  rfl

/-- non-vacuity: `\_SB_.DEV0.DEV1` (root prefix, MultiNamePath of three segments) and `^^N000` satisfy `NameOK`,
and the parser reads the first one back from a table that holds it at offset 2 -/
example : NameOK (({ root := true, segs := ["_SB_", "DEV0", "DEV1"] } : NameP).segs.map segBytes) ∧
    NameOK (({ carets := 2, segs := ["N000"] } : NameP).segs.map segBytes) :=
  ⟨⟨by decide, by decide, fun s h => by cases h⟩,
   ⟨by decide, by decide, fun s h => by cases h; exact ⟨0x4e, rfl, Or.inl ⟨by decide, by decide⟩⟩⟩⟩
example : parseNameString ((#[0x10, 0x11] ++ (encNameP { root := true, segs := ["_SB_", "DEV0", "DEV1"] }).toArray ++ #[0xff]) : Bytes)
      { offset := 2, pkgEnd := 17 } = .ok (({ data := some 2, len := 15 }, PRes.ok), { offset := 17, pkgEnd := 17 }) := by
  decide +kernel

/-- **Strings round-trip** (`Lex.string_roundtrip`): for every table, position and every string of ASCII bytes
1…0x7f: if the bytes of `encString s` (the string and its zero terminator) sit at `base` and end below `pe`, then
`parseString` succeeds, consumes them all including the terminator, and returns the slice that starts at `base` and
has exactly the length of `s` — a `String` constant carries the encoded value. -/
theorem string_roundtrip (d : Bytes) (s : List UInt8) (base pe : Nat) (hpe : pe ≤ d.size)
    (hascii : ∀ b ∈ s, 1 ≤ b ∧ b ≤ 0x7f)
    (henc : ∀ i, i < (encString s).length → d[base + i]? = (encString s)[i]?) (hfit : base + (encString s).length ≤ pe) :
    parseString d { offset := base, pkgEnd := pe } =
      .ok (({ data := some base, len := s.length }, PRes.ok), { offset := base + (encString s).length, pkgEnd := pe }) :=
  AmlLex.string_roundtrip d s base pe hpe hascii henc hfit

/-- **The package end the parser computes is the end of the encoded body** (`Lex.pkg_roundtrip`): `encPkg op w body` is
`op ++ PkgLength ++ body` with a length that counts its own `w` bytes.  For every table that holds these bytes at
`base`, every width `1 ≤ w ≤ 4` whose range the length fits: `parsePkgLength`, started behind the opcode, returns a
length `n` with `start + n` = the offset just behind `body` — the `pkgEnd` that `parsePkgLenArg` pushes
(`origOffset + pkgLen`) is exactly where the encoder ended the package, and the reader stands at the first body byte. -/
theorem pkg_roundtrip (d : Bytes) (op body : List UInt8) (w base pe : Nat) (hw : 1 ≤ w ∧ w ≤ 4)
    (hv : w + body.length < pkgBound w)
    (henc : ∀ i, i < (encPkg op w body).length → d[base + i]? = (encPkg op w body)[i]?)
    (hfit : base + op.length + w ≤ pe) :
    ∃ n, parsePkgLength d { offset := base + op.length, pkgEnd := pe } =
        .ok ((n, PRes.ok), { offset := base + op.length + w, pkgEnd := pe }) ∧
      base + op.length + n = base + (encPkg op w body).length := by
  have hlen := AmlParser.F.encPkgLength_length (w + body.length) w hw.1
  refine ⟨w + body.length, ?_, ?_⟩
  · refine pkglen_roundtrip d (w + body.length) w (base + op.length) pe hw hv ?_ hfit
    intro i hi
    have := henc (op.length + i) (by unfold encPkg; simp only [List.length_append, hlen]; omega)
    unfold encPkg at this
    rw [List.append_assoc, List.getElem?_append_right (by omega), Nat.add_sub_cancel_left,
      List.getElem?_append_left (by rw [hlen]; exact hi), ← Nat.add_assoc] at this
    exact this
  · unfold encPkg
    simp only [List.length_append, hlen]
    omega

/-- non-vacuity: the three-byte encoding of 0x12345 -/
example : parsePkgLength (#[0x85, 0x34, 0x12] : Bytes) { offset := 0, pkgEnd := 3 } =
    .ok ((0x12345, PRes.ok), { offset := 3, pkgEnd := 3 }) := by decide

/-- non-vacuity: a DWord constant inside a 6-byte table -/
example : parseNumConstant (#[0x0c, 0xef, 0xbe, 0xad, 0xde, 0x00] : Bytes) 4 { offset := 1, pkgEnd := 6 } =
    .ok ((0xdeadbeef, PRes.ok), { offset := 5, pkgEnd := 6 }) := by decide

/-- the encoder emits what the decoder reads back (instances; the general statement is `const_roundtrip`) -/
example : encInt 4 0xdeadbeef = [0x0c, 0xef, 0xbe, 0xad, 0xde] := by decide
example : encPkgLength 0x123 2 = [0x43, 0x12] := by decide
example : encode [.device 1 { segs := ["DEV0"] } [.name { segs := ["N000"] } (.int 1 7)]] =
    [0x5b, 0x82, 0x0c, 0x44, 0x45, 0x56, 0x30, 0x08, 0x4e, 0x30, 0x30, 0x30, 0x0a, 0x07] := by decide

/-- the specification assigns `Name(^N000)` inside `\_SB_.DEV0` to `\_SB_.N000` (the parent scope) -/
example : (namespaceOf [[.scope 1 { segs := ["_SB_"] } [.device 1 { segs := ["DEV0"] }
      [.name { carets := 1, segs := ["N000"] } (.int 1 1)]]]]).objs.contains (["_SB_", "N000"], "name:i1") = true := by
  decide

/-! ## the objects carry the encoded values

One level above the lexer: `parseSimpleArg` — the code that reads the constant, string and name arguments of every
declaration (`Name(NAME, 0x12)`, `Method(NAME, flags)`, `OperationRegion(NAME, space, …)` …) — from any parser state
`s` with a well-formed pool (`AmlParser.G.FP`) and room for one more object. -/

/-- **Integer constants are stored with the encoded value** (`Obj.const_object_roundtrip`; `ByteData` / `WordData` /
`DWordData` / `QWordData` with `n` = 1 / 2 / 4 / 8): if the `n` bytes at the reader are the little-endian encoding of `v`
inside the package, `parseSimpleArg` succeeds, returns a NEW object (a slot that was free, now live, not yet attached)
with the prefix opcode of that width and the value `v mod 256^n`, leaves the pool well-formed and advances the reader by
exactly `n`. -/
theorem const_object_roundtrip (d : Bytes) (s : AmlParser.PState) (h : AmlParser.G.FP d s)
    (hsz : s.tree.pool.size < 4294967295) (argType n op : Nat)
    (hat : (argType = Gen.C12.argTypeByteData ∧ n = 1 ∧ op = Gen.C12.opBytePrefix) ∨ (argType = Gen.C12.argTypeWordData ∧ n = 2 ∧ op = Gen.C12.opWordPrefix) ∨
      (argType = Gen.C12.argTypeDwordData ∧ n = 4 ∧ op = Gen.C12.opDwordPrefix) ∨ (argType = Gen.C12.argTypeQwordData ∧ n = 8 ∧ op = Gen.C12.opQwordPrefix))
    (v base pe : Nat) (hr : s.r = { offset := base, pkgEnd := pe })
    (henc : ∀ i, i < n → d[base + i]? = (encConst v n)[i]?) (hfit : base + n ≤ pe) :
    ∃ x s', AmlParser.parseSimpleArg d argType s = .ok ((some x, PRes.ok), s') ∧ AmlParser.G.FP d s' ∧
      C13.live s.tree x = false ∧ C13.live s'.tree x = true ∧ C13.P s'.tree x = C13.INV ∧
      (C13.slot s'.tree x).value = .u64 (v % 256 ^ n) ∧ (C13.slot s'.tree x).opcode = op ∧
      s'.r = { offset := base + n, pkgEnd := pe } := by
  obtain ⟨x, s', e, h', a1, a2, a3, a4, a5, a6, _⟩ :=
    AmlParser.F.const_object_roundtrip h hsz argType n op hat v base pe hr henc hfit
  exact ⟨x, s', e, h', a1, a2, a3, a4, a5, a6⟩

/-- **Name paths are stored as written** (`Obj.name_object_roundtrip`): on the bytes of `encNameP n`, `parseSimpleArg
(NameString)` succeeds and returns a NEW name-path object whose value is the `[]byte` that starts at the first byte of
the name and covers exactly the encoded bytes (without the NullName terminator) — the path `connectNamedObjArgs`,
`mergeScopeDirectives` and `relocateNamedObjects` later read is the path the program wrote. -/
theorem name_object_roundtrip (d : Bytes) (hd : d.size + 1024 ≤ 4294967296) (s : AmlParser.PState) (h : AmlParser.G.FP d s)
    (hsz : s.tree.pool.size < 4294967295) (n : NameP) (base pe : Nat) (hr : s.r = { offset := base, pkgEnd := pe })
    (hpe : pe ≤ d.size) (hok : NameOK (n.segs.map segBytes))
    (henc : ∀ i, i < (encNameP n).length → d[base + i]? = (encNameP n)[i]?) (hfit : base + (encNameP n).length ≤ pe) :
    ∃ x s', AmlParser.parseSimpleArg d Gen.C12.argTypeNameString s = .ok ((some x, PRes.ok), s') ∧ AmlParser.G.FP d s' ∧
      C13.live s.tree x = false ∧ C13.live s'.tree x = true ∧ C13.P s'.tree x = C13.INV ∧
      (C13.slot s'.tree x).value = .bytes base ((encNameP n).length - (if n.segs = [] then 1 else 0)) ∧
      (C13.slot s'.tree x).opcode = Gen.C12.opIntNamePath ∧ s'.r = { offset := base + (encNameP n).length, pkgEnd := pe } := by
  obtain ⟨x, s', e, h', a1, a2, a3, a4, a5, a6, _⟩ :=
    AmlParser.F.name_object_roundtrip hd h hsz n.root n.carets (n.segs.map segBytes) base pe hr hpe hok henc hfit
  refine ⟨x, s', e, h', a1, a2, a3, ?_, a5, a6⟩
  rw [a4]
  simp only [List.map_eq_nil_iff]
  rfl

/-- **Strings are stored with the encoded value** (`Obj.string_object_roundtrip`): on the ASCII bytes of `str` and their
terminator, `parseSimpleArg(String)` succeeds and returns a NEW object with the string opcode whose value is the `[]byte`
covering exactly `str`. -/
theorem string_object_roundtrip (d : Bytes) (s : AmlParser.PState) (h : AmlParser.G.FP d s)
    (hsz : s.tree.pool.size < 4294967295) (str : List UInt8) (base pe : Nat) (hr : s.r = { offset := base, pkgEnd := pe })
    (hpe : pe ≤ d.size) (hascii : ∀ b ∈ str, 1 ≤ b ∧ b ≤ 0x7f)
    (henc : ∀ i, i < (encString str).length → d[base + i]? = (encString str)[i]?) (hfit : base + (encString str).length ≤ pe) :
    ∃ x s', AmlParser.parseSimpleArg d Gen.C12.argTypeString s = .ok ((some x, PRes.ok), s') ∧ AmlParser.G.FP d s' ∧
      C13.live s.tree x = false ∧ C13.live s'.tree x = true ∧ C13.P s'.tree x = C13.INV ∧
      (C13.slot s'.tree x).value = .bytes base str.length ∧ (C13.slot s'.tree x).opcode = Gen.C12.opStringPrefix ∧
      s'.r = { offset := base + (encString str).length, pkgEnd := pe } := by
  obtain ⟨x, s', e, h', a1, a2, a3, a4, a5, a6, _⟩ :=
    AmlParser.F.string_object_roundtrip h hsz str base pe hr hpe hascii henc hfit
  exact ⟨x, s', e, h', a1, a2, a3, a4, a5, a6⟩

/-- **A `Name` declaration creates the named object under the current scope** (`Decl.name_decl_first_pass`): with the
reader at the bytes `08 <NameString>` of a `Name(…)` declaration inside the current package, the first pass
(`parseNextObject` in skip mode) succeeds; it creates a NEW `Name` object `x` as the LAST child of the innermost open
scope block (`topOf s`) and a NEW name-path object `c` as its only argument, whose value is the `[]byte` covering exactly
the path the program wrote; the reader stands right behind the name (the data object is parsed as the next object and
attached by `connectNamedObjArgs`, C12 item (9)), the scope stack is unchanged, every older object keeps its parent and
the pool stays well-formed. -/
theorem name_decl_first_pass (d : Bytes) (hd : d.size + 1024 ≤ 4294967296) (f : Nat) (s : AmlParser.PState)
    (h : AmlParser.G.FP d s) (hsk : s.allBlocks = false) (hne : s.scopeStack.size ≠ 0)
    (hsz : s.tree.pool.size + 2 < C13.INV) (n : NameP) (base pe : Nat) (hr : s.r = { offset := base, pkgEnd := pe })
    (hpe : pe ≤ d.size) (hok : NameOK (n.segs.map segBytes)) (hop : d[base]? = some 0x08)
    (henc : ∀ i, i < (encNameP n).length → d[base + 1 + i]? = (encNameP n)[i]?)
    (hfit : base + 1 + (encNameP n).length ≤ pe) :
    ∃ s' x c, AmlParser.parseNextObject d (f + 5) s = .ok (PRes.ok, s') ∧ AmlParser.G.FP d s' ∧
      C13.live s.tree x = false ∧ C13.live s.tree c = false ∧ C13.live s'.tree x = true ∧ C13.live s'.tree c = true ∧
      (C13.slot s'.tree x).opcode = 8 ∧ C13.P s'.tree x = AmlParser.S.topOf s ∧
      C13.La s'.tree (AmlParser.S.topOf s) = x ∧ C13.Fi s'.tree x = c ∧ C13.La s'.tree x = c ∧ C13.P s'.tree c = x ∧
      (C13.slot s'.tree c).opcode = Gen.C12.opIntNamePath ∧
      (C13.slot s'.tree c).value = .bytes (base + 1) ((encNameP n).length - (if n.segs = [] then 1 else 0)) ∧
      s'.r = { offset := base + 1 + (encNameP n).length, pkgEnd := pe } ∧ s'.scopeStack = s.scopeStack ∧
      (∀ y, C13.live s.tree y = true → C13.live s'.tree y = true ∧ C13.P s'.tree y = C13.P s.tree y) := by
  obtain ⟨a, s', e, ha, x, c, h', a1, a2, a3, a4, a5, a6, a7, a8, a9, a10, a11, a12, a13, a14, a15, _⟩ :=
    AmlParser.F.name_decl_first_pass hd f h hsk hne hsz n.root n.carets (n.segs.map segBytes) base pe hr hpe hok hop henc hfit
  subst ha
  refine ⟨s', x, c, e, h', a1, a2, a3, a4, a5, a6, a7, a8, a9, a10, a11, ?_, a13, a14, a15⟩
  rw [a12]
  simp only [List.map_eq_nil_iff]
  rfl

/-! ## the property itself, for a fragment: tables of `Name(NAME, integer)` declarations

`AmlParser.F.FlatItem` = (name segment, integer width, integer value); `FlatItem.obj` is the declaration
`Name(str, Integer)` of the grammar (`AmlProg.Obj.name { segs := [str] } (.int w v)`); `FlatItem.OK`: the segment is four
characters below 256 starting with a capital letter or `_`, the width is one the encoder writes (0 = ZeroOp/OneOp/OnesOp,
1, 2, 4, 8).  These programs are nested programs without devices: the first pass and `connectNamedObjArgs` are those of the
nested fragment below, run with the fuel a flat table needs. -/

/-- **`ParseAML` on a table of `Name(NAME, integer)` declarations** (`Flat.parse`).  For every such table — any number of
declarations, every integer width and value — loaded from any parser state whose pool is well-formed and has a parentless
scope-block root with childless scope-block children (the default scopes; `AmlParser.F.Base`): with the fuel the replay
uses, `ParseAML` SUCCEEDS (no error, no panic, no exhausted fuel), and the pool it returns (`AmlParser.F.Flat … [] its`) is
the old pool, untouched, plus for each declaration in order a `Name` object appended to the root's children that carries
the declared name and has exactly two arguments — its name path and an integer object with the declared value. -/
theorem flat_parse (l : List AmlParser.F.FlatItem) (hok : ∀ a ∈ l, a.OK) (d : Bytes)
    (hd : d = mkTable (encode (l.map AmlParser.F.FlatItem.obj)).toArray) (hlen : d.size ≤ 1000000000)
    (s : AmlParser.PState) (ht : AmlParser.G.TreeG s.tree) (b : AmlParser.F.Base s.tree)
    (hsz : s.tree.pool.size + 3 * l.length < C13.INV) (fuel : Nat)
    (hfuel : 2 * l.length + (AmlParser.F.K s.tree 0).length + 9 ≤ fuel) (handle : Nat) :
    ∃ s' its, AmlParser.parseAML d fuel handle s = .ok (true, s') ∧
      AmlParser.F.Flat d s.tree s'.tree handle [] its ∧ its.map (·.q) = l.map AmlParser.F.FlatItem.decl := by
  obtain ⟨hsize, hbytes⟩ := AmlParser.F.mkTable_list (encode (l.map AmlParser.F.FlatItem.obj))
  rw [← hd] at hbytes hsize
  exact AmlParser.F.parseAML_flat (d := d) (by omega) (by omega) l hok hbytes hsize.symm s ht b hsz fuel hfuel handle

/-- **C11 holds for every program that is a list of `Name(NAME, integer)` declarations** (`agrees_flat`: the parse succeeds, every object
is found at its path, with its value).  For every such program — any number of declarations, every integer
width and value, well-formed single-segment names that are pairwise distinct and differ from the default scopes — loaded as
one table into the default namespace: the program is well-scoped (`namespaceOf` reports no error), the parser model accepts
the encoded table (`ParseAML` returns `nil`; no panic, no exhausted fuel), and the namespace read off the resulting object
tree (`nsOf`: absolute path ↦ kind and value of every named object; call sites) is the namespace ACPI's scoping rules assign
to the program (`namespaceOf`).  `agrees` is the check the oracle evaluates for every generated program; here it is
proved for all programs of the fragment.  (About the parser MODEL; the model-vs-implementation correspondence of
`./check C11` ties it to the Go parser on the replayed inputs.) -/
theorem flat_programs_agree (l : List AmlParser.F.FlatItem) (hok : ∀ a ∈ l, a.OK)
    (hnd : (defaultNs.objs.map (·.1) ++ l.map (fun a => [a.str])).Nodup)
    (hlen : (encode (l.map AmlParser.F.FlatItem.obj)).length ≤ 1000000000) :
    agrees [l.map AmlParser.F.FlatItem.obj] = true :=
  AmlParser.F.agrees_flat l hok hnd hlen

/-- non-vacuity: a program of the fragment (every encoding width), its hypotheses, and the instance of the theorem; the
same program is the deterministic case `b-flat-names` of `harness/aml/c11_test.go`, so every run of `./check C11` also
compares the model with the real parser and the real tree's namespace with `namespaceOf` on it -/
example : agrees [[.name { segs := ["N000"] } (.int 1 7), .name { segs := ["_X01"] } (.int 0 0), .name { segs := ["ABCD"] } (.int 8 0x1122334455667788),
    .name { segs := ["N003"] } (.int 2 0x1234), .name { segs := ["N004"] } (.int 0 5), .name { segs := ["N005"] } (.int 4 9)]] = true :=
  flat_programs_agree [⟨"N000", 1, 7⟩, ⟨"_X01", 0, 0⟩, ⟨"ABCD", 8, 0x1122334455667788⟩, ⟨"N003", 2, 0x1234⟩, ⟨"N004", 0, 5⟩, ⟨"N005", 4, 9⟩]
    (by
      intro a ha
      simp only [List.mem_cons, List.mem_nil_iff, or_false] at ha
      rcases ha with rfl | rfl | rfl | rfl | rfl | rfl <;>
        exact ⟨⟨by decide, by decide, by decide⟩, by unfold AmlParser.F.IntW; decide⟩)
    (by decide) (by decide)

/-! ## the property itself, for the nested fragment: `Device(NAME){…}` to any depth around `Name(NAME, integer | string)`, `Event`, `Mutex`

`AmlParser.F.NObj` = `name str w v` | `sname str bytes` | `dev kd pw str vals body` | `event str` | `mutex str sync` (`kd`: `device`,
`thermal`, `proc` or `power`; `pw`: the PkgLength width the encoder is forced to use; `vals`: the fixed arguments — none,
`[id, block address, block length]` of a `Processor`, `[system level, resource order]` of a `PowerResource`);
`AmlParser.F.objsOf` maps a list of them to the grammar's `AmlProg.Obj`s (`Name(str, Integer)`, `Name(str, String)`,
`Device(str){body}`, `ThermalZone(str){body}`, `Processor(str, …){body}`, `PowerResource(str, …){body}`, `Event(str)`,
`Mutex(str, sync)`); `oksOf`: every segment well-formed, every integer width one the encoder writes, every string made of
ASCII bytes 1…0x7f, every `pw` in 1..4 and wide enough for the package it measures; `entsOL [] l`: the namespace entries ACPI's scoping rules give the declarations (absolute path ↦
`device` / `thermal` / `processor:<id>:<addr>:<len>` / `power:<level>:<order>` / `name:i<value>` / `name:s<hex bytes>` / `event` /
`mutex:<sync byte>`). -/

/-- **`ParseAML` on a nested program** (`Nest.parse`).  For every program of the fragment, loaded from any parser state
whose pool is well-formed and has a parentless scope-block root with childless scope-block children (`AmlParser.F.Base`):
with enough fuel (linear in the number of declarations; `fuelFor` is enough), `ParseAML` SUCCEEDS, and the pool it returns
is the old pool, untouched, plus the objects of the program laid out as `ns` says (`AmlParser.F.NestT`): every `Name`
object carries its name and has its name path and its data object — the integer, or a string object whose `[]byte` value
covers exactly the string's bytes in the table — as arguments; every `Event` / `Mutex` object carries its name and has its
name path and (for `Mutex`) the sync-level byte as arguments; every device (thermal zone, processor, power resource) carries
its name and has its name path, its fixed constant arguments and a scope block as arguments; that scope block holds the
device's own declarations, in order; the top-level declarations are appended to the root's children. -/
theorem nested_parse (l : List AmlParser.F.NObj) (hok : AmlParser.F.oksOf l) (d : Bytes)
    (hd : d = mkTable (encode (AmlParser.F.objsOf l)).toArray) (hlen : d.size ≤ 1000000000)
    (s : AmlParser.PState) (ht : AmlParser.G.TreeG s.tree) (b : AmlParser.F.Base s.tree)
    (hsz : s.tree.pool.size + 3 * AmlParser.F.sizePs (AmlParser.F.psOf l) < C13.INV) (fuel : Nat)
    (hfuel : 8 * AmlParser.F.sizePs (AmlParser.F.psOf l) + (AmlParser.F.K s.tree 0).length +
      AmlParser.F.closesPs (AmlParser.F.psOf l) + 13 ≤ fuel) (handle : Nat) :
    ∃ s' ns, AmlParser.F.progs ns = AmlParser.F.psOf l ∧ AmlParser.parseAML d fuel handle s = .ok (true, s') ∧
      AmlParser.F.NestT d s.tree s'.tree handle ns := by
  have henc : encode (AmlParser.F.objsOf l) = AmlParser.F.encPs (AmlParser.F.psOf l) := by
    unfold encode; exact AmlParser.F.enc_nobjs l hok
  obtain ⟨hsize, hbytes⟩ := AmlParser.F.mkTable_list (encode (AmlParser.F.objsOf l))
  rw [← hd, henc] at hbytes hsize
  exact AmlParser.F.parseAML_nest (d := d) (by omega) (by omega) (AmlParser.F.psOf l) (AmlParser.F.ok_nobjs l hok)
    hbytes hsize.symm s ht b hsz fuel hfuel handle

/-- **C11 holds for every program of the nested fragment** (`agrees_nest`: the parse succeeds, every object is found at
its path, with its value).  For every program built from `Device(NAME){…}`, `ThermalZone(NAME){…}`,
`Processor(NAME, id, addr, len){…}` and `PowerResource(NAME, level, order){…}` — nested to any depth, with every PkgLength
width and every value of the fixed arguments — and `Name(NAME, integer)` — every integer width and value —,
`Name(NAME, "string")` — every ASCII string —, `Event(NAME)` and `Mutex(NAME, sync)` — every sync byte —, with well-formed
single-segment names whose absolute paths are pairwise distinct and differ from the default scopes, loaded as one table into
the default namespace: the program is well-scoped, the parser model accepts the encoded table (`ParseAML` returns `nil`: no
error, no panic, no exhausted fuel), and the namespace read off the resulting object tree — each named object at the
ABSOLUTE PATH its enclosing devices give it, with its kind (`device` / `thermal` / `processor` / `power` / `name` / `event` /
`mutex`), the fixed arguments and the integer value, the string's bytes (read back from the table the object's handle names)
or the sync level — is exactly the namespace ACPI's scoping rules assign to the program.  (About the parser MODEL, like
`flat_programs_agree`.) -/
theorem nested_programs_agree (l : List AmlParser.F.NObj) (hok : AmlParser.F.oksOf l)
    (hnd : (defaultNs.objs.map (·.1) ++ (AmlParser.F.entsOL [] l).map (·.1)).Nodup)
    (hlen : (encode (AmlParser.F.objsOf l)).length ≤ 1000000000) :
    agrees [AmlParser.F.objsOf l] = true :=
  AmlParser.F.agrees_nest l hok hnd hlen

/-- non-vacuity: a nested program (three levels, PkgLength widths 1, 2 and 3, a name reused in different scopes, a string and
an empty string), its hypotheses, and the instance of the theorem; the same program is the deterministic case
`b-nested-devices` of `harness/aml/c11_test.go` -/
example : agrees [[.device 1 { segs := ["DEV0"] } [.name { segs := ["N000"] } (.int 1 1),
      .device 2 { segs := ["DEV1"] } [.name { segs := ["N000"] } (.int 2 0x1234), .device 3 { segs := ["DEV2"] } [],
        .name { segs := ["S000"] } (.str [0x68, 0x69])],
      .name { segs := ["N001"] } (.int 0 0)],
    .name { segs := ["N000"] } (.int 8 0x0123456789abcdef), .name { segs := ["S000"] } (.str [])]] = true :=
  nested_programs_agree [.dev .device 1 "DEV0" [] [.name "N000" 1 1, .dev .device 2 "DEV1" [] [.name "N000" 2 0x1234, .dev .device 3 "DEV2" [] [],
        .sname "S000" [0x68, 0x69]], .name "N001" 0 0],
      .name "N000" 8 0x0123456789abcdef, .sname "S000" []]
    (AmlParser.F.oks_of_b _ (by decide)) (by decide) (by decide)

/-- **C11 holds for any number of tables of the nested fragment** (`agrees_multi`).  For every sequence of tables, each built
from `Device(NAME){…}` / `ThermalZone(NAME){…}` / `Processor(…){…}` / `PowerResource(…){…}` (nested to any depth),
`Name(NAME, integer)`, `Name(NAME, "string")`, `Event(NAME)` and `Mutex(NAME, sync)`, whose declared absolute paths are all
distinct and differ from the default scopes, loaded in order (handles 1, 2, …) into the default namespace: every table is accepted by the
parser model — the later tables are parsed into the pool the earlier ones left, whose objects `connectNamedObjArgs` and the
other passes walk over and leave alone — and the namespace read off the final object tree is the namespace ACPI's scoping
rules assign to the sequence of tables.  (`Proof/AmlPool.lean`: `Pool`, `parseAML_pool`; `Proof/AmlMulti.lean`: `loadAll_pool`.) -/
theorem multi_table_programs_agree (ls : List (List AmlParser.F.NObj)) (hok : ∀ l ∈ ls, AmlParser.F.oksOf l)
    (hnd : (defaultNs.objs.map (·.1) ++ (ls.flatMap (AmlParser.F.entsOL [])).map (·.1)).Nodup)
    (hlen : AmlParser.F.totalLen ls ≤ 1000000000) :
    agrees (ls.map AmlParser.F.objsOf) = true :=
  AmlParser.F.agrees_multi ls hok hnd hlen

/-- non-vacuity: three tables, the first with a processor and a power resource, the second with a string (read back from the
SECOND table's bytes), the third with a thermal zone, events and mutexes at two levels (the deterministic case
`b-three-tables-devices` of `harness/aml/c11_test.go`) -/
example : agrees [[.device 1 { segs := ["DEV0"] } [.name { segs := ["N000"] } (.int 1 1)], .name { segs := ["N001"] } (.int 0 1),
      .processor 1 { segs := ["CPU0"] } 1 0x00000410 6 [.name { segs := ["N000"] } (.int 1 2)],
      .powerres 2 { segs := ["PWR0"] } 3 0x0102 [.event { segs := ["EV00"] }]],
    [.name { segs := ["N002"] } (.int 4 0xdeadbeef), .device 2 { segs := ["DEV1"] } [.device 1 { segs := ["DEV0"] } []],
      .name { segs := ["S002"] } (.str [0x74, 0x77, 0x6f])],
    [.name { segs := ["N003"] } (.int 0 7), .thermal 1 { segs := ["TZ00"] } [.name { segs := ["N000"] } (.int 1 3),
      .event { segs := ["EV00"] }, .mutex { segs := ["MX00"] } 3], .mutex { segs := ["MX00"] } 15, .event { segs := ["EV00"] }]] = true :=
  multi_table_programs_agree [[.dev .device 1 "DEV0" [] [.name "N000" 1 1], .name "N001" 0 1,
        .dev .proc 1 "CPU0" [1, 0x00000410, 6] [.name "N000" 1 2], .dev .power 2 "PWR0" [3, 0x0102] [.event "EV00"]],
      [.name "N002" 4 0xdeadbeef, .dev .device 2 "DEV1" [] [.dev .device 1 "DEV0" [] []], .sname "S002" [0x74, 0x77, 0x6f]],
      [.name "N003" 0 7, .dev .thermal 1 "TZ00" [] [.name "N000" 1 3, .event "EV00", .mutex "MX00" 3], .mutex "MX00" 15, .event "EV00"]]
    (by
      intro l hl
      simp only [List.mem_cons, List.mem_nil_iff, or_false] at hl
      rcases hl with rfl | rfl | rfl <;> exact AmlParser.F.oks_of_b _ (by decide))
    (by decide) (by decide)

/-- **The specification's namespace is a tree, for every program** (`Spec.namespace_is_tree`): whatever tables are
loaded — well-scoped or not — `namespaceOf` never declares a path twice, and every declared path with more than one
segment has its parent scope declared (ill-scoped declarations are recorded in `errors` and declare nothing).  The
oracle therefore compares the parser's tree with a well-formed namespace on every input, and "found at the absolute
path ACPI scoping rules give it" is unambiguous: a path denotes at most one object. -/
theorem namespace_is_tree (tables : List (List Obj)) :
    ((namespaceOf tables).objs.map (·.1)).Nodup ∧
    ∀ p ∈ (namespaceOf tables).objs.map (·.1), 1 < p.length → (namespaceOf tables).has (p.take (p.length - 1)) = true :=
  AmlProg.namespaceOf_ok tables

/-- **The facts this check was generated against are the facts of C12's model**: the parser model
(`Model/AmlLex`, `Model/AmlParser`) imports `Gen.C12`; a C11 run regenerates `Gen.C11` from the compiled
code, so a table that changed without C12 being re-run breaks this theorem (stale tie). -/
theorem facts_agree :
    Gen.C11.opcodeTable = Gen.C12.opcodeTable ∧ Gen.C11.opcodeMap = Gen.C12.opcodeMap ∧
    Gen.C11.extendedOpcodeMap = Gen.C12.extendedOpcodeMap ∧ Gen.C11.tableIndexInternal = Gen.C12.tableIndexInternal ∧
    Gen.C11.maxResolvePasses = Gen.C12.maxResolvePasses ∧ Gen.C11.headerLen = Gen.C12.headerLen ∧
    Gen.C11.isType2 = Gen.C12.isType2 ∧ Gen.C11.isDataObject = Gen.C12.isDataObject ∧ Gen.C11.isArg = Gen.C12.isArg :=
  ⟨rfl, rfl, rfl, rfl, rfl, rfl, rfl, rfl, rfl⟩

/-! ## witnesses: where the property is false today, and where repairs made it true

`agrees w` runs the parser *model* (which the correspondence run ties to the real parser on exactly
these programs — they are the deterministic boundary cases `b-…` of `harness/aml/c11_test.go`) on
`encode w` and compares the namespace in the resulting tree with `namespaceOf w`.  Evaluated by the
Lean kernel (`decide +kernel`: no compiled evaluation). -/

private def nm (s : String) : NameP := { segs := [s] }
private def i1 (v : Nat) : Data := .int 1 v
private def t1 (v : Nat) : Term := .int 1 v

/-- `Scope(_SB_){Device(DEV0){Device(DEV1){}}} Scope(\_SB_.DEV0.DEV1){Name(N000,1)}` -/
def wD6 : List (List Obj) :=
  [[.scope 1 (nm "_SB_") [.device 1 (nm "DEV0") [.device 1 (nm "DEV1") []]],
    .scope 1 { root := true, segs := ["_SB_", "DEV0", "DEV1"] } [.name (nm "N000") (i1 1)]]]

/-- `Scope(_SB_){Device(DEV0){Name(^N000,1)}}` -/
def wCaret : List (List Obj) :=
  [[.scope 1 (nm "_SB_") [.device 1 (nm "DEV0") [.name { carets := 1, segs := ["N000"] } (i1 1)]]]]

/-- `Method(M002,2){} Method(M000,0){ M002(Add(1,2,), 3) }` -/
def wCallArgExpr : List (List Obj) :=
  [[.method 1 (nm "M002") 2 [], .method 1 (nm "M000") 0 [.call (nm "M002") [.add (t1 1) (t1 2) none, t1 3]]]]

/-- `Method(M000,0){ If(1){} }` -/
def wIfEmpty : List (List Obj) := [[.method 1 (nm "M000") 0 [.ifs 1 (t1 1) []]]]

/-- `Method(M001,1){} Method(M000,0){ While(1){ While(2){Noop} M001(3) } }` -/
def wWhileNested : List (List Obj) :=
  [[.method 1 (nm "M001") 1 [], .method 1 (nm "M000") 0 [.whiles 1 (t1 1) [.whiles 1 (t1 2) [.noop], .call (nm "M001") [t1 3]]]]]

/-- the witnesses are well-scoped programs: the specification assigns each a namespace without error -/
theorem witnesses_well_scoped :
    (namespaceOf wD6).errors = [] ∧ (namespaceOf wCaret).errors = [] ∧ (namespaceOf wCallArgExpr).errors = [] ∧
    (namespaceOf wIfEmpty).errors = [] ∧ (namespaceOf wWhileNested).errors = [] := by decide +kernel

/-- **D6 (known finding)**: a Scope path that continues below a Device is rejected by the parser. -/
theorem d6_counterexample : modelNs wD6 = none ∧ agrees wD6 = false := by decide +kernel

/-- **`^` inside a Device (known finding)**: the table parses, but `N000` is found at `\_SB_.DEV0.N000`
instead of `\_SB_.N000`. -/
theorem name_caret_counterexample :
    agrees wCaret = false ∧
    (modelNs wCaret).map (fun ns => ns.has ["_SB_", "DEV0", "N000"]) = some true ∧
    (namespaceOf wCaret).has ["_SB_", "N000"] = true := by decide +kernel

/-- **call with an expression argument (known finding)**: the invocation of the two-argument method
`M002` does not end up with two arguments. -/
theorem call_arg_expression_counterexample :
    agrees wCallArgExpr = false ∧ (namespaceOf wCallArgExpr).calls = [(["M002"], 2)] ∧
    (modelNs wCallArgExpr).map (fun ns => ns.calls) ≠ some [(["M002"], 2)] := by decide +kernel

/-- **If with an empty body as last statement (known finding)**: rejected. -/
theorem if_empty_body_counterexample : modelNs wIfEmpty = none ∧ agrees wIfEmpty = false := by decide +kernel

/-- **nested block inside While (known finding)**: the call that follows the inner While is dropped. -/
theorem while_nested_block_counterexample :
    agrees wWhileNested = false ∧ (namespaceOf wWhileNested).calls = [(["M001"], 1)] ∧
    (modelNs wWhileNested).map (fun ns => ns.calls) = some [] := by decide +kernel

/-- `Device(DEV0){} Scope(\DEV0){ Scope(DEV0){Name(N000,1)} Device(DEV0){} }`: when `Scope(DEV0)` is met, the only `DEV0` in
sight is `\DEV0`; the nearer `\DEV0.DEV0` is declared behind it -/
def wScopeShadow : List (List Obj) :=
  [[.device 1 (nm "DEV0") [], .scope 1 { root := true, segs := ["DEV0"] }
      [.scope 1 (nm "DEV0") [.name (nm "N000") (i1 1)], .device 1 (nm "DEV0") []]]]

/-- **a single-segment `Scope(NAME)` captured by a LATER declaration (known finding)**: the parser resolves Scope directives
after the whole table has been read, so the search finds the nearer `\DEV0.DEV0` that the table declares only behind the
directive; the scoping rules (names are resolved where they are met, tables are loaded in order) put `N000` into `\DEV0`. -/
theorem scope_search_shadowed_later_counterexample :
    (namespaceOf wScopeShadow).errors = [] ∧ agrees wScopeShadow = false ∧
    (namespaceOf wScopeShadow).has ["DEV0", "N000"] = true ∧
    (modelNs wScopeShadow).map (fun ns => (ns.has ["DEV0", "DEV0", "N000"], ns.has ["DEV0", "N000"])) = some (true, false) := by
  decide +kernel

/-- `Scope(\){Name(N000,1)}` (repaired: baac752) -/
def wScopeRoot : List (List Obj) := [[.scope 1 { root := true } [.name (nm "N000") (i1 1)]]]

/-- `Method(M001,0){} Method(M000,0){ While(1){ Store(Add(1, M001()), Local0) } }` (repaired: e2a58af) -/
def wWhileCallExpr : List (List Obj) :=
  [[.method 1 (nm "M001") 0 [], .method 1 (nm "M000") 0
      [.whiles 1 (t1 1) [.store (.add (t1 1) (.call (nm "M001") []) none) 0]]]]

/-- forward and backward calls with nested calls as arguments -/
def wCalls : List (List Obj) :=
  [[.method 1 (nm "M001") 2 [.ret (.call (nm "M002") [.arg 0, .call (nm "M003") [], .arg 1])],
    .method 1 (nm "M002") 3 [], .method 1 (nm "M003") 0 [.store (.call (nm "M001") [t1 1, t1 2]) 0]]]

/-- **where the parser does meet the property** (model evaluated by the kernel): the two repaired
witnesses and a program with forward, backward and nested method calls -/
theorem repaired_and_positive_witnesses :
    agrees wScopeRoot = true ∧ agrees wWhileCallExpr = true ∧ agrees wCalls = true := by decide +kernel

end Firefly.C11
