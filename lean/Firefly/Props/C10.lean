import Firefly.Model.Multiboot
import Firefly.Spec.Multiboot
import Firefly.Proof.Multiboot
/-!
# C10 — Multiboot information is decoded exactly and never read past its end

Statement (properties.jsonl): for every well-formed multiboot2 information block, the kernel
reports exactly what the block encodes: the memory regions in order with their address, length
and type (types outside the defined set reported as reserved), the framebuffer description
including the RGB layout, the command line split into key=value and bare-flag entries, and each
non-empty kernel ELF section with its name, flags, address and size.  A tag that is absent
yields an empty result, the first tag of a type wins regardless of tag order, and no byte
outside the block (and the section-name string table it points to) is read.

Setting of every theorem: `tags` is any list of tags (any order, duplicates, unknown tags with
arbitrary payload, any sizes/padding), `m = mkMem base sbase stab tags` is the memory holding
`encode tags` at `base` and the string table `stab` at `sbase` and *nothing else* (any other
access makes the model return `fault`), and `wf base sbase stab tags` is the decidable
well-formedness predicate of `Spec/Multiboot.lean` (field widths, entry size ≥ 24, tag size
+ 7 < 2^31, known tag numbers only used by their own tag kind, the areas fit below 2^64 and do
not overlap).  The model functions are the ones the replay driver runs against the Go code.
-/
namespace Firefly.C10
open Firefly.Multiboot Firefly.MBSpec Firefly.MBProof

variable {base sbase : Nat} {stab : List UInt8} {tags : List Tag}

/-- **first_tag_wins** — the first tag of type `t` in the list is the one found, whatever
precedes or follows it (other tags, duplicates of the same type later on, any padding): the
scan returns its content size and a pointer at which the block holds exactly its contents. -/
theorem first_tag_wins (h : wf base sbase stab tags = true) {t : Nat} {x : Tag}
    (hx : firstOf t tags = some x) :
    ∃ p, findTag (mkMem base sbase stab tags) t = .ok (p, x.body.length) ∧
      (mkMem base sbase stab tags).rdBytes p x.body.length = some x.body := by
  obtain ⟨p, h1, h2, -⟩ := find_first h hx
  exact ⟨p, h1, h2.rdBytes⟩

/-- **first_tag_wins_order** — the same with the position spelled out: if no tag in `pre` has
`x`'s type, `x` is found at offset 8 (info header) + size of `pre` + 8 (tag header), for every
`post` (which may contain further tags of the same type). -/
theorem first_tag_wins_order (pre post : List Tag) (x : Tag) (hpre : ∀ y ∈ pre, y.typeNo ≠ x.typeNo)
    (h : wf base sbase stab (pre ++ x :: post) = true) :
    findTag (mkMem base sbase stab (pre ++ x :: post)) x.typeNo =
      .ok (base + 8 + (encTags pre).length + 8, x.body.length) :=
  findTag_split h hpre

/-- **absent_is_empty** — a tag that is absent yields the empty result (and no fault). -/
theorem absent_is_empty (h : wf base sbase stab tags = true) :
    (∀ t, firstOf t tags = none → findTag (mkMem base sbase stab tags) t = .ok (0, 0)) ∧
    (firstOf 6 tags = none → ∀ stop, visitMemRegions (mkMem base sbase stab tags) stop =
        ([], .done, mkMem base sbase stab tags)) ∧
    (firstOf 8 tags = none → framebuffer (mkMem base sbase stab tags) = .ok none) ∧
    (firstOf 1 tags = none → bootCmdLine (mkMem base sbase stab tags) = .ok []) ∧
    (firstOf 9 tags = none → visitElfSections (mkMem base sbase stab tags) = ([], .done)) := by
  refine ⟨fun t ht => find_absent h ht, fun h6 stop => ?_, fun h8 => ?_, fun h1 => ?_, fun h9 => ?_⟩
  · simp [visitMemRegions, Firefly.Gen.C10.tagMemoryMap, find_absent h h6]
  · simp [framebuffer, getFramebufferInfo, Firefly.Gen.C10.tagFramebufferInfo, find_absent h h8]
  · simp [bootCmdLine, Firefly.Gen.C10.tagBootCmdLine, find_absent h h1]
  · simp [visitElfSections, Firefly.Gen.C10.tagElfSymbols, find_absent h h9]

/-- **roundtrip_memmap** — `VisitMemRegions` with a visitor that never stops reports exactly
the entries of the first memory-map tag, in order, with address and length unchanged and the
type normalised (`normType`: 1…4 kept, everything else — 0, 5 = memUnknown, 6, …, 2^32-1 —
reported as reserved = 2), for every entry size ≥ 24 and every entry count; nothing if there
is no memory map.  The walk ends normally (`done`: no fault, no fuel exhaustion). -/
theorem roundtrip_memmap (h : wf base sbase stab tags = true) :
    (visitMemRegions (mkMem base sbase stab tags) 0).1 = expRegions tags ∧
    (visitMemRegions (mkMem base sbase stab tags) 0).2.1 = .done := by
  rw [visitMem_spec h 0, specVisit_eq, if_pos (Or.inl rfl), expRegions_eq]
  exact ⟨rfl, rfl⟩

/-- **early_stop** — a visitor that returns false on its `k`-th call (1 ≤ k ≤ number of
entries) has seen exactly the first `k` regions and the walk stops there. -/
theorem early_stop (h : wf base sbase stab tags = true) (k : Nat) (hk : 1 ≤ k)
    (hn : k ≤ (expRegions tags).length) :
    (visitMemRegions (mkMem base sbase stab tags) k).1 = (expRegions tags).take k ∧
    (visitMemRegions (mkMem base sbase stab tags) k).2.1 = .stop := by
  rw [expRegions_eq, List.length_map] at hn
  rw [visitMem_spec h k, specVisit_eq, if_neg (by omega), expRegions_eq, List.map_take]
  exact ⟨rfl, rfl⟩

/-- **types_normalised** — whatever the visitor does, every region it is shown has a type in
the defined set 1…4 (in particular the raw type 5 = `memUnknown` never reaches it: D3). -/
theorem types_normalised (h : wf base sbase stab tags = true) (stop : Nat) :
    ∀ r ∈ (visitMemRegions (mkMem base sbase stab tags) stop).1, 1 ≤ r.ty ∧ r.ty ≤ 4 := by
  intro r hr
  rw [visitMem_spec h stop, specVisit_eq] at hr
  obtain ⟨e, rfl⟩ : ∃ e, regionOf e = r := by
    split at hr <;> exact (List.mem_map.1 hr).imp fun _ he => he.2
  simp only [regionOf, normType]
  split <;> omega

/-- **writes_confined** — the only thing `VisitMemRegions` changes in memory (it writes the
normalised type back through the entry pointer) is this: with `k` = number of regions shown to
the visitor, the memory afterwards is *exactly* the block `encode (normFirst k tags)` — the same
tag list in which the first `k` entries of the first memory map carry `normType` of their type
(`normEnts`: entries whose type is already in 1…4 are unchanged, the others hold
MemReserved = 2 in their 4 type bytes) — at the same place, and the string table is untouched.
So no byte other than the type fields of visited entries with a type outside 1…4 is written,
for every stop position; without a memory map nothing is written (`normFirst` is the identity). -/
theorem writes_confined (h : wf base sbase stab tags = true) (stop : Nat) :
    (visitMemRegions (mkMem base sbase stab tags) stop).2.2 =
      mkMem base sbase stab
        (normFirst (visitMemRegions (mkMem base sbase stab tags) stop).1.length tags) := by
  rw [visitMem_spec h stop]

/-- **roundtrip_framebuffer** — `GetFramebufferInfo` plus the field reads through the returned
pointer yield exactly the encoded address, pitch, width, height, bpp and type of the first
framebuffer tag, and the six RGB position/size bytes exactly when the type is RGB (1); `nil`
when there is no framebuffer tag.  No fault. -/
theorem roundtrip_framebuffer (h : wf base sbase stab tags = true) :
    ∃ r, framebuffer (mkMem base sbase stab tags) = .ok r ∧ r.map fbView = expFb tags :=
  framebuffer_encode h

/-- **roundtrip_elf** — `VisitElfSections` reports exactly the sections of the first ELF-symbols
tag whose size is not 0, in order, each with the NUL-terminated name found at its name index in
the string table the `shndx`-th section header points to, its flags (low 32 bits), address and
size; empty names, shared name suffixes and `size = 0` holes included; nothing when the tag is
absent.  The walk ends normally: every byte it reads lies in the block or in the string table. -/
theorem roundtrip_elf (h : wf base sbase stab tags = true) :
    visitElfSections (mkMem base sbase stab tags) = (expSections stab tags, .done) :=
  visitElf_encode h

/-- **roundtrip_cmdline** — `GetBootCmdLine` yields exactly the key/value map the words of the
first command-line tag denote (`k=v` ↦ k→v, a bare word `k` ↦ k→k, a word with two or more `=`
is dropped, later words override earlier ones; empty keys/values allowed), for any runs of
white space before, between and after the words.  White space is everything `strings.Fields`
splits on: the ASCII blanks 9–13 and 32 and the multi-byte runes U+0085, U+00A0, U+1680,
U+2000–U+200A, U+2028, U+2029, U+202F, U+205F, U+3000 (`spaceWidth`); words are arbitrary
non-NUL bytes — valid UTF-8 or not — that contain no such rune and no `=` inside a key/value
(`wf`: `spaceRun` for separators, `partOk` for parts).  No UTF-8 validity hypothesis is needed:
the model, like Go's decoder, works on bytes, and a white-space rune is recognised from its own
bytes wherever it stands (`spaceWidth_append`). -/
theorem roundtrip_cmdline (h : wf base sbase stab tags = true) :
    bootCmdLine (mkMem base sbase stab tags) = .ok (expCmd tags) :=
  bootCmdLine_encode h

/-- **reads_in_bounds** — on a well-formed block none of the five entry points ever touches a
byte outside the block and the string table: the model turns any such access into `fault`
(and a loop that would not terminate into `fuel`), and neither can be the outcome — for every
tag type searched, every visitor stop position, and every command-line text. The type write-back
of `VisitMemRegions` goes through the same checked access, so it too stays inside the block. -/
theorem reads_in_bounds (h : wf base sbase stab tags = true) :
    (∀ t, ∃ r, findTag (mkMem base sbase stab tags) t = .ok r) ∧
    (∀ stop, (visitMemRegions (mkMem base sbase stab tags) stop).2.1 = .done ∨
             (visitMemRegions (mkMem base sbase stab tags) stop).2.1 = .stop) ∧
    (∃ r, framebuffer (mkMem base sbase stab tags) = .ok r) ∧
    (∃ kv, bootCmdLine (mkMem base sbase stab tags) = .ok kv) ∧
    (visitElfSections (mkMem base sbase stab tags)).2 = .done := by
  refine ⟨fun t => ?_, fun stop => ?_, ?_, ⟨_, bootCmdLine_encode h⟩, ?_⟩
  · cases hf : firstOf t tags with
    | none => exact ⟨_, find_absent h hf⟩
    | some x => obtain ⟨p, hp, -⟩ := find_first h hf; exact ⟨_, hp⟩
  · rw [visitMem_spec h stop, specVisit_eq]
    split
    · exact Or.inl rfl
    · exact Or.inr rfl
  · obtain ⟨r, hr, _⟩ := framebuffer_encode h
    exact ⟨r, hr⟩
  · rw [visitElf_encode h]

/-! ### non-vacuity: a concrete well-formed block with reordered, duplicated, odd-sized tags -/

def sampleTags : List Tag :=
  [.other 21 [1, 2, 3], .fb 0xfd000000 4096 1024 768 32 1 0 [16, 8, 8, 8, 0, 8, 9],
   .mmap 28 0 [⟨0, 654336, 1⟩, ⟨0x9fc00, 1024, 5⟩, ⟨0x100000, 0xFFFFFFFFFFFFFFFF, 0xFFFFFFFF⟩],
   .mmap 24 0 [⟨0, 1, 1⟩], .other 0xFFFFFFFF []]

set_option maxRecDepth 16384 in
example : wf 0x1000 0x9000 [0] sampleTags = true := by decide +kernel
example : firstOf 6 sampleTags = some (.mmap 28 0 [⟨0, 654336, 1⟩, ⟨0x9fc00, 1024, 5⟩, ⟨0x100000, 0xFFFFFFFFFFFFFFFF, 0xFFFFFFFF⟩]) := by
  decide
example : expRegions sampleTags = [⟨0, 654336, 1⟩, ⟨0x9fc00, 1024, 2⟩, ⟨0x100000, 0xFFFFFFFFFFFFFFFF, 2⟩] := by decide
example : firstOf 1 sampleTags = none := by decide
example : normFirst 2 sampleTags =
    [.other 21 [1, 2, 3], .fb 0xfd000000 4096 1024 768 32 1 0 [16, 8, 8, 8, 0, 8, 9],
     .mmap 28 0 [⟨0, 654336, 1⟩, ⟨0x9fc00, 1024, 2⟩, ⟨0x100000, 0xFFFFFFFFFFFFFFFF, 0xFFFFFFFF⟩],
     .mmap 24 0 [⟨0, 1, 1⟩], .other 0xFFFFFFFF []] := by decide

/-- a block with a command line (runs of blanks, tabs and the multi-byte runes U+00A0, U+2003;
`a=b=c`, empty key, override, a word of invalid UTF-8 ending in a lone lead byte E2) and an ELF
table (empty name, shared suffix, a hole) — inside `wf` -/
def sampleTags2 : List Tag :=
  [.cmd [32, 9, 0xC2, 0xA0] [⟨[[0x61], [0x62]], [32, 0xE2, 0x80, 0x83, 9]⟩, ⟨[[0x61], [0x62], [0x63]], [10]⟩,
                 ⟨[[], [0x76]], [32]⟩, ⟨[[0xFF, 0xE2], [0x80, 0xE2]], [0xE3, 0x80, 0x80]⟩, ⟨[[0x61]], []⟩],
   .elf 64 1 [⟨0, 1, 6, 0x100000, 0, 0x2000, 0, 0, 16, 0⟩, ⟨1, 3, 0, 0x9000, 0, 7, 0, 0, 1, 0⟩,
              ⟨3, 1, 2, 5, 0, 0, 0, 0, 1, 0⟩, ⟨3, 8, 0xFFFFFFFF00000003, 7, 0, 9, 0, 0, 1, 0⟩] [0xAA]]

set_option maxRecDepth 16384 in
example : wf 0x1000 0x9000 [0, 0x2e, 0x74, 0x78, 0x74, 0, 0] sampleTags2 = true := by decide +kernel
example : expCmd sampleTags2 = [([], [0x76]), ([0x61], [0x61]), ([0xFF, 0xE2], [0x80, 0xE2])] := by decide
example : expSections [0, 0x2e, 0x74, 0x78, 0x74, 0, 0] sampleTags2 =
    [⟨[], 6, 0x100000, 0x2000⟩, ⟨[0x2e, 0x74, 0x78, 0x74], 0, 0x9000, 7⟩, ⟨[0x78, 0x74], 3, 7, 9⟩] := by decide

end Firefly.C10
