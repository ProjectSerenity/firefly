import Firefly.Proof.PmmBoot
/-!
# C02 — Early-boot allocator: ascending unique frames, never kernel or reserved RAM

Statement (properties.jsonl): before the main allocator exists, each early allocation returns a
frame that lies wholly inside available RAM, outside the kernel image, and strictly above every
frame returned earlier; when no such frame remains it reports out-of-memory instead of returning a
frame. Repeating the same number of allocations from a reset state returns the same frames in the
same order, so the frames consumed during boot can be recovered exactly at hand-over.

Domain hypotheses (the property's quantifier): the memory map is sorted and non-overlapping
(`SortedMap`), the kernel image has a page-aligned start and lies inside one available region
(`KernelPlaced`). Frames and addresses are unbounded naturals; the Go code's `uint64` arithmetic
agrees with it when `addr + len < 2^64`, which the bootloader guarantees (trusted; the
correspondence run compares model and code on such maps).
-/
namespace Firefly.C02
open Firefly.Pmm Firefly.Gen.Pmm

/-- a frame of a candidate region is wholly inside that (available) region's bytes -/
theorem frame_wholly_inside (r : Region) (f : Nat) (h1 : regionStart r ≤ f) (h2 : f < regionEndExcl r) :
    r.addr ≤ f * 4096 ∧ (f + 1) * 4096 ≤ r.addr + r.len :=
  (frame_in_region_iff r f).1 ⟨h1, h2⟩

/-- **boot_sound** — one early allocation from any state reached by successful allocations:
the frame lies wholly inside a region reported available, is not a kernel frame, is strictly above
the previous frame, and the allocation count goes up by one. -/
theorem boot_sound (m : List Region) (ksA keA : Nat) (hs : SortedMap m) (hp : KernelPlaced m ksA keA)
    (b b' : Boot) (f : Nat) (hks : b.kStart = (bootInit ksA keA).kStart)
    (hke : b.kEnd = (bootInit ksA keA).kEnd) (hb : BootOk b) (h : bootAlloc m b = (b', some f)) :
    (∃ r ∈ m, r.typ = memAvailable ∧ r.addr ≤ f * 4096 ∧ (f + 1) * 4096 ≤ r.addr + r.len) ∧
    ¬ (ksA / 4096 ≤ f ∧ f * 4096 < keA) ∧
    (b.allocCount ≠ 0 → b.last < f) ∧ b'.last = f ∧ b'.allocCount = b.allocCount + 1 ∧ BootOk b' := by
  obtain ⟨ok, hb'⟩ := bootAlloc_sound (hks ▸ hke ▸ bootEnv_of_placed hs hp) hb h
  obtain ⟨r, hr, hc, h1, h2⟩ := ok.inRegion
  refine ⟨⟨r, hr, hc.1, frame_wholly_inside r f h1 h2⟩, ?_, ok.above, ok.last, (bootAlloc_keeps h).1, hb'⟩
  rw [← bootInit_kernel_iff hp.nonempty, ← hks, ← hke]
  exact ok.notKernel

/-- **boot_strictly_ascending** — any number of successful allocations from the reset state
returns a strictly increasing (hence duplicate-free) list of frames, each wholly inside available
RAM and outside the kernel image. -/
theorem boot_strictly_ascending (m : List Region) (ksA keA : Nat) (hs : SortedMap m)
    (hp : KernelPlaced m ksA keA) (n : Nat) (b' : Boot) (fs : List Nat)
    (h : bootRun m n (bootInit ksA keA) = some (b', fs)) :
    fs.length = n ∧ b'.allocCount = n ∧ fs.Pairwise (· < ·) ∧
    ∀ f ∈ fs, ¬ (ksA / 4096 ≤ f ∧ f * 4096 < keA) ∧
      ∃ r ∈ m, r.typ = memAvailable ∧ r.addr ≤ f * 4096 ∧ (f + 1) * 4096 ≤ r.addr + r.len := by
  obtain ⟨h6, h7⟩ := bootRun_sound (bootEnv_of_placed hs hp) (bootOk_init _ _) h
  refine ⟨(bootRun_keeps h).1, (bootRun_keeps h).2.1.trans (Nat.zero_add n), h6, fun f hf => ?_⟩
  obtain ⟨_, nk, r, hr, hc, g1, g2⟩ := h7 f hf
  exact ⟨mt (bootInit_kernel_iff hp.nonempty f).2 nk, r, hr, hc.1, frame_wholly_inside r f g1 g2⟩

/-- **boot_oom_is_safe** — a failed allocation returns no frame and does not count. -/
theorem boot_oom_is_safe (m : List Region) (b b' : Boot) (h : bootAlloc m b = (b', none)) :
    b'.allocCount = b.allocCount ∧ b'.kStart = b.kStart ∧ b'.kEnd = b.kEnd :=
  bootAlloc_keeps h

/-- **boot_oom_is_final** — "when no such frame remains it reports out-of-memory": once an
allocation fails, every later allocation fails too and nothing changes any more, so exhaustion is
a stable state and no frame is ever produced after it. -/
theorem boot_oom_is_final (m : List Region) (ksA keA : Nat) (hs : SortedMap m) (hp : KernelPlaced m ksA keA)
    (b b' : Boot) (hks : b.kStart = (bootInit ksA keA).kStart) (hke : b.kEnd = (bootInit ksA keA).kEnd)
    (hb : BootOk b) (h : bootAlloc m b = (b', none)) : bootAlloc m b' = (b', none) :=
  bootAlloc_oom_final (hks ▸ hke ▸ bootEnv_of_placed hs hp) hb h

set_option linter.unusedVariables false in
/-- **replay_exact** — resetting the allocator (count 0, cursor 0) after `n` successful
allocations and allocating `n` times again returns the same frames in the same order. -/
theorem replay_exact (m : List Region) (ksA keA : Nat) (hs : SortedMap m) (hp : KernelPlaced m ksA keA)
    (n : Nat) (b' : Boot) (fs : List Nat) (h : bootRun m n (bootInit ksA keA) = some (b', fs)) :
    bootRun m n { b' with allocCount := 0, last := 0 } = some (b', fs) :=
  bootRun_replay h

/-! ## Non-vacuity: a concrete unaligned three-region map with the kernel in the trailing partial
page of its region -/

def exMap : List Region :=
  [{ addr := 0x1000, len := 0x1800, typ := 1 }, { addr := 0x3000, len := 0x1000, typ := 2 },
   { addr := 0xa000, len := 0xb000, typ := 1 }]

example : SortedMap exMap := by unfold SortedMap exMap; decide
example : KernelPlaced exMap 0x2000 0x2800 :=
  ⟨by decide, by decide, ⟨{ addr := 0x1000, len := 0x1800, typ := 1 }, by simp [exMap], by decide, by decide, by decide⟩⟩
example : (bootRun exMap 3 (bootInit 0x2000 0x2800)).map (·.2) = some [1, 10, 11] := by decide

end Firefly.C02
