import Firefly.Proof.Bits
/-!
The arithmetic normal form behind the tie lemmas (`Tie/Pmm.lean`, `Tie/C07.lean`, `Tie/C19.lean`).

`tools/exprgen` renders a Go integer expression as a `BitVec 64` term.  Three facts say what such a
term denotes:
* `toNat` is a homomorphism onto the integers modulo `2^64` (`toNat_add`, `toNat_sub`, `toNat_mul`);
* a shift or a mask by a constant is a division or multiplication by a power of two
  (`Bits.toNat_shr`, `Bits.toNat_shl`, `Bits.toNat_and_not_lowmask`);
* order and equality of words are those of their `toNat` (`BitVec.lt_def`, `BitVec.le_def`, `BitVec.toNat_eq`),
  and a guard built from them with `&&`, `||`, `!` is the corresponding proposition.
After rewriting with them a tie is a statement of linear arithmetic with `/` and `%` by literals, which
`omega` decides.  The same script therefore proves the tie for any *equivalent* way of writing the Go
expression (`&^ 4095` for `& ^(PageSize-1)`, dropping a mask that the following shift makes redundant,
`>= x+1` for `> x`, `w - x + 1` for `w - (x - 1)`): a behaviour-preserving rewrite of the source keeps
the tie, a changed rounding, bound or comparison breaks it.
-/
namespace Firefly.Tie

/-! Core states the `toNat` lemmas by `rfl`, so `simp` would use them as definitional steps and leave the
kernel to unfold `BitVec.add` and friends on literals like `4095#64`; restated with a proof term they are
ordinary rewrite rules. -/
theorem toNat_add (x y : BitVec 64) : (x + y).toNat = (x.toNat + y.toNat) % 2^64 := by rw [BitVec.toNat_add]
theorem toNat_sub (x y : BitVec 64) : (x - y).toNat = (2^64 - y.toNat + x.toNat) % 2^64 := by rw [BitVec.toNat_sub]
theorem toNat_mul (x y : BitVec 64) : (x * y).toNat = x.toNat * y.toNat % 2^64 := by rw [BitVec.toNat_mul]

/-! The page and word masks as low masks, and the literals that `toNat_ofNat` leaves behind. -/
theorem mask4095 : (4095#64 : BitVec 64) = BitVec.ofNat 64 (2^12 - 1) := by decide
theorem mask63 : (63#64 : BitVec 64) = BitVec.ofNat 64 (2^6 - 1) := by decide
theorem mask4096m1 : (4096#64 - 1#64 : BitVec 64) = BitVec.ofNat 64 (2^12 - 1) := by decide
theorem lowmask12_mod : (2^12 - 1) % 2^64 = 4095 := by decide
theorem lowmask6_mod : (2^6 - 1) % 2^64 = 63 := by decide
theorem mod_1 : 1 % 2 ^ 64 = 1 := by decide
theorem mod_3 : 3 % 2 ^ 64 = 3 := by decide
theorem mod_6 : 6 % 2 ^ 64 = 6 := by decide
theorem mod_12 : 12 % 2 ^ 64 = 12 := by decide
theorem mod_63 : 63 % 2 ^ 64 = 63 := by decide
theorem mod_4096 : 4096 % 2 ^ 64 = 4096 := by decide

/-- The normal form.  The bracket holds what the calling file adds: its generated constants
(`pageShift = 12`), the model definitions to unfold, hypotheses. -/
macro "tie_norm" " [" ls:Lean.Parser.Tactic.simpLemma,* "]" : tactic =>
  `(tactic| simp only [mask4095, mask63, mask4096m1, Firefly.Bits.pageMask_eq, lowmask12_mod, lowmask6_mod, mod_1, mod_3, mod_6, mod_12, mod_63, mod_4096,
    BitVec.ushiftRight_eq', BitVec.shiftLeft_eq', BitVec.toNat_ofNat, BitVec.toNat_setWidth, Firefly.Bits.toNat_shr, Firefly.Bits.toNat_shl,
    Firefly.Bits.toNat_and_not_lowmask, toNat_add, toNat_sub, toNat_mul, BitVec.toNat_udiv, BitVec.toNat_umod, BitVec.toNat_not,
    BitVec.toNat_eq, BitVec.lt_def, BitVec.le_def, gt_iff_lt, ge_iff_le, decide_eq_true_eq, decide_eq_decide,
    decide_eq_false_iff_not, decide_not, Bool.or_eq_true, Bool.and_eq_true, Bool.not_eq_true', Bool.not_not, ne_eq,
    beq_iff_eq, bne_iff_ne, $ls,*])

/-- normal form, then linear arithmetic.  A hypothesis `x < 2^64` in the bracket removes the `% 2^64` around
`x` before `omega` sees it (`omega` would do it too, at several times the cost). -/
macro "tie_arith" " [" ls:Lean.Parser.Tactic.simpLemma,* "]" : tactic =>
  `(tactic| (tie_norm [Nat.mod_eq_of_lt, $ls,*] <;> omega))

/-- a regenerated guard is the model's decision: both sides as propositions, through the normal form -/
macro "tie_bool" " [" ls:Lean.Parser.Tactic.simpLemma,* "]" : tactic =>
  `(tactic| (rw [Bool.eq_iff_iff]; tie_arith [$ls,*]))

/-- Two regenerated terms, or a regenerated term and a `BitVec` model term, denote the same word (or the
same decision).  Mostly they are the same term once `a - b` is read as `a + -b`, sums are reassociated and a
shift by a constant word is a shift by its value: that is checked first, because it costs a hundredth of the
arithmetic.  Whenever it succeeds the arithmetic normal form would succeed too; it is the only route when the
source writes the expression differently (`&^ 4095`, a dropped mask, `size + PageSize - 1`). -/
macro "tie_same" " [" ls:Lean.Parser.Tactic.simpLemma,* "]" : tactic =>
  `(tactic| first
    | (simp only [BitVec.ofNat_eq_ofNat, BitVec.sub_eq_add_neg, BitVec.add_assoc, BitVec.ushiftRight_eq', $ls,*]; done)
    | tie_arith [$ls,*])

end Firefly.Tie
