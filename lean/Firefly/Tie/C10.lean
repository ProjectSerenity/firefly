import Firefly.Gen.C10Expr
import Firefly.Model.Multiboot
import Firefly.Proof.Bits
/-!
Tie lemmas for C10: the pointer, size, stride and type-test expressions that `tools/exprgen`
regenerates from `kernel/multiboot/multiboot.go` on every run denote the same numbers as the terms
the model (`Model/Multiboot.lean`, `Nat` arithmetic reduced mod 2^64 / 2^32) is built from.  A
changed expression in `findTagByType` or `VisitMemRegions` changes `Gen/C10Expr.lean` and one of
these stops checking.

`exprgen` renders every operand as `BitVec 64` and a conversion `int32(x)`/`uint32(x)` as a
truncation to 32 bits widened again with zeros.  Two consequences, both visible below:
* `ptrTagHeader.size - 8` is a `uint32` subtraction in Go; the lemma compares the low 32 bits.
* `uintptr(int32(size+7) & ^7)` sign-extends in Go (and in the model's `alignStep`); the
  regenerated term zero-extends, so `tie_tagScanNext` carries the hypothesis
  `(size + 7) mod 2^32 < 2^31`, which every well-formed block satisfies (`MBSpec.wf`).
-/
namespace Firefly.Tie.C10
open Firefly.Multiboot Firefly.Gen.C10Expr

theorem tie_tagScanStart (infoData : BitVec 64) :
    (tagScanStart infoData).toNat = (infoData.toNat + 8) % 2^64 := by
  simp [tagScanStart, BitVec.toNat_add]

theorem tie_tagContentsPtr (cur : BitVec 64) :
    (tagContentsPtr cur).toNat = (cur.toNat + 8) % 2^64 := by
  simp [tagContentsPtr, BitVec.toNat_add]

/-- the contents length `size - 8`, evaluated at 32 bits as Go does -/
theorem tie_tagContentsSize (sz : BitVec 64) (h : sz.toNat < 2^32) :
    (tagContentsSize sz).toNat % 2^32 = (sz.toNat + 2^32 - 8) % 2^32 := by
  simp only [tagContentsSize, BitVec.toNat_sub, BitVec.toNat_ofNat]
  rw [Nat.mod_mod_of_dvd _ (show 2^32 ∣ 2^64 by decide),
    show 2^64 - 8 % 2^64 + sz.toNat = sz.toNat + 2^32 - 8 + (2^32 - 1) * 2^32 by omega, Nat.add_mul_mod_self_right]

/-- the scan step `curPtr += uintptr(int32(size+7) & ^7)` -/
theorem tie_tagScanNext (cur sz : BitVec 64) (hpos : (sz.toNat + 7) % 2^32 < 2^31) :
    (tagScanNext cur sz).toNat = (cur.toNat + alignStep sz.toNat) % 2^64 := by
  have h7 : (7#64) = BitVec.ofNat 64 (2^3 - 1) := by decide
  unfold tagScanNext alignStep
  rw [BitVec.toNat_add, h7, Firefly.Bits.toNat_and_not_lowmask]
  simp only [BitVec.toNat_setWidth, BitVec.toNat_add, BitVec.toNat_ofNat]
  have e : (sz.toNat + 7 % 2^64) % 2^64 % 2^32 % 2^64 = (sz.toNat + 7) % 2^32 := by
    rw [Nat.mod_mod_of_dvd _ (show 2^32 ∣ 2^64 by decide),
      Nat.mod_eq_of_lt (Nat.lt_trans (Nat.mod_lt _ (by decide)) (by decide))]
  rw [e, if_pos (Nat.lt_of_le_of_lt (Nat.div_mul_le_self _ 8) hpos)]

theorem tie_mmapEnd (p size : BitVec 64) : (mmapEnd p size).toNat = (p.toNat + size.toNat) % 2^64 := by
  simp [mmapEnd, BitVec.toNat_add]

theorem tie_mmapFirst (p : BitVec 64) : (mmapFirst p).toNat = (p.toNat + 8) % 2^64 := by
  simp [mmapFirst, BitVec.toNat_add]

/-- the entry stride comes from the tag's `entrySize`, nothing else -/
theorem tie_mmapNext (cur esz : BitVec 64) : (mmapNext cur esz).toNat = (cur.toNat + esz.toNat) % 2^64 := by
  simp [mmapNext, BitVec.toNat_add]

/-- the type test `entry.Type == 0 || entry.Type >= memUnknown` (the D3 operator) -/
theorem tie_mmapNeedsNorm (ty : BitVec 64) : mmapNeedsNorm ty = needsNorm ty.toNat := by
  unfold mmapNeedsNorm needsNorm
  have h0 : (ty = 0#64) ↔ ty.toNat = 0 := BitVec.toNat_inj.symm
  have h1 : (ty ≥ BitVec.ofNat 64 Firefly.Gen.C10.memUnknown) ↔ ty.toNat ≥ Firefly.Gen.C10.memUnknown := by
    rw [ge_iff_le, BitVec.le_def]
    simp [Firefly.Gen.C10.memUnknown]
  simp only [h0, h1]

end Firefly.Tie.C10
