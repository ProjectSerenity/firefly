import Firefly.Gen.C07Expr
import Firefly.Model.AddrSpace
import Firefly.Tie.Norm
/-!
Tie lemmas for C07: the integer expressions and guards that `tools/exprgen` regenerates from the Go
source on every run denote the terms the model is built from. A changed rounding, mask, shift or
comparison in `EarlyReserveRegion`, `MapRegion`, `IdentityMapRegion`, `PageFromAddress` or the
goruntime hooks changes `Gen/C07Expr.lean` and one of these stops checking.

Each lemma about one regenerated expression is proved by `tie7` (`tie_earlyReserve` puts two of them together;
`tie_gort_wraps` does its arithmetic once, by `tie_arith`).  `tie7` is `tie_same` of `Tie/Norm.lean` with this
file's definitions and
constants: first a syntactic normal form (model definitions unfolded, `a - b` as `a + -b` associated to the
right, shifts by a constant word as shifts by its value) in which most ways of writing the same expression
coincide, the regenerated term being literally the model's among them; otherwise the arithmetic normal form
(`toNat`, masks as `/ 2^k * 2^k`, shifts as `/ 2^k`, comparisons on `Nat`) closed by `omega`. So an
*equivalent* way of writing the Go expression (`&^ 4095` for `& ^(PageSize-1)`, `>> 12` for a mask followed by
the shift, `>= x+1` for `> x`) keeps the tie.
-/
namespace Firefly.Tie.C07
open Firefly.AddrSpace Firefly.Gen.C07Expr

private theorem kps : BitVec.ofNat 64 Firefly.Gen.C07.pageSize = 4096#64 := by decide
private theorem ksh : BitVec.ofNat 64 Firefly.Gen.C07.pageShift = 12#64 := by decide
private theorem m4095 : (4095#64 : BitVec 64) = BitVec.ofNat 64 (2^12 - 1) := by decide
private theorem e12 : (12#64 : BitVec 64).toNat = 12 := by decide
private theorem psh : Firefly.Gen.C07.pageShift = 12 := by decide

/-- `tie_same` with what this file adds to the normal form: the model's definitions and the generated page constants -/
macro "tie7" : tactic =>
  `(tactic| tie_same [roundUp, roundWraps, pageOf, pageSizeW, kps, ksh, psh, e12, m4095])

theorem tie_earlyReserve_wraps (size : W) : earlyReserveWraps size = roundWraps size := by
  unfold earlyReserveWraps; tie7
theorem tie_earlyReserve_round (size : W) : earlyReserveRound size = roundUp size := by
  unfold earlyReserveRound; tie7
theorem tie_mapRegion_wraps (size : W) : mapRegionWraps size = roundWraps size := by
  unfold mapRegionWraps; tie7
theorem tie_mapRegion_round (size : W) : mapRegionRound size = roundUp size := by
  unfold mapRegionRound; tie7
theorem tie_pageFromAddress (a : W) : pageFromAddress a = pageOf a := by
  unfold pageFromAddress; tie7

/-- `EarlyReserveRegion` as assembled from the regenerated guards and expressions is the model -/
theorem tie_earlyReserve (cursor size : W) :
    (if earlyReserveWraps size then none
     else if earlyReserveNoSpace (earlyReserveRound size) cursor then none
     else some (earlyReserveNewCursor cursor (earlyReserveRound size))) = earlyReserve cursor size := by
  unfold earlyReserve earlyReserveNoSpace earlyReserveNewCursor
  rw [tie_earlyReserve_wraps, tie_earlyReserve_round]
  simp only [decide_eq_true_eq]

theorem tie_mapRegion_pageCount (size : W) :
    mapRegionPageCount size = size >>> Firefly.Gen.C07.pageShift := by
  unfold mapRegionPageCount; tie7

theorem tie_identity_pageCount (size : W) :
    identityPageCount size = roundUp size >>> Firefly.Gen.C07.pageShift := by
  unfold identityPageCount; tie7

/-! goruntime's `sysReserve` / `sysMap` / `sysAlloc` (clients of the reservation) -/

theorem tie_gort_round (size : W) :
    gortReserveSize size = roundUp size ∧ gortMapSize size = roundUp size ∧ gortAllocSize size = roundUp size := by
  refine ⟨?_, ?_, ?_⟩
  · unfold gortReserveSize; tie7
  · unfold gortMapSize; tie7
  · unfold gortAllocSize; tie7

theorem tie_gort_mapStart (va : W) : gortMapStart va = roundUp va := by
  unfold gortMapStart; tie7

theorem tie_gort_pageCount (s : W) :
    gortMapPageCount s = s >>> Firefly.Gen.C07.pageShift ∧ gortAllocPageCount s = s >>> Firefly.Gen.C07.pageShift := by
  refine ⟨?_, ?_⟩
  · unfold gortMapPageCount; tie7
  · unfold gortAllocPageCount; tie7

/-- the overflow guard `regionSize < size` of the three hooks is the model's `roundWraps` -/
theorem tie_gort_wraps (size : W) :
    gortReserveWraps (roundUp size) size = roundWraps size ∧
    gortMapWraps (roundUp size) size = roundWraps size ∧
    gortAllocWraps (roundUp size) size = roundWraps size := by
  -- the arithmetic once, for any way of writing the comparison; the three hooks then only have to be that comparison
  have key : ∀ g : W → W → Bool, (∀ a b, g a b = decide (a < b)) → g (roundUp size) size = roundWraps size := by
    intro g hg
    have hs := size.isLt
    rw [hg]
    tie_arith [roundUp, roundWraps, pageSizeW, kps]
  refine ⟨key _ fun a b => ?_, key _ fun a b => ?_, key _ fun a b => ?_⟩
  · unfold gortReserveWraps; tie7
  · unfold gortMapWraps; tie7
  · unfold gortAllocWraps; tie7

end Firefly.Tie.C07
