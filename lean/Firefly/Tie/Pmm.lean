import Firefly.Gen.PmmExpr
import Firefly.Model.Pmm
import Firefly.Tie.Norm
/-!
Tie lemmas for the physical memory manager (C01, C02, C03): the integer expressions and guards
that `tools/exprgen` regenerates from `bitmap_allocator.go` and `bootmem_allocator.go` on every run
denote, under the no-wrap conditions of the property's domain, exactly the arithmetic the `Nat`
model `Firefly.Pmm` is written with. A changed shift, mask, rounding or comparison in the Go source
changes `Gen/PmmExpr.lean` and one of these stops checking.

An expression with arithmetic in it goes through the normal form of `Tie/Norm.lean` (`tie_arith`; `tie_same` for two
regenerated terms that must agree; a guard by `tie_guard`, defined below: the same normal form up to polarity), so the
same script proves the lemma for any *equivalent* way of writing the Go expression (dropping a mask that the following
shift makes redundant, `>> 12` for `/ 4096`, …).  The others are proved directly: a constant by `decide`, `tie_freeIsFree` by
`rfl`, `tie_relFrame` by the core lemma, `tie_pageCount`, `tie_bootIgnore` and the assembly `tie_bootNext` by a `simp only`
of their own.
-/
namespace Firefly.Tie.Pmm
open Firefly.Pmm Firefly.Gen.PmmExpr

private theorem shift12 : BitVec.ofNat 64 Firefly.Gen.Pmm.pageShift = 12#64 := by decide
private theorem ePage : Firefly.Gen.Pmm.pageSize = 4096 := by decide

private theorem kpsz : BitVec.ofNat 64 Firefly.Gen.Pmm.pageSize = 4096#64 := by decide
private theorem n4096 : 4096 % 2 ^ 64 = 4096 := by decide
private theorem e4096 : (4096#64 : BitVec 64).toNat = 4096 := by decide
private theorem e12 : (12#64 : BitVec 64).toNat = 12 := by decide
private theorem e6 : (6#64 : BitVec 64).toNat = 6 := by decide
private theorem e3 : (3#64 : BitVec 64).toNat = 3 := by decide

theorem tie_pageSizeMinus1 : rfPageSizeMinus1 = 4095#64 := by decide

/-- round-up of a region start: `regionFrames`' `start` and the boot allocator's `regionStartFrame` -/
theorem tie_regionStart (a : BitVec 64) (h : a.toNat + 4095 < 2^64) (len typ : Nat) :
    (rfStart a).toNat = regionStart { addr := a.toNat, len := len, typ := typ } ∧
    bootRegionStart a = rfStart a := by
  refine ⟨?_, ?_⟩
  · unfold rfStart regionStart; tie_arith [shift12, ePage, h]
  · unfold bootRegionStart rfStart; tie_same [shift12, ePage]

/-- round-down of a region end -/
theorem tie_regionEndExcl (a l : BitVec 64) (h : a.toNat + l.toNat < 2^64) (typ : Nat) :
    (rfEndExclusive a l).toNat = regionEndExcl { addr := a.toNat, len := l.toNat, typ := typ } := by
  unfold rfEndExclusive regionEndExcl; tie_arith [shift12, ePage, h]

theorem tie_bootRegionEnd (a l : BitVec 64) (h : a.toNat + l.toNat < 2^64) :
    bootRegionEnd a l = rfEndExclusive a l - 1#64 := by
  unfold bootRegionEnd rfEndExclusive; tie_same [shift12, ePage]

/-- A guard regenerated from an `if` is tied *up to polarity*: `if c { … }` and the guard-clause form
`if !c { continue }` are the same program when the branches are swapped with it, and a flipped
condition whose branches were NOT swapped changes every observation of the correspondence run. What
the lemma pins down is the arithmetic content of the comparison (which operands, strict or not). -/
def UpToNot (g : Bool) (p : Prop) [Decidable p] : Prop := g = decide p ∨ g = !decide p

/-- which of the two polarities the source has is not for the proof to say: a guard-clause rewrite flips it -/
macro "tie_guard" : tactic => `(tactic| first | (left; tie_bool []) | (right; tie_bool []))

theorem tie_noFrame (e s : BitVec 64) : UpToNot (rfNoFrame e s) (e.toNat ≤ s.toNat) := by
  unfold rfNoFrame UpToNot; tie_guard

theorem tie_poolContains (f s e : BitVec 64) :
    UpToNot (poolContains f s e) (s.toNat ≤ f.toNat ∧ f.toNat ≤ e.toNat) := by
  unfold poolContains UpToNot; tie_guard

/-- kernel frame bounds of `BootMemAllocator.init` -/
theorem tie_kernelFrames (ks ke : BitVec 64) (h : ke.toNat + 4095 < 2^64) (hpos : 0 < ke.toNat) :
    (bootKernelStartFrame ks).toNat = (bootInit ks.toNat ke.toNat).kStart ∧
    (bootKernelEndFrame ke).toNat = (bootInit ks.toNat ke.toNat).kEnd := by
  unfold bootKernelStartFrame bootKernelEndFrame bootInit
  constructor
  · tie_arith [shift12, ePage]
  · tie_arith [shift12, ePage, h]

/-- `markFrame` / `FreeFrame`: word index and MSB-first bit mask of a pool-relative frame -/
theorem tie_block (rel : BitVec 64) : (markBlock rel).toNat = rel.toNat / 64 ∧ freeBlock rel = markBlock rel := by
  refine ⟨?_, ?_⟩
  · unfold markBlock; tie_arith []
  · unfold freeBlock markBlock; tie_same []

theorem tie_mask (rel : BitVec 64) :
    markMask rel (markBlock rel) = bitMask rel.toNat ∧ freeMask rel (freeBlock rel) = bitMask rel.toNat := by
  have key : (63#64 - (rel - (rel >>> 6#64) <<< 6#64)).toNat = 63 - rel.toNat % 64 := by
    have := rel.isLt
    tie_arith []
  have hm : markMask rel (markBlock rel) = bitMask rel.toNat := by
    unfold markMask markBlock bitMask
    rw [BitVec.shiftLeft_eq', key]; rfl
  exact ⟨hm, hm⟩

theorem tie_relFrame (f s : BitVec 64) (h : s.toNat ≤ f.toNat) :
    (markRelFrame f s).toNat = f.toNat - s.toNat ∧ freeRelFrame f s = markRelFrame f s := by
  refine ⟨?_, rfl⟩
  unfold markRelFrame
  rw [BitVec.toNat_sub_of_le (BitVec.le_def.2 h)]

theorem tie_freeIsFree (w m : BitVec 64) : freeIsFree w m = decide (w &&& m = 0) := rfl

/-- the frame `AllocFrame` returns for word `blk`, bit offset `off` of a pool starting at `s` -/
theorem tie_allocFrameResult (s blk off : BitVec 64)
    (h : s.toNat + (blk.toNat * 64 + off.toNat) < 2^64) :
    (allocFrameResult s blk off).toNat = s.toNat + (blk.toNat * 64 + off.toNat) := by
  unfold allocFrameResult; tie_arith [h]

/-- bitmap sizing: `pageCount`, `freeCount`, bytes of bitmap per pool -/
theorem tie_pageCount (e s : BitVec 64) (h : s.toNat ≤ e.toNat) (hsm : e.toNat - s.toNat + 1 < 2^32) :
    (setupPageCount e s).toNat = e.toNat - s.toNat + 1 ∧ setupFreeCount e s = setupPageCount e s ∧
    (setupFreeCount e s).toNat = (mkPool s.toNat e.toNat).freeCount := by
  have h1 : (setupPageCount e s).toNat = e.toNat - s.toNat + 1 := by
    unfold setupPageCount
    simp only [BitVec.toNat_setWidth, BitVec.toNat_add, BitVec.toNat_sub_of_le (BitVec.le_def.2 h)]
    have := e.isLt
    simp
    omega
  refine ⟨h1, rfl, ?_⟩
  show (setupPageCount e s).toNat = u32 (e.toNat - s.toNat + 1)
  rw [h1]; unfold u32; omega

theorem tie_bitmapBytes (e s : BitVec 64) (h : s.toNat ≤ e.toNat) (hsm : e.toNat - s.toNat + 1 < 2^32) :
    (setupBitmapBytes e s).toNat = wordsFor (e.toNat - s.toNat + 1) * 8 := by
  have hd : (2^64 - s.toNat + e.toNat) % 2^64 = e.toNat - s.toNat := by have := e.isLt; omega
  have h1 : e.toNat - s.toNat + 1 < 2^64 := by omega
  have h2 : e.toNat - s.toNat + 1 + 63 < 2^64 := by omega
  unfold setupBitmapBytes wordsFor; tie_arith [hd, h1, h2]

theorem tie_requiredPages (n sz bm : BitVec 64) (h : n.toNat * sz.toNat + bm.toNat + 4095 < 2^64) :
    (setupRequiredPages n sz bm).toNat = (n.toNat * sz.toNat + bm.toNat + 4095) / 4096 := by
  have h1 : n.toNat * sz.toNat < 2^64 := by omega
  have h2 : n.toNat * sz.toNat + bm.toNat < 2^64 := by omega
  unfold setupRequiredPages; tie_arith [shift12, ePage, h, h1, h2]

theorem tie_requiredBytes (n sz bm : BitVec 64) (h : n.toNat * sz.toNat + bm.toNat + 4095 < 2^64) :
    (setupRequiredBytes n sz bm).toNat = (n.toNat * sz.toNat + bm.toNat + 4095) / 4096 * 4096 := by
  have h1 : n.toNat * sz.toNat < 2^64 := by omega
  have h2 : n.toNat * sz.toNat + bm.toNat < 2^64 := by omega
  unfold setupRequiredBytes; tie_arith [shift12, ePage, h, h1, h2]

/-! guards of `BootMemAllocator.AllocFrame` -/

theorem tie_bootIgnore (t l : BitVec 64) :
    bootIgnoreRegion t l = decide (t.toNat ≠ Firefly.Gen.Pmm.memAvailable ∨ l.toNat < Firefly.Gen.Pmm.pageSize) := by
  unfold bootIgnoreRegion
  have e1 : (BitVec.ofNat 64 Firefly.Gen.Pmm.memAvailable).toNat = Firefly.Gen.Pmm.memAvailable := by decide
  have e2 : (BitVec.ofNat 64 Firefly.Gen.Pmm.pageSize).toNat = Firefly.Gen.Pmm.pageSize := by decide
  simp only [BitVec.lt_def, ne_eq, e2, Bool.decide_or]
  congr 1
  rw [decide_eq_decide]
  constructor
  · intro h hh; exact h (BitVec.eq_of_toNat_eq (by rw [hh, e1]))
  · intro h hh; exact h (by rw [hh, e1])

theorem tie_bootSkip (l e : BitVec 64) : UpToNot (bootSkipRegion l e) (l.toNat ≥ e.toNat) := by
  unfold bootSkipRegion UpToNot; tie_guard

theorem tie_bootPastEnd (l e : BitVec 64) : UpToNot (bootPastEnd l e) (l.toNat > e.toNat) := by
  unfold bootPastEnd UpToNot; tie_guard

/-- the three-way cursor update of `AllocFrame` over machine words; the two bounds keep `+ 1` from
wrapping -/
private theorem bootNext_words (l s k e ke ac : BitVec 64) (hl : l.toNat + 1 < 2^64)
    (hke : ke.toNat + 1 < 2^64) :
    (if bootJumpKernel l s k e then (if bootClampCond (bootJumpTarget ke) s then s else bootJumpTarget ke)
      else if bootEnterRegion l s ac then s else l + 1#64).toNat =
    bootNext ⟨ac.toNat, l.toNat, k.toNat, ke.toNat⟩ s.toNat e.toNat := by
  have tJT : (bootJumpTarget ke).toNat = ke.toNat + 1 := by unfold bootJumpTarget; tie_arith [hke]
  have tL1 : (l + 1#64).toNat = l.toNat + 1 := by tie_arith [hl]
  simp only [bootJumpKernel, bootClampCond, bootEnterRegion, bootNext, apply_ite BitVec.toNat,
    Bool.or_eq_true, Bool.and_eq_true, decide_eq_true_eq, BitVec.le_def, BitVec.lt_def, ← BitVec.toNat_inj,
    tJT, tL1, BitVec.toNat_ofNat, Nat.zero_mod]

/-- the three-way cursor update of `AllocFrame`, assembled from the regenerated guards, is the
model's `bootNext` -/
theorem tie_bootNext (b : Boot) (s e : Nat) (hl : b.last + 1 < 2^64) (hs : s < 2^64) (he : e < 2^64)
    (hks : b.kStart < 2^64) (hke : b.kEnd + 1 < 2^64) (hac : b.allocCount < 2^64) :
    (if bootJumpKernel (BitVec.ofNat 64 b.last) (BitVec.ofNat 64 s) (BitVec.ofNat 64 b.kStart) (BitVec.ofNat 64 e) then
        (if bootClampCond (bootJumpTarget (BitVec.ofNat 64 b.kEnd)) (BitVec.ofNat 64 s) then BitVec.ofNat 64 s
         else bootJumpTarget (BitVec.ofNat 64 b.kEnd))
      else if bootEnterRegion (BitVec.ofNat 64 b.last) (BitVec.ofNat 64 s) (BitVec.ofNat 64 b.allocCount)
        then BitVec.ofNat 64 s
      else BitVec.ofNat 64 b.last + 1#64).toNat = bootNext b s e := by
  have tL := Nat.mod_eq_of_lt (Nat.lt_of_succ_lt hl)
  have tKE := Nat.mod_eq_of_lt (Nat.lt_of_succ_lt hke)
  have := bootNext_words (BitVec.ofNat 64 b.last) (BitVec.ofNat 64 s) (BitVec.ofNat 64 b.kStart)
    (BitVec.ofNat 64 e) (BitVec.ofNat 64 b.kEnd) (BitVec.ofNat 64 b.allocCount)
    (by rw [BitVec.toNat_ofNat, tL]; exact hl) (by rw [BitVec.toNat_ofNat, tKE]; exact hke)
  simp only [BitVec.toNat_ofNat, tL, tKE, Nat.mod_eq_of_lt hs, Nat.mod_eq_of_lt he, Nat.mod_eq_of_lt hks,
    Nat.mod_eq_of_lt hac] at this
  exact this

end Firefly.Tie.Pmm
