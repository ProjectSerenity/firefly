import Firefly.Gen.C19Expr
import Firefly.Model.VgaText
import Firefly.Model.VesaFb
import Firefly.Tie.Norm
/-!
Tie lemmas for C19: the offset, clamp/clip, scroll-bound, cell-word and colour-range expressions
that `tools/exprgen` regenerates from `vga_text.go` / `vesa_fb.go` on every run denote the same
numbers as the terms the console models (`Model/VgaText.lean`, `Model/VesaFb.lean`: `Nat`
arithmetic reduced with `add32`/`sub32`/`mul32`) are built from.  A rewritten expression changes
`Gen/C19Expr.lean` and one of these stops checking.

`exprgen` renders every operand as `BitVec 64`; the Go code computes in `uint32`.  Sums, products
and differences are therefore compared on their low 32 bits (`lo`), which is exact because
truncation commutes with `+ - *`.  Ordered comparisons and divisions do not commute with
truncation: their lemmas carry the hypothesis that makes the 64-bit and the 32-bit value agree
(`1 ≤ x ≤ width` for the clip guards — the state after the clamp that precedes them —,
`offsetY ≤ height` for `SetFont`), stated explicitly each time.

The clamps and the guards go through the arithmetic normal form of `Tie/Norm.lean` (`tie_norm`, `tie_arith`,
`tie_bool`; `tie_same` where one guard is another written again), so any *equivalent* way of writing them
(`w - x + 1` for `w - (x - 1)`, a hoisted local, `>=` for `>` where the assignment is the identity at
equality) keeps the tie and a changed bound or comparison breaks it.
-/
namespace Firefly.Tie.C19
open Firefly.FbMem Firefly.Gen.C19Expr

/-- low 32 bits of a regenerated 64-bit term -/
def lo (x : BitVec 64) : Nat := x.toNat % 4294967296

theorem lo_add (a b : BitVec 64) : lo (a + b) = add32 (lo a) (lo b) := by
  simp only [lo, add32, BitVec.toNat_add]; omega
theorem lo_sub (a b : BitVec 64) : lo (a - b) = sub32 (lo a) (lo b) := by
  have := b.isLt
  simp only [lo, sub32, BitVec.toNat_sub]; omega
theorem lo_mul (a b : BitVec 64) : lo (a * b) = mul32 (lo a) (lo b) := by
  simp only [lo, mul32, BitVec.toNat_mul]
  rw [Nat.mod_mod_of_dvd _ (by decide : 4294967296 ∣ 2 ^ 64), Nat.mul_mod]
theorem lo_small (a : BitVec 64) (h : a.toNat < 4294967296) : lo a = a.toNat := Nat.mod_eq_of_lt h
/-- a conversion `uint32(x)` of a wider operand -/
private theorem lo_trunc (a : BitVec 64) : lo (BitVec.setWidth 64 (BitVec.setWidth 32 a)) = lo a := by
  simp only [lo, BitVec.toNat_setWidth]; omega
theorem lo_zero : lo 0#64 = 0 := by decide
theorem lo_one : lo 1#64 = 1 := by decide

/-- `((y + offsetY) * pitch) + (x * bytesPerPixel)` -/
theorem tie_fbOffset (y oy p x b : BitVec 64) (hy : y.toNat < 4294967296) (hoy : oy.toNat < 4294967296)
    (hp : p.toNat < 4294967296) (hx : x.toNat < 4294967296) (hb : b.toNat < 4294967296) :
    lo (fbOffset y oy p x b) =
      VesaFb.fbOffset { bpp := 0, bytesPerPixel := b.toNat, width := 0, height := 0, pitch := p.toNat, offsetY := oy.toNat }
        x.toNat y.toNat := by
  simp only [fbOffset, VesaFb.fbOffset, lo_add, lo_mul, lo_small _ hy, lo_small _ hoy, lo_small _ hp, lo_small _ hx, lo_small _ hb]

/-- the clamp — guards and assigned values together, as the function `x ↦ x'` it computes — is
`clampOrigin` (so `x >= w` and `x > w` are the same clamp: at `x = w` the assignment is the identity) -/
theorem tie_textFillClamp (x w : BitVec 64) :
    VgaText.clampOrigin x.toNat w.toNat =
      if textFillXZero x then 1 else if textFillXBeyond x w then w.toNat else x.toNat := by
  unfold VgaText.clampOrigin textFillXZero textFillXBeyond
  tie_norm [] <;> (repeat' split) <;> omega
theorem tie_textFillClampY (y h : BitVec 64) :
    VgaText.clampOrigin y.toNat h.toNat =
      if textFillYZero y then 1 else if textFillYBeyond y h then h.toNat else y.toNat := by
  unfold VgaText.clampOrigin textFillYZero textFillYBeyond
  tie_norm [] <;> (repeat' split) <;> omega
theorem tie_pixFillClamp (x w : BitVec 64) :
    VesaFb.clampOrigin x.toNat w.toNat =
      if pixFillXZero x then 1 else if pixFillXBeyond x w then w.toNat else x.toNat := by
  unfold VesaFb.clampOrigin pixFillXZero pixFillXBeyond
  tie_norm [] <;> (repeat' split) <;> omega
theorem tie_pixFillClampY (y h : BitVec 64) :
    VesaFb.clampOrigin y.toNat h.toNat =
      if pixFillYZero y then 1 else if pixFillYBeyond y h then h.toNat else y.toNat := by
  unfold VesaFb.clampOrigin pixFillYZero pixFillYBeyond
  tie_norm [] <;> (repeat' split) <;> omega

/-- `Fill` returns at once on an empty grid (and, for the pixel console, without a font) -/
theorem tie_fillEmptyGrid (w h font nil : BitVec 64) :
    textFillEmptyGrid w h = decide (w.toNat = 0 ∨ h.toNat = 0) ∧
    pixFillEmptyGrid font nil w h = (decide (font = nil) || decide (w.toNat = 0 ∨ h.toNat = 0)) := by
  constructor
  · unfold textFillEmptyGrid; tie_bool []
  · unfold pixFillEmptyGrid; tie_bool []

/-- the clipped extent `width - x + 1`: truncation commutes with `+` and `-` (`lo_add`, `lo_sub`), what
is left is 32-bit arithmetic — whichever equivalent way the extent is written -/
theorem tie_textFillClipW (w x : BitVec 64) (hw : w.toNat < 4294967296) (hx : x.toNat < 4294967296) :
    lo (textFillClipW w x) = add32 (sub32 w.toNat x.toNat) 1 := by
  simp (disch := assumption) only [textFillClipW, lo_add, lo_sub, lo_one, lo_small, add32, sub32] <;> omega
theorem tie_textFillClipH (h y : BitVec 64) (hh : h.toNat < 4294967296) (hy : y.toNat < 4294967296) :
    lo (textFillClipH h y) = add32 (sub32 h.toNat y.toNat) 1 := by
  simp (disch := assumption) only [textFillClipH, lo_add, lo_sub, lo_one, lo_small, add32, sub32] <;> omega
theorem tie_pixFillClipW (w x : BitVec 64) (hw : w.toNat < 4294967296) (hx : x.toNat < 4294967296) :
    lo (pixFillClipW w x) = add32 (sub32 w.toNat x.toNat) 1 := by
  simp (disch := assumption) only [pixFillClipW, lo_add, lo_sub, lo_one, lo_small, add32, sub32] <;> omega
theorem tie_pixFillClipH (h y : BitVec 64) (hh : h.toNat < 4294967296) (hy : y.toNat < 4294967296) :
    lo (pixFillClipH h y) = add32 (sub32 h.toNat y.toNat) 1 := by
  simp (disch := assumption) only [pixFillClipH, lo_add, lo_sub, lo_one, lo_small, add32, sub32] <;> omega

/-- the clip guard compares the extent with the room left — no sum of origin and extent, nothing
that can wrap (the repaired D9 expression).  `1 ≤ x ≤ width` is the state after the clamp. -/
theorem tie_fillClipGuard (e w x : BitVec 64) (hw : w.toNat < 4294967296) (hx : 1 ≤ x.toNat ∧ x.toNat ≤ w.toNat) :
    textFillClipWGuard e w x = decide (e.toNat > add32 (sub32 w.toNat x.toNat) 1) ∧
    textFillClipHGuard e w x = decide (e.toNat > add32 (sub32 w.toNat x.toNat) 1) ∧
    pixFillClipWGuard e w x = decide (e.toNat > add32 (sub32 w.toNat x.toNat) 1) ∧
    pixFillClipHGuard e w x = decide (e.toNat > add32 (sub32 w.toNat x.toNat) 1) := by
  have := e.isLt
  have hr : add32 (sub32 w.toNat x.toNat) 1 = w.toNat - x.toNat + 1 := by unfold add32 sub32; omega
  have g : textFillClipWGuard e w x = decide (e.toNat > add32 (sub32 w.toNat x.toNat) 1) := by
    rw [hr]; unfold textFillClipWGuard; tie_arith []
  -- the other three guards are the same decision as the first (mostly the same term)
  refine ⟨g, ?_, ?_, ?_⟩ <;> rw [← g]
  · unfold textFillClipHGuard textFillClipWGuard; tie_same []
  · unfold pixFillClipWGuard textFillClipWGuard; tie_same []
  · unfold pixFillClipHGuard textFillClipWGuard; tie_same []

/-- the clip uses exactly `VgaText.clipExtent` / `VesaFb.clipExtent` -/
theorem tie_clipExtent (e w x : BitVec 64) (hw : w.toNat < 4294967296) (hx : 1 ≤ x.toNat ∧ x.toNat ≤ w.toNat) :
    VgaText.clipExtent e.toNat w.toNat x.toNat = (if textFillClipWGuard e w x then lo (textFillClipW w x) else e.toNat) ∧
    VesaFb.clipExtent e.toNat w.toNat x.toNat = (if pixFillClipWGuard e w x then lo (pixFillClipW w x) else e.toNat) := by
  have g := tie_fillClipGuard e w x hw hx
  have hx' : x.toNat < 4294967296 := by omega
  rw [g.1, g.2.2.1, tie_textFillClipW w x hw hx', tie_pixFillClipW w x hw hx']
  simp only [VgaText.clipExtent, VesaFb.clipExtent, decide_eq_true_eq, and_self]

theorem tie_textFillRowOffset (y w x : BitVec 64) (hy : y.toNat < 4294967296) (hw : w.toNat < 4294967296)
    (hx : x.toNat < 4294967296) :
    lo (textFillRowOffset y w x) = add32 (mul32 (sub32 y.toNat 1) w.toNat) (sub32 x.toNat 1) := by
  simp only [textFillRowOffset, lo_add, lo_sub, lo_mul, lo_one, lo_small _ hy, lo_small _ hw, lo_small _ hx]

theorem tie_textFillNextRow (r w : BitVec 64) (hr : r.toNat < 4294967296) (hw : w.toNat < 4294967296) :
    lo (textFillNextRow r w) = add32 r.toNat w.toNat := by
  simp only [textFillNextRow, lo_add, lo_small _ hr, lo_small _ hw]

/-- `(((uint16(bg) << 4) | uint16(fg)) << 8) | ch`, as a 16-bit value, is `cellWord` -/
theorem tie_textWord (bg fg ch : BitVec 64) (hbg : bg.toNat < 256) (hfg : fg.toNat < 256) (hch : ch.toNat < 65536) :
    (textFillWord bg fg ch).toNat % 65536 = (VgaText.cellWord ch.toNat fg.toNat bg.toNat).toNat ∧
    (textWriteWord bg fg ch).toNat % 65536 = (VgaText.cellWord ch.toNat fg.toNat bg.toNat).toNat := by
  have h1 : bg.toNat <<< 4 < 2 ^ 12 := by rw [Nat.shiftLeft_eq]; omega
  have h2 : (bg.toNat <<< 4 ||| fg.toNat) < 2 ^ 12 := Nat.or_lt_two_pow h1 (by omega)
  simp (disch := omega) only [textFillWord, textWriteWord, VgaText.cellWord, BitVec.shiftLeft_eq', BitVec.toNat_or,
    BitVec.toNat_shiftLeft, BitVec.toNat_setWidth, BitVec.toNat_ofNat, UInt16.toNat_ofNat', Nat.mod_eq_of_lt, and_self]

/-- the out-of-grid test of `Write` -/
theorem tie_textWriteOutside (x w y h : BitVec 64) :
    textWriteOutside x w y h = decide (x.toNat < 1 ∨ x.toNat > w.toNat ∨ y.toNat < 1 ∨ y.toNat > h.toNat) := by
  unfold textWriteOutside; tie_bool []

/-- `uint8(len(palette) - 1)` and the two colour-range guards: both use `>` (the repaired D10 operator) -/
theorem tie_textWriteColors (len fg bg m : BitVec 64) :
    (textWriteMaxColor len).toNat = (len.toNat + 255) % 256 ∧
    textWriteFgGuard fg m = decide (fg.toNat > m.toNat) ∧ textWriteBgGuard bg m = decide (bg.toNat > m.toNat) := by
  refine ⟨?_, ?_, ?_⟩
  · have := len.isLt
    simp only [textWriteMaxColor, BitVec.toNat_setWidth, BitVec.toNat_sub, BitVec.toNat_ofNat]; omega
  · unfold textWriteFgGuard; tie_bool []
  · unfold textWriteBgGuard; tie_bool []

theorem tie_textScroll (lines h w : BitVec 64) (hl : lines.toNat < 4294967296) (hh : h.toNat < 4294967296)
    (hw : w.toNat < 4294967296) :
    textScrollIgnored lines h = decide (lines.toNat = 0 ∨ lines.toNat > h.toNat) ∧
    lo (textScrollOffset lines w) = mul32 lines.toNat w.toNat ∧
    lo (textScrollDownStart h w) = sub32 (mul32 h.toNat w.toNat) 1 := by
  refine ⟨?_, ?_, ?_⟩
  · unfold textScrollIgnored; tie_bool []
  · simp only [textScrollOffset, lo_mul, lo_small _ hl, lo_small _ hw]
  · simp only [textScrollDownStart, lo_sub, lo_mul, lo_one, lo_small _ hh, lo_small _ hw]

theorem tie_pixCell (x y e gw gh : BitVec 64) (hx : x.toNat < 4294967296) (hy : y.toNat < 4294967296)
    (he : e.toNat < 4294967296) (hgw : gw.toNat < 4294967296) (hgh : gh.toNat < 4294967296) :
    lo (pixFillPX x gw) = mul32 (sub32 x.toNat 1) gw.toNat ∧ lo (pixFillPY y gh) = mul32 (sub32 y.toNat 1) gh.toNat ∧
    lo (pixFillPW e gw) = mul32 e.toNat gw.toNat ∧ lo (pixFillPH e gh) = mul32 e.toNat gh.toNat ∧
    lo (pixWritePX x gw) = mul32 (sub32 x.toNat 1) gw.toNat ∧ lo (pixWritePY y gh) = mul32 (sub32 y.toNat 1) gh.toNat := by
  simp only [pixFillPX, pixFillPY, pixFillPW, pixFillPH, pixWritePX, pixWritePY, lo_mul, lo_sub, lo_one,
    lo_small _ hx, lo_small _ hy, lo_small _ he, lo_small _ hgw, lo_small _ hgh, and_self]

/-- the out-of-grid test of `Write` (plus the nil-font test, which the model does by a `match`) -/
theorem tie_pixWriteOutside (x w y h font nil : BitVec 64) :
    pixWriteOutside x w y h font nil =
      (decide (x.toNat < 1 ∨ x.toNat > w.toNat ∨ y.toNat < 1 ∨ y.toNat > h.toNat) || decide (font = nil)) := by
  unfold pixWriteOutside; tie_bool []

/-- `uint32(glyphIndex) * BytesPerRow * GlyphHeight` -/
theorem tie_pixWriteFontOffset (ch bpr gh : BitVec 64) (hch : ch.toNat < 4294967296) (hb : bpr.toNat < 4294967296)
    (hg : gh.toNat < 4294967296) :
    lo (pixWriteFontOffset ch bpr gh) = mul32 (mul32 ch.toNat bpr.toNat) gh.toNat := by
  simp only [pixWriteFontOffset, lo_mul, lo_trunc, lo_small _ hch, lo_small _ hb, lo_small _ hg]

/-- the rows handed to `fbOffset` by `Scroll`, `rowBytes`, and the row stepping of the two loops -/
theorem tie_pixScroll (lines gh oy h w b r p sz : BitVec 64) (hl : lines.toNat < 4294967296) (hgh : gh.toNat < 4294967296)
    (hoy : oy.toNat < 4294967296) (hh : h.toNat < 4294967296) (hw : w.toNat < 4294967296) (hb : b.toNat < 4294967296)
    (hr : r.toNat < 4294967296) (hp : p.toNat < 4294967296) :
    lo (pixScrollOffsetRow lines gh oy) = sub32 (mul32 lines.toNat gh.toNat) oy.toNat ∧
    lo (pixScrollRowBytes w b) = mul32 w.toNat b.toNat ∧
    lo pixScrollUpStartRow = 0 ∧
    lo (pixScrollUpEndRow h lines gh oy) = sub32 (sub32 h.toNat (mul32 lines.toNat gh.toNat)) oy.toNat ∧
    lo (pixScrollDownStartRow lines gh) = mul32 lines.toNat gh.toNat ∧
    lo (pixScrollUpNextRow r p) = add32 r.toNat p.toNat ∧
    lo (pixScrollDownFirstEnd sz) = sz.toNat % 4294967296 ∧
    lo (pixScrollDownNextEnd r p) = sub32 r.toNat p.toNat ∧
    lo (pixScrollDownRowStart r p) = sub32 r.toNat p.toNat := by
  have e : lo sz = sz.toNat % 4294967296 := rfl
  simp only [pixScrollOffsetRow, pixScrollRowBytes, pixScrollUpStartRow, pixScrollUpEndRow, pixScrollDownStartRow,
    pixScrollUpNextRow, pixScrollDownFirstEnd, pixScrollDownNextEnd, pixScrollDownRowStart, lo_add, lo_sub, lo_mul, lo_zero, lo_trunc, e,
    lo_small _ hl, lo_small _ hgh, lo_small _ hoy, lo_small _ hh, lo_small _ hw, lo_small _ hb, lo_small _ hr, lo_small _ hp,
    and_self]

/-- `SetFont`: `width / GlyphWidth` and `(height - offsetY) / GlyphHeight` (`offsetY ≤ height`: the
logo fits the screen — otherwise the 32-bit difference wraps, and so does the model's `sub32`) -/
theorem tie_setFont (w gw h oy gh : BitVec 64) (hh : h.toNat < 4294967296) (hoy : oy.toNat ≤ h.toNat) :
    (setFontCols w gw).toNat = w.toNat / gw.toNat ∧
    (setFontRows h oy gh).toNat = sub32 h.toNat oy.toNat / gh.toNat := by
  refine ⟨by simp only [setFontCols, BitVec.toNat_udiv], ?_⟩
  have := oy.isLt
  have e : (h - oy).toNat = sub32 h.toNat oy.toNat := by
    simp only [BitVec.toNat_sub, sub32]; omega
  simp only [setFontRows, BitVec.toNat_udiv, e]

/-- one component `uintN(v >> (8 - size)) << pos`: the regenerated 64-bit term (where `8 - size`
wraps at 64 bits) and the model's `component` (where it wraps at 8 bits, as in Go) agree on the
low `n` bits for every 8-bit `v`, `size`, and every `pos` -/
private theorem comp_tie (v s p : BitVec 64) (n : Nat) (hn : 8 ≤ n ∧ n ≤ 64) (hv : v.toNat < 256) (hs : s.toNat < 256) :
    ((BitVec.setWidth 64 (BitVec.setWidth n (v >>> (8#64 - s)))) <<< p).toNat % 2 ^ n =
      VesaFb.component v.toNat s.toNat p.toNat (2 ^ n) := by
  have hA : (v >>> (8#64 - s)).toNat = v.toNat >>> ((8 + (256 - s.toNat % 256)) % 256) := by
    rw [BitVec.ushiftRight_eq', BitVec.toNat_ushiftRight]
    have hk : (8#64 - s).toNat = (2 ^ 64 - s.toNat + 8) % 2 ^ 64 := by
      simp only [BitVec.toNat_sub, BitVec.toNat_ofNat]
    by_cases h8 : s.toNat ≤ 8
    · have e1 : (8#64 - s).toNat = 8 - s.toNat := by rw [hk]; omega
      have e2 : (8 + (256 - s.toNat % 256)) % 256 = 8 - s.toNat := by omega
      rw [e1, e2]
    · have z : ∀ k, 8 ≤ k → v.toNat >>> k = 0 := fun k hk8 =>
        Nat.shiftRight_eq_zero _ _ (Nat.lt_of_lt_of_le hv (Nat.pow_le_pow_right (n := 2) (i := 8) (by decide) hk8))
      rw [z _ (by rw [hk]; omega), z _ (by omega)]
  have hle : v.toNat >>> ((8 + (256 - s.toNat % 256)) % 256) ≤ v.toNat := Nat.shiftRight_le _ _
  have hpow : 2 ^ 8 ≤ 2 ^ n := Nat.pow_le_pow_right (by decide) hn.1
  have hpow' : 2 ^ n ≤ 2 ^ 64 := Nat.pow_le_pow_right (by decide) hn.2
  have m1 : v.toNat >>> ((8 + (256 - s.toNat % 256)) % 256) % 2 ^ n = v.toNat >>> ((8 + (256 - s.toNat % 256)) % 256) :=
    Nat.mod_eq_of_lt (by omega)
  have m2 : v.toNat >>> ((8 + (256 - s.toNat % 256)) % 256) % 2 ^ 64 = v.toNat >>> ((8 + (256 - s.toNat % 256)) % 256) :=
    Nat.mod_eq_of_lt (by omega)
  simp only [BitVec.shiftLeft_eq', BitVec.toNat_shiftLeft, BitVec.toNat_setWidth, hA, m1, m2, VesaFb.component]
  exact Nat.mod_mod_of_dvd _ (Nat.pow_dvd_pow 2 hn.2)

/-- `packColor16`: the `uint16` value `packed` is the model's `packed … 65536` for the palette
entry `(r, g, b)` and any mask layout -/
theorem tie_packed16 (r rs rp g gs gp b bs bp : BitVec 64)
    (hr : r.toNat < 256) (hg : g.toNat < 256) (hb : b.toNat < 256)
    (hrs : rs.toNat < 256) (hgs : gs.toNat < 256) (hbs : bs.toNat < 256) :
    (packed16 r rs rp g gs gp b bs bp).toNat % 2 ^ 16 =
      VesaFb.component r.toNat rs.toNat rp.toNat (2 ^ 16) ||| VesaFb.component g.toNat gs.toNat gp.toNat (2 ^ 16) |||
        VesaFb.component b.toNat bs.toNat bp.toNat (2 ^ 16) := by
  simp only [packed16, BitVec.toNat_or, Nat.or_mod_two_pow, comp_tie _ _ _ 16 (by decide) hr hrs,
    comp_tie _ _ _ 16 (by decide) hg hgs, comp_tie _ _ _ 16 (by decide) hb hbs]
  simp

/-- `packColor24`: the same with a 32-bit intermediate -/
theorem tie_packed24 (r rs rp g gs gp b bs bp : BitVec 64)
    (hr : r.toNat < 256) (hg : g.toNat < 256) (hb : b.toNat < 256)
    (hrs : rs.toNat < 256) (hgs : gs.toNat < 256) (hbs : bs.toNat < 256) :
    (packed24 r rs rp g gs gp b bs bp).toNat % 2 ^ 32 =
      VesaFb.component r.toNat rs.toNat rp.toNat (2 ^ 32) ||| VesaFb.component g.toNat gs.toNat gp.toNat (2 ^ 32) |||
        VesaFb.component b.toNat bs.toNat bp.toNat (2 ^ 32) := by
  simp only [packed24, BitVec.toNat_or, Nat.or_mod_two_pow, comp_tie _ _ _ 32 (by decide) hr hrs,
    comp_tie _ _ _ 32 (by decide) hg hgs, comp_tie _ _ _ 32 (by decide) hb hbs]
  simp

/-- … which is what the model's `packed` is made of -/
theorem tie_packed_model (c : VesaFb.Cons) (rgb : UInt8 × UInt8 × UInt8) (m : Nat) :
    VesaFb.packed c rgb m = VesaFb.component rgb.1.toNat c.rSize c.rPos m ||| VesaFb.component rgb.2.1.toNat c.gSize c.gPos m |||
      VesaFb.component rgb.2.2.toNat c.bSize c.bPos m := rfl

end Firefly.Tie.C19
